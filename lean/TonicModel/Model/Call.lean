import TonicModel.Model.Framing
import TonicModel.Model.Status
import TonicModel.Model.Metadata
/-
End-to-end model of one gRPC call through tonic (C02), as a COMPOSITION of the models that
already exist — nothing of them is re-modelled here:

  client  `client::Grpc::{unary, client_streaming, server_streaming, streaming}`  (client/grpc.rs)
            request.into_http + prepare_request      → `Metadata.requestWire`
            EncodeBody::new_client over the messages → `Framing.Enc.run` (client role)
  transport (request)   — the RELATION `ReqTransports`: headers intact, body bytes re-chunked
  server  `server::Grpc::{unary, client_streaming, server_streaming, streaming}`  (server/grpc.rs)
            request_encoding_if_supported            → `encodingCheck`
            map_request_unary / map_request_streaming over `Streaming::new_request`
                                                     → `Framing.Dec.pollNext` (request direction)
            the handler: a SCRIPT (`Script`)
            map_response / `Status::into_http`       → `Metadata.responseWire` / `Status.addHeader`
            EncodeBody::new_server                   → `Framing.Enc.run` (server role)
  transport (response)  — the RELATION `RespTransports`: status and headers intact, data bytes
            delivered as any re-chunking with any Pending pattern, the trailers after all data
  client  create_response (trailers-only detection, `new_empty` / `new_response`)
            `Streaming` with `Direction::Response`   → `Framing.Dec.pollNext` (response direction)
            `client_streaming`'s wrapper: first message, "Missing response message", trailer merge

The framing model keeps of a `Status` only a code and the site that produced it (`Framing.St`),
and of a trailers block only its `grpc-status` (`Framing.Tr`).  The encoder and the decoder pass
statuses and trailers through untouched, so the call model lets the framing model carry these
projections and puts the full value back where the framing model hands the projection out
(`trailersOfSt`, `respErr`): a body has exactly one trailers frame and a script at most one status,
so the projection identifies the value.  That the two views agree for every trailers block and HTTP
status is the property theorem `C02_status_views_agree` (with `http_map` of `Lemmas/CallEnd.lean`).

Compression is off at both ends (what `server::Grpc::new` / `client::Grpc::new` give); the
`grpc-encoding` header is still examined, as the code does.  Follows the tree with the `fix:`
commits listed in known_findings.json (`Status.Variant.fixed`).
-/
namespace Call
open Framing

abbrev FSt := Status.St

/-! ### statuses tonic itself produces along the way -/

def ascii (s : String) : Bytes := HMap.name s

def mkSt (c : Status.Code) (msg : Bytes) : FSt := { code := c, message := msg, details := [], metadata := [] }

/-- `Status::internal("Missing request message.")` -/
def missingRequest : FSt := mkSt .internal (ascii "Missing request message.")
/-- `Status::internal("Missing response message.")` -/
def missingResponse : FSt := mkSt .internal (ascii "Missing response message.")

/-- the (prefix of the) message text of the statuses produced inside encode.rs / decode.rs, by
site.  `deMsg` is the text of the codec's own decode error (the codec is a parameter). -/
def clsText (deMsg : Bytes) : Cls → Bytes
  | .ok => []
  | .user => []
  | .tooLargeEnc => ascii "Error, encoded message length too large"
  | .over4G => ascii "Cannot return body with more than 4GB of data"
  | .encode => ascii "Error encoding: "
  | .badFlag => ascii "protocol error: received message with invalid compression flag"
  | .noEncoding => ascii "protocol error: received message with compressed-flag but no grpc-encoding was specified"
  | .tooLargeDec => ascii "Error, decoded message length too large"
  | .decompress => ascii "Error decompressing"
  | .codec => deMsg
  | .eof => ascii "Unexpected EOF decoding stream."
  | .http => ascii "grpc-status header missing, mapped from HTTP status code "

/-- the full status behind a framing-level status produced by tonic itself -/
def fullOf (deMsg : Bytes) (st : Framing.St) : FSt := mkSt (Status.Code.ofNum st.code) (clsText deMsg st.cls)

def GRPC_ENCODING : Bytes := HMap.name "grpc-encoding"
def GRPC_ACCEPT_ENCODING : Bytes := HMap.name "grpc-accept-encoding"
def IDENTITY : Bytes := HMap.name "identity"

/-- the `Err` of `CompressionEncoding::from_encoding_header` when nothing is enabled -/
def unsupportedEncoding (v : Bytes) : FSt :=
  { code := .unimplemented,
    message := ascii "Content is compressed with `" ++ v ++ ascii "` which isn't supported",
    details := [], metadata := [(GRPC_ACCEPT_ENCODING, IDENTITY)] }

/-- `CompressionEncoding::from_encoding_header(headers, none enabled)`: `none` = `Ok(None)` -/
def encodingCheck (h : HMap) : Option FSt :=
  match HMap.get GRPC_ENCODING h with
  | none => none
  | some v => if v = IDENTITY then none else some (unsupportedEncoding v)

/-! ### what the two sides of the application do -/

/-- A message source as a schedule: `some m` = `Ready(Some(m))`, `none` = `Pending`. -/
abbrev Sched (α : Type) := List (Option α)

def Sched.msgs (s : Sched α) : List α := s.filterMap id

/-- The caller: metadata and the request message stream (`[some m]` for the unary-request shapes). -/
structure CallReq (α : Type) where
  md : HMap
  msgs : Sched α

/-- The handler: either it returns `Err(early)`, or a `Response` with metadata `initMd` whose
message stream yields `body` (with its `Pending`s) and then ends, normally (`final = none`) or
with `Err(st)`.  A handler of a unary-response shape returns one message: `body = [some m]`,
`final = none`.  For streaming-request shapes it first calls `message()` at most `reads` times. -/
structure Script (α : Type) where
  early : Option FSt
  initMd : HMap
  body : Sched α
  final : Option FSt
  reads : Nat

/-- What the handler was given. -/
inductive Seen (α : Type)
  | notCalled
  | unary (md : HMap) (m : α)
  /-- metadata, the messages its `message()` calls returned, and how the reading ended:
  `none` = it stopped asking, `some none` = `Ok(None)`, `some (some st)` = `Err(st)` -/
  | stream (md : HMap) (msgs : List α) (ended : Option (Option FSt))
deriving Repr

/-! ### HTTP messages and the transport -/

/-- One poll of a server body, trailers in full. -/
inductive RFrame
  | data (b : Bytes)
  | trailers (h : HMap)
  | pending
  | none
deriving DecidableEq, Repr

structure HttpReq where
  headers : HMap
  body : List FrameOut        -- successive polls of the client's `EncodeBody`

structure HttpResp where
  status : Nat
  headers : HMap
  body : List RFrame          -- successive polls of the response body (`[]` = `Body::empty()`)
deriving Repr

def reqData (b : List FrameOut) : Bytes :=
  (b.map (fun | .data d => d | _ => [])).flatten

def reqFailed (b : List FrameOut) : Bool :=
  b.any (fun | .err _ => true | .trailers _ => true | _ => false)

def respData (b : List RFrame) : Bytes :=
  (b.map (fun | .data d => d | _ => [])).flatten

def respTrailers (b : List RFrame) : List HMap :=
  b.filterMap (fun | .trailers h => some h | _ => Option.none)

/-- What the receiving side's HTTP layer hands over: the body as a sequence of polls
(`some chunk` = a data frame, `none` = `Pending`), after which the body is over.  A request
carries no trailers. -/
structure ReqDelivery where
  headers : HMap
  chunks : List (Option Bytes)

/-- Likewise for a response; the trailers frame, if any, comes after all data — this ordering
is the stated assumption about hyper/h2 and is built into the type. -/
structure RespDelivery where
  status : Nat
  headers : HMap
  chunks : List (Option Bytes)
  trailers : Option HMap
deriving Repr

def chunkData (cs : List (Option Bytes)) : Bytes := (cs.filterMap id).flatten

/-- **Transport relation, request direction**: headers intact; the body bytes are those the
client's body produced, cut anywhere, with `Pending`s anywhere; the client's body did not fail. -/
def ReqTransports (sent : HttpReq) (got : ReqDelivery) : Prop :=
  got.headers = sent.headers ∧ chunkData got.chunks = reqData sent.body ∧ reqFailed sent.body = false

/-- **Transport relation, response direction**: status and headers intact; the data bytes are
those of the server body's data frames, cut anywhere, with `Pending`s anywhere; the trailers
frame the server body produced (at most one) is delivered intact, after the data. -/
def RespTransports (sent : HttpResp) (got : RespDelivery) : Prop :=
  got.status = sent.status ∧ got.headers = sent.headers ∧
  chunkData got.chunks = respData sent.body ∧ got.trailers = (respTrailers sent.body).head?

instance (sent : HttpReq) (got : ReqDelivery) : Decidable (ReqTransports sent got) := by
  unfold ReqTransports; exact inferInstance
instance (sent : HttpResp) (got : RespDelivery) : Decidable (RespTransports sent got) := by
  unfold RespTransports; exact inferInstance

/-! ### the framing layer as the call uses it -/

/-- Codec, the text of its decode error, the encoders' yield threshold, and the number of polls
after which a side gives up waiting (a hang; never reached when large enough). -/
structure Cfg (α : Type) where
  cd : Codec α
  deMsg : Bytes
  yieldThr : Nat
  fuel : Nat

def encCfg (c : Cfg α) (server : Bool) : EncCfg :=
  { comp := none, yieldThr := c.yieldThr, maxSize := none, server := server }

def srcOf (s : Sched α) : List (SrcEv α) := s.map (fun | some m => .item m | none => .pending)

/-- the `grpc-status` of a trailers block as the framing model sees it -/
def trOf (t : HMap) : Tr :=
  match Status.fromHeaderMap .fixed t with
  | some (.status st) => some st.code.num
  | _ => none

def chunkEvs (cs : List (Option Bytes)) : List BodyEv :=
  cs.map (fun | some c => .data c | none => .pending)

def reqEvs (d : ReqDelivery) : List BodyEv := chunkEvs d.chunks

def respEvs (d : RespDelivery) : List BodyEv :=
  chunkEvs d.chunks ++ (match d.trailers with | some t => [.trailers (trOf t)] | none => [])

/-- `stream.message().await` / `try_next().await`: poll until the stream is ready.
`.pending` as a result = still not ready after `fuel` polls. -/
def nextItem (cd : Codec α) (cfg : DecCfg) : Nat → DecSt → List BodyEv → DecSt × List BodyEv × Item α
  | 0, s, evs => (s, evs, .pending)
  | n + 1, s, evs =>
    match Dec.pollNext cd cfg s evs with
    | (s', evs', .pending) => nextItem cd cfg n s' evs'
    | r => r

/-- How a sequence of `message()` calls ended. -/
inductive Ended
  | open                     -- the caller stopped asking
  | done                     -- `Ok(None)`
  | err (st : Framing.St)    -- `Err(st)`
  | hang
deriving DecidableEq, Repr

/-- at most `k` calls of `message()`, stopping at the first `None` / `Err` -/
def readN (cd : Codec α) (cfg : DecCfg) (fuel : Nat) : Nat → DecSt → List BodyEv → List α × Ended × DecSt
  | 0, s, _ => ([], .open, s)
  | k + 1, s, evs =>
    match nextItem cd cfg fuel s evs with
    | (s', evs', .msg m) =>
      match readN cd cfg fuel k s' evs' with
      | (ms, e, s'') => (m :: ms, e, s'')
    | (s', _, .none) => ([], .done, s')
    | (s', _, .err st) => ([], .err st, s')
    | (s', _, .pending) => ([], .hang, s')

/-- `while stream.message().await?.is_some() {}` — as many calls as it takes; the number of
calls is bounded by the events plus the bytes still to be consumed, `fuel` stands for it -/
def drain (cd : Codec α) (cfg : DecCfg) (fuel : Nat) (s : DecSt) (evs : List BodyEv) : List α × Ended × DecSt :=
  readN cd cfg fuel fuel s evs

/-! ### client: sending -/

/-- `client::Grpc::streaming` up to `self.inner.call(request)`: `Request::into_http` with
`SanitizeHeaders::Yes`, `prepare_request`, and the body `EncodeBody::new_client(s.map(Ok))`
polled `npolls` times by the transport. -/
def clientRequest (c : Cfg α) (npolls : Nat) (r : CallReq α) : HttpReq :=
  { headers := Metadata.requestWire r.md,
    body := Enc.run c.cd (encCfg c false) npolls Enc.init (srcOf r.msgs) }

/-! ### server -/

def reqDecCfg : DecCfg := { enc := none, maxSize := none, dir := .request }

/-- `Status::into_http`: the trailers-only response -/
def statusIntoHttp (st : FSt) : HttpResp :=
  { status := 200,
    headers := match Metadata.errorResponseWire .fixed st with
      | .ok h => h
      | .error _ => [],           -- `unwrap()` of an `Err` that `add_header` never returns (C04_write_never_fails)
    body := [] }

/-- the `trailers` frame `EncodeBody` writes for the status the framing model shows as `st`:
`Status::ok("")`, the script's status handed through by `EncodedBytes`, or the status of a
failed `encode_item` -/
def trailersOfSt (c : Cfg α) (sc : Script α) (st : Framing.St) : HMap :=
  let full : FSt := match st.cls with
    | .ok => mkSt .ok []
    | .user => (sc.final.getD (mkSt .unknown []))
    | _ => fullOf c.deMsg st
  match Status.toHeaderMap .fixed full with
  | .ok h => h
  | .error _ => []

def decorate (c : Cfg α) (sc : Script α) : FrameOut → RFrame
  | .data b => .data b
  | .trailers st => .trailers (trailersOfSt c sc st)
  | .err st => .trailers (trailersOfSt c sc st)   -- not produced by a server-role body
  | .pending => .pending
  | .none => .none
  | .panic => .none   -- never produced (`Framing.compressPanics_false`)

/-- the stream a handler's `Response` carries: the script's for a streaming-response shape;
`tokio_stream::once(Ok(m))` for a unary-response shape -/
def handlerSrc (respStream : Bool) (sc : Script α) : List (SrcEv α) :=
  if respStream then
    srcOf sc.body ++ (match sc.final with
      | some st => [.err ⟨st.code.num, .user⟩]
      | none => [])
  else (sc.body.msgs.take 1).map .item

/-- `service.call(request).await` followed by `map_response`: `Err(status)` becomes
`status.into_http()`; `Ok(response)` becomes sanitised metadata + `content-type` and a
server-role `EncodeBody` over the stream, polled `npolls` times by the transport. -/
def handlerResponse (c : Cfg α) (npolls : Nat) (respStream : Bool) (sc : Script α) : HttpResp :=
  match sc.early with
  | some st => statusIntoHttp st
  | none =>
    { status := 200,
      headers := Metadata.responseWire sc.initMd,
      body := (Enc.run c.cd (encCfg c true) npolls Enc.init (handlerSrc respStream sc)).map (decorate c sc) }

/-- `map_request_unary`: `Err` = the status the call is answered with without reaching the
handler.  (A request delivery has no trailers, so `stream.trailers()` has nothing to merge.) -/
def mapRequestUnary (c : Cfg α) (d : ReqDelivery) : Except FSt (HMap × α) :=
  match encodingCheck d.headers with
  | some st => .error st
  | none =>
    match nextItem c.cd reqDecCfg c.fuel Dec.init (reqEvs d) with
    | (_, _, .err e) => .error (fullOf c.deMsg e)
    | (_, _, .none) => .error missingRequest
    | (_, _, .pending) => .error (mkSt .unknown (ascii "hang"))
    | (s1, evs1, .msg m) =>
      -- `stream.trailers().await?`: nothing cached yet, so the rest of the body is drained
      match drain c.cd reqDecCfg c.fuel s1 evs1 with
      | (_, .err e, _) => .error (fullOf c.deMsg e)
      | (_, .hang, _) => .error (mkSt .unknown (ascii "hang"))
      | (_, _, _) => .ok (d.headers, m)

def endedFull (deMsg : Bytes) : Ended → Option (Option FSt)
  | .open => none
  | .done => some none
  | .err st => some (some (fullOf deMsg st))
  | .hang => some (some (mkSt .unknown (ascii "hang")))

/-- One call on the server: what the handler saw, and the response handed to the transport.
`reqStream` / `respStream` say which of the four `server::Grpc` entry points serves the method. -/
def serve (c : Cfg α) (npolls : Nat) (reqStream respStream : Bool) (sc : Script α) (d : ReqDelivery) :
    Seen α × HttpResp :=
  if reqStream then
    -- `map_request_streaming`
    match encodingCheck d.headers with
    | some st => (.notCalled, statusIntoHttp st)
    | none =>
      match readN c.cd reqDecCfg c.fuel sc.reads Dec.init (reqEvs d) with
      | (ms, e, _) => (.stream d.headers ms (endedFull c.deMsg e), handlerResponse c npolls respStream sc)
  else
    match mapRequestUnary c d with
    | .error st => (.notCalled, statusIntoHttp st)
    | .ok (md, m) => (.unary md m, handlerResponse c npolls respStream sc)

/-! ### client: receiving -/

/-- What the client API returned. -/
inductive ClientObs (α : Type)
  /-- `Err(status)` from the call itself -/
  | err (st : FSt)
  /-- `Ok(Response<M>)` of `unary` / `client_streaming` -/
  | single (md : HMap) (m : α)
  /-- `Ok(Response<Streaming<M>>)` of `server_streaming` / `streaming`; then `message()` until
  `None` (`ended = none`) or `Err` (`ended = some st`); then `trailers()` -/
  | stream (md : HMap) (msgs : List α) (ended : Option FSt) (trailers : Option HMap)
  | hang
deriving Repr

/-- the status behind an error of the response stream -/
def respErr (deMsg : Bytes) (d : RespDelivery) (e : Framing.St) : FSt :=
  match e.cls with
  | .user =>
    match d.trailers.bind (Status.fromHeaderMap .fixed) with
    | some (.status st) => st
    | _ => fullOf deMsg e
  | .http => mkSt (Status.Code.ofNum e.code) (Status.inferMessage d.status)
  | _ => fullOf deMsg e

/-- `create_response`: `Err` = the call fails with that status; `Ok` = how the body is read -/
def createResponse (d : RespDelivery) : Except FSt DecCfg :=
  match encodingCheck d.headers with
  | some st => .error st
  | none =>
    match Status.fromHeaderMap .fixed d.headers with
    | some (.status st) =>
      if st.code ≠ .ok then .error st
      else .ok { enc := none, maxSize := none, dir := .empty }           -- `Streaming::new_empty`
    | some .panic => .error (mkSt .unknown (ascii "panic"))              -- not on the repaired tree
    | none => .ok { enc := none, maxSize := none, dir := .response d.status }

/-- `server_streaming` / `streaming`, then the caller reading the stream to its end -/
def clientStream (c : Cfg α) (d : RespDelivery) : ClientObs α :=
  match createResponse d with
  | .error st => .err st
  | .ok cfg =>
    match drain c.cd cfg c.fuel Dec.init (respEvs d) with
    | (ms, .done, s) => .stream d.headers ms none (match s.trailers with | some _ => d.trailers | none => none)
    | (ms, .err e, _) => .stream d.headers ms (some (respErr c.deMsg d e)) none
    | (_, _, _) => .hang

/-- `unary` / `client_streaming` (the wrapper around `streaming`) -/
def clientSingle (c : Cfg α) (d : RespDelivery) : ClientObs α :=
  match createResponse d with
  | .error st => .err st
  | .ok cfg =>
    match nextItem c.cd cfg c.fuel Dec.init (respEvs d) with
    | (_, _, .err e) =>
      -- `status.metadata_mut().merge(parts.clone())`
      let st := respErr c.deMsg d e
      .err { st with metadata := HMap.extend st.metadata d.headers }
    | (_, _, .none) => .err missingResponse
    | (_, _, .pending) => .hang
    | (s1, evs1, .msg m) =>
      -- `body.trailers().await?`: nothing cached yet; drain, then take the trailers
      match drain c.cd cfg c.fuel s1 evs1 with
      | (_, .err e, _) => .err (respErr c.deMsg d e)
      | (_, .done, s2) =>
        match s2.trailers, d.trailers with
        | some _, some t => .single (HMap.extend d.headers t) m       -- `parts.merge(trailers)`
        | _, _ => .single d.headers m
      | (_, _, _) => .hang

def clientReceive (c : Cfg α) (respStream : Bool) (d : RespDelivery) : ClientObs α :=
  if respStream then clientStream c d else clientSingle c d

/-! ### the same with `max_encoding_message_size(l)` configured (client `Grpc` / server `Grpc`) -/

def encCfgLim (c : Cfg α) (server : Bool) (l : Nat) : EncCfg := { encCfg c server with maxSize := some l }

/-- `clientRequest` of a client `Grpc` configured with `max_encoding_message_size(l)` -/
def clientRequestLim (c : Cfg α) (l npolls : Nat) (r : CallReq α) : HttpReq :=
  { headers := Metadata.requestWire r.md,
    body := Enc.run c.cd (encCfgLim c false l) npolls Enc.init (srcOf r.msgs) }

/-- `handlerResponse` of a server `Grpc` configured with `max_encoding_message_size(l)` -/
def handlerResponseLim (c : Cfg α) (l npolls : Nat) (respStream : Bool) (sc : Script α) : HttpResp :=
  match sc.early with
  | some st => statusIntoHttp st
  | none =>
    { status := 200,
      headers := Metadata.responseWire sc.initMd,
      body := (Enc.run c.cd (encCfgLim c true l) npolls Enc.init (handlerSrc respStream sc)).map (decorate c sc) }

end Call
