import TonicModel.Model.Health
import TonicModel.Spec.Health
import TonicModel.Lemmas.HealthSpec
import TonicModel.Lemmas.Health
import TonicModel.Lemmas.HealthPark
import TonicModel.Basic.HealthLin
import TonicModel.Lemmas.HealthLin
import TonicModel.Lemmas.HealthLife
import TonicModel.Lemmas.HealthLinRT
/-
C18 — Health service reports the latest status to Check and Watch.

Vocabulary.  `Health.step / exec / run` are the model of tonic-health/src/server.rs
(`Model/Health`); `answer ops op` is the model's answer to `op` after the history `ops`, and
`logOf ops` the log of `ops` with the model's answers (newest first).  `Spec.Health.*` is the
oracle that only scans such a log (`Spec/Health`): `current` = status of a name, `view h w` =
what the log says about the stream opened by the `w`-th Watch call (its name, the status at
subscription, the events since), `latest` = latest status of the stream's registration,
`lastReported` = the status the stream delivered last.
Operation sequences `ops : List Op` are arbitrary: any interleaving of `set`, `clear`, `check`,
`watch`, `next w`, `drop w`, of any length, over any names.
-/
namespace C18
open Health Spec.Health

/-! ## refinement -/

/-- Refinement: on every operation sequence the model of tonic-health answers exactly like the
reference interpreter, which keeps nothing but the log of past events and answers each call by
scanning it (Check = last set since the last clear; a stream delivers the latest status of its
registration when it has not delivered yet or an update came since, ends once cleared, waits
otherwise). -/
theorem C18_refines_oracle (ops : List Op) : Health.run init ops = Spec.Health.run [] ops :=
  (sim_run sim_init ops).1

/-- Every answer the model gives, on every operation sequence, passes the property's clauses
(`Spec.Health.clauses`: Check is the latest status / NOT_FOUND; a stream's delivery is a status
that was set, is the latest one, the first poll delivers; a stream is silent only when up to
date and registered; it ends only after a clear and after the undelivered status). -/
theorem C18_answers_allowed (ops : List Op) :
    allowedTrace [] (ops.zip (Health.run init ops)) = true :=
  allowedTrace_run sim_init ops

/-! ## Check -/

/-- Check, after any history: the status most recently set for that name since it was last
cleared (`Spec.Health.current` of the log), else NOT_FOUND. -/
theorem C18_check_is_current (ops : List Op) (n : Name) :
    answer ops (.check n) =
      (match current (logOf ops) n with
       | some s => Resp.status s
       | none => Resp.notFound) := by
  rw [answer_spec]; rfl

/-- … which is the most recently set status: after `set n s`, as long as `n` is neither set
again nor cleared, Check answers `s` — whatever happened before and whatever else happens. -/
theorem C18_check_after_set (pre post : List Op) (n : Name) (s : St)
    (hs : ∀ st, Op.set n st ∉ post) (hc : Op.clear n ∉ post) :
    answer (pre ++ .set n s :: post) (.check n) = .status s := by
  rw [C18_check_is_current, logOf_insert, current_log_quiet n _ post hs hc, current_cons_set,
    if_pos rfl]

/-- The empty name (the server as a whole) is SERVING until someone sets or clears it. -/
theorem C18_check_default_serving (ops : List Op)
    (hs : ∀ st, Op.set [] st ∉ ops) (hc : Op.clear [] ∉ ops) :
    answer ops (.check []) = .status .serving := by
  rw [C18_check_is_current, logOf_eq_log, current_log_quiet [] [] ops hs hc]
  rfl

/-- A name that was never set is NOT_FOUND. -/
theorem C18_check_never_set (ops : List Op) (n : Name) (hn : n ≠ [])
    (hs : ∀ st, Op.set n st ∉ ops) : answer ops (.check n) = .notFound := by
  rw [C18_check_is_current, logOf_eq_log, current_log_none n [] ops (if_neg hn) hs]

/-- A name that was cleared and not set since is NOT_FOUND (this includes the empty name). -/
theorem C18_check_after_clear (pre post : List Op) (n : Name) (hs : ∀ st, Op.set n st ∉ post) :
    answer (pre ++ .clear n :: post) (.check n) = .notFound := by
  rw [C18_check_is_current, logOf_insert,
    current_log_none n _ post (by rw [current_cons_clear, if_pos rfl]) hs]

/-! ## Watch: subscription -/

/-- Watch is accepted exactly when the name has a status (else NOT_FOUND, like Check). -/
theorem C18_watch_accepted_iff_registered (ops : List Op) (n : Name) :
    answer ops (.watch n) = if (current (logOf ops) n).isSome then .subscribed else .notFound := by
  rw [answer_spec]; rfl

/-- The stream opened by an accepted Watch call: as long as it is not dropped, the log's view of
it has the watched name, the status current at subscription as its start, and exactly the
operations issued since as its events.  (`w` = number of Watch calls before this one.) -/
theorem C18_stream_view (pre mid : List Op) (n : Name) (s0 : St)
    (hreg : current (logOf pre) n = some s0)
    (hmid : ∀ op ∈ mid, op ≠ Op.drop (numWatches (logOf pre))) :
    ∃ v, view (logOf (pre ++ .watch n :: mid)) (numWatches (logOf pre)) = some v ∧
      v.name = n ∧ v.start = s0 ∧ v.evs.map (·.1) = mid.reverse := by
  have h0 : view ((Op.watch n, answer pre (.watch n)) :: logOf pre) (numWatches (logOf pre))
      = some ⟨n, s0, []⟩ := by
    rw [view_cons_watch, if_pos rfl, hreg]; rfl
  obtain ⟨v, h1, h2, h3, h4⟩ := view_log_evs h0 mid hmid
  exact ⟨v, by rw [logOf_insert]; exact h1, h2, h3, by simpa using h4⟩

/-! ## Watch: what a poll of a stream answers

In the theorems below `v` is the log's view of stream `w` after `ops` (`C18_stream_view` says
what it is in terms of `ops`); "cleared" means `Op.clear v.name` occurs among the stream's
events, i.e. after the subscription. -/

/-- The first poll of a stream always delivers, and what it delivers is the latest status of
its registration … -/
theorem C18_watch_first_poll_delivers (ops : List Op) (w : Nat) (v : View)
    (hv : view (logOf ops) w = some v) (hfirst : ∀ r, (Op.next w, r) ∉ v.evs) :
    answer ops (.next w) = .value (latest v.name v.start v.evs) := by
  rcases answer_next ops hv with ⟨hs, -⟩ | ⟨-, ha⟩
  · obtain ⟨e, he, hr⟩ := List.any_eq_true.mp hs.1
    obtain ⟨s, rfl⟩ := isReport_iff.mp hr
    exact absurd he (hfirst _)
  · exact ha

/-- … in particular the status current at subscription when no update came in between … -/
theorem C18_watch_first_report_at_subscription (pre mid : List Op) (n : Name) (s0 : St)
    (hreg : current (logOf pre) n = some s0)
    (hmid : ∀ op ∈ mid, op ≠ Op.drop (numWatches (logOf pre)) ∧
      op ≠ Op.next (numWatches (logOf pre)) ∧ (∀ st, op ≠ Op.set n st)) :
    answer (pre ++ .watch n :: mid) (.next (numWatches (logOf pre))) = .value s0 := by
  obtain ⟨v, hv, hn, hs, hevs⟩ := C18_stream_view pre mid n s0 hreg (fun op h => (hmid op h).1)
  have hmem : ∀ e ∈ v.evs, e.1 ∈ mid := by
    intro e he
    have : e.1 ∈ v.evs.map (·.1) := List.mem_map_of_mem he
    rw [hevs] at this; simpa using this
  rw [C18_watch_first_poll_delivers _ _ v hv
    (fun r hr => (hmid _ (hmem _ hr)).2.1 rfl)]
  rw [hn, hs, latest_of_no_set fun e he st => (hmid _ (hmem e he)).2.2 st]

/-- … and otherwise (updates before the first poll are coalesced) the status the name has at
the moment of the poll, as long as it has not been cleared. -/
theorem C18_watch_first_report_coalesced (ops : List Op) (w : Nat) (v : View)
    (hv : view (logOf ops) w = some v) (hfirst : ∀ r, (Op.next w, r) ∉ v.evs)
    (hopen : Op.clear v.name ∉ v.evs.map (·.1)) :
    ∃ cur, current (logOf ops) v.name = some cur ∧ answer ops (.next w) = .value cur :=
  ⟨_, (sim_logOf ops).latest_current hv (closed_of_not_mem hopen),
    C18_watch_first_poll_delivers ops w v hv hfirst⟩

/-- A stream never delivers a status that was not set for its name while its registration
lasted: whatever it delivers was either the name's status when the stream was opened, or was set
for that name afterwards at a moment before which the name had not been cleared since the
subscription (the log is newest first: `l = a ++ (set n s, r') :: b` with no `clear n` in `b`, the
events between the subscription and that `set`).  A status set only for a LATER registration of
the name (after a clear) is excluded. -/
theorem C18_watch_values_were_set (ops : List Op) (w : Nat) (s : St)
    (h : answer ops (.next w) = .value s) :
    ∃ l n r h0, logOf ops = l ++ (Op.watch n, r) :: h0 ∧ numWatches h0 = w ∧
      (current h0 n = some s ∨
        ∃ a r' b, l = a ++ (Op.set n s, r') :: b ∧ Op.clear n ∉ b.map (·.1)) := by
  rw [answer_spec] at h
  cases hv : view (logOf ops) w with
  | none => simp [expected, hv] at h
  | some v =>
    rw [expected_next hv] at h
    obtain ⟨h0, r, hsplit, hcur, hw⟩ := view_sound hv
    refine ⟨v.evs, v.name, r, h0, hsplit, hw, ?_⟩
    rcases mem_statuses_split (expectedNext_value h ▸ latest_mem_statuses v.name v.start v.evs)
      with h1 | ⟨a, r', b, hl, hb⟩
    · exact .inl (h1 ▸ hcur)
    · exact .inr ⟨a, r', b, hl, fun hmem => by rw [(closed_iff_mem _ _).mpr hmem] at hb; cases hb⟩

/-- The restriction in `C18_watch_values_were_set` has content: after
`set a NOT_SERVING; watch a; clear a; set a UNKNOWN` the status UNKNOWN was "set for that name after
the subscription", but only for a later registration — the stream delivers NOT_SERVING, the clause
rejects UNKNOWN, and the conclusion above does not hold for UNKNOWN (every `set a UNKNOWN` in the
stream's events has the `clear a` before it). -/
theorem C18_watch_values_were_set_excludes_later_registration :
    let ops : List Op := [.set [97] .notServing, .watch [97], .clear [97], .set [97] .unknown]
    answer ops (.next 0) = .value .notServing ∧
    allowed (logOf ops) (.next 0) (.value .unknown) = false ∧
    (∃ r', (Op.set [97] St.unknown, r') ∈ (logOf ops).take 2) ∧
    ¬ ∃ a r' b, (logOf ops).take 2 = a ++ (Op.set [97] St.unknown, r') :: b ∧
        Op.clear [97] ∉ b.map (·.1) := by
  refine ⟨by decide +kernel, by decide +kernel, ⟨.done, by decide +kernel⟩, ?_⟩
  rintro ⟨a, r', b, hl, hb⟩
  have hlog : (logOf [Op.set [97] .notServing, .watch [97], .clear [97], .set [97] .unknown]).take 2
      = [(Op.set [97] .unknown, .done), (Op.clear [97], .done)] := by decide +kernel
  rw [hlog] at hl
  -- the `set` is the newest event, so `b` holds the `clear`
  rcases a with _ | ⟨_, _ | ⟨_, _ | _⟩⟩ <;> cases hl
  exact hb List.mem_cons_self

/-- Convergence: while the name stays registered, a poll either delivers the name's current
status or — only if that is what the stream delivered last — reports nothing new. -/
theorem C18_watch_converges (ops : List Op) (w : Nat) (v : View)
    (hv : view (logOf ops) w = some v) (hopen : Op.clear v.name ∉ v.evs.map (·.1)) :
    ∃ cur, current (logOf ops) v.name = some cur ∧
      (answer ops (.next w) = .value cur ∨
       (answer ops (.next w) = .pending ∧ lastReported w v.evs = some cur)) := by
  have hcl := closed_of_not_mem hopen
  refine ⟨_, (sim_logOf ops).latest_current hv hcl, ?_⟩
  rcases answer_next ops hv with ⟨-, ha, hl⟩ | ⟨-, ha⟩
  · exact .inr ⟨by rw [ha, hcl]; rfl, hl⟩
  · exact .inl ha

/-- Once updates stop, one poll brings the stream up to date and from then on it stays silent:
after any poll, as long as the name is neither set nor cleared (and the stream not dropped),
every further poll is pending — whatever else happens (other names, other streams, checks). -/
theorem C18_watch_then_silent (ops q : List Op) (w : Nat) (v : View)
    (hv : view (logOf ops) w = some v) (hopen : Op.clear v.name ∉ v.evs.map (·.1))
    (hq : ∀ op ∈ q, op ≠ Op.drop w ∧ (∀ st, op ≠ Op.set v.name st) ∧ op ≠ Op.clear v.name) :
    answer (ops ++ .next w :: q) (.next w) = .pending := by
  rw [answer_next_after_next ops q hv fun op ho => ⟨(hq op ho).1, fun _ => (hq op ho).2⟩,
    closed_of_not_mem hopen]
  rfl

/-- Clearing a name ends its streams after any status they had not yet delivered: once the
name is cleared a poll never reports "nothing new".  Either the stream is over — and then the
last status it delivered is the latest status of its registration (the one before the clear) —
or it delivers exactly that latest status, and only if it had not delivered anything yet or an
update came after its last delivery … -/
theorem C18_clear_ends_streams (ops : List Op) (w : Nat) (v : View)
    (hv : view (logOf ops) w = some v) (hcl : Op.clear v.name ∈ v.evs.map (·.1)) :
    (answer ops (.next w) = .ended ∧ lastReported w v.evs = some (latest v.name v.start v.evs)) ∨
    (answer ops (.next w) = .value (latest v.name v.start v.evs) ∧
      (hasReported w v.evs = false ∨ fresh v.name w v.evs = true)) := by
  have hc : closed v.name v.evs = true := (closed_iff_mem _ _).mpr hcl
  rcases answer_next ops hv with ⟨-, ha, hl⟩ | ⟨hs, ha⟩
  · exact .inl ⟨by rw [ha, hc]; rfl, hl⟩
  · exact .inr ⟨ha, not_settled hs⟩

/-- … and at most one status is delivered after the clear: after any poll of a cleared stream,
every further poll answers that the stream is over, whatever else happens (including the name
being registered again). -/
theorem C18_clear_then_ended (ops q : List Op) (w : Nat) (v : View)
    (hv : view (logOf ops) w = some v) (hcl : Op.clear v.name ∈ v.evs.map (·.1))
    (hq : ∀ op ∈ q, op ≠ Op.drop w) :
    answer (ops ++ .next w :: q) (.next w) = .ended := by
  have hc : closed v.name v.evs = true := (closed_iff_mem _ _).mpr hcl
  rw [answer_next_after_next ops q hv fun op ho => ⟨hq op ho, fun h => by rw [hc] at h; cases h⟩, hc]
  rfl

/-! ## awaiting watchers: no lost wake-up

A client that sits in `stream.message().await` is polled by nobody; it runs again only when the
waker it left in the watch channel is fired.  `Health.pstep` (Model/Health, "Awaiting
watchers") is the model of that: histories are lists of `Item`s — the operations above plus
`await w`, which spawns a task awaiting the next message of stream `w`; a task that finds
nothing is parked; `set` on an existing entry and `clear` notify the entry's channel and the
tasks parked on it poll again.  `pops items` is the sequential history (`step` operations,
oldest first) that `items` amounts to, `(pexec pinit items).parked` the streams held by parked
tasks afterwards. -/

/-- Transcription lemma.  After a history with awaiting watchers the table is the one the
sequential history `pops items` produces, and the answers recorded along the way (to operations,
to `await`s, to the polls of woken tasks) are those of `Health.run` on `pops items`; so the
refinement of the oracle and the clauses apply to every answer an awaiting task receives.
`pops items` is the operation-projection of the layer's own event list `pevents`, each event an
operation with `step`'s answer to it: the statement compares the parked layer with its own
bookkeeping and holds, with the same proof, for any table semantics `step`, any `chanOf` and any
wake-up rule `notified`, also one that never wakes anybody.  It says nothing about wake-ups: that
content is in `C18_parked_has_nothing_to_deliver`, `C18_parked_may_stay_parked` and
`C18_parked_watcher_is_woken`; that real tasks behave like `pstep` is carried by the `park` cases
of the correspondence run. -/
theorem C18_parked_is_sequential (items : List Item) :
    (pexec pinit items).h = exec init (pops items) ∧
    (pevents pinit items).map (·.2) = Health.run init (pops items) :=
  pexec_steps pinit items

/-- No lost wake-up, as an invariant: after any history, a task that is (still) parked has
nothing to receive — a poll of its stream at that moment would deliver nothing, and its stream
is not over.  So whatever made a stream deliverable also completed the task awaiting it. -/
theorem C18_parked_has_nothing_to_deliver (items : List Item) (w : Nat)
    (hw : w ∈ (pexec pinit items).parked) : answer (pops items) (.next w) = .pending := by
  have hq := (pinv_exec pinv_init items).quiet w hw
  unfold answer
  rw [← (pexec_sim items).1]
  exact (next_pending_iff _ _).mpr hq

/-- … in the oracle's words: staying parked is always justified by the property's clauses
(`mayStayParked`: "nothing to deliver" is an acceptable answer of the stream at that moment). -/
theorem C18_parked_may_stay_parked (items : List Item) (w : Nat)
    (hw : w ∈ (pexec pinit items).parked) : mayStayParked (logOf (pops items)) w = true := by
  have h := C18_parked_has_nothing_to_deliver items w hw
  rw [answer_spec] at h
  unfold mayStayParked
  rw [← h]
  exact allowed_expected _ _ (sim_logOf _).upToDate

/-- A parked watcher is woken.  Let a task be parked on stream `w` after any history `pre`, and
let `v` be what the log says about that stream (`v.name` the watched name).  Then
* a `set` of that name — to a different status *or to the one the stream delivered last* —
  completes the task by itself with the new status (it is in the item's `woken` list with
  `value st`, which is what a poll after the `set` answers, and it is no longer parked);
* a `clear` of that name completes it with end-of-stream. -/
theorem C18_parked_watcher_is_woken (pre : List Item) (w : Nat) (v : View)
    (hw : w ∈ (pexec pinit pre).parked) (hv : view (logOf (pops pre)) w = some v) :
    (∀ st, (w, .value st) ∈ (pstep (pexec pinit pre) (.op (.set v.name st))).2.woken ∧
        w ∉ (pstep (pexec pinit pre) (.op (.set v.name st))).1.parked ∧
        answer (pops pre ++ [.set v.name st]) (.next w) = .value st) ∧
    ((w, .ended) ∈ (pstep (pexec pinit pre) (.op (.clear v.name))).2.woken ∧
        w ∉ (pstep (pexec pinit pre) (.op (.clear v.name))).1.parked ∧
        answer (pops pre ++ [.clear v.name]) (.next w) = .ended) := by
  have hinv := pinv_exec pinv_init pre
  obtain ⟨hex, hsim⟩ := pexec_sim pre
  obtain ⟨wt, c, hwt, hc, hseen, hcl⟩ := hinv.quiet w hw
  obtain ⟨wt', c', hwt', hc', k⟩ := hsim.stream hv
  obtain rfl : wt = wt' := Option.some.inj (Option.some.inj (hwt.symm.trans hwt'))
  obtain rfl : c = c' := Option.some.inj (hc.symm.trans hc')
  have hl : lookup v.name (pexec pinit pre).h.reg = some wt.chan := k.live_reg hcl
  have key (o : Op) (r : Resp) (hn : ∀ w', o ≠ .next w') (hd : ∀ w', o ≠ .drop w')
      (hno : notified (pexec pinit pre).h o = some wt.chan)
      (hnext : (step (step (pexec pinit pre).h o).1 (.next w)).2 = r) (hr : r ≠ .pending) :
      (w, r) ∈ (pupdate (pexec pinit pre) o).2.1.woken ∧
        w ∉ (pupdate (pexec pinit pre) o).1.parked ∧ answer (pops pre ++ [o]) (.next w) = r := by
    have := woken_of_update hinv hw o hn hd hno (by simp only [chanOf, hwt]) hnext hr
    exact ⟨this.1, this.2, by unfold answer; rw [exec_append, ← hex]; exact hnext⟩
  exact ⟨fun st => key (.set v.name st) _ (by simp) (by simp) hl
      (next_after_set hwt hc hseen v.name st hl) (by simp),
    key (.clear v.name) _ (by simp) (by simp) hl (next_after_clear hwt hc hseen v.name hl) (by simp)⟩

/-! ## concurrent histories

The correspondence run also records histories of concurrent tasks and searches for a
linearization (`Basic/HealthLin`).  The search commits to a call whose answer is "read-only"
(a Check, a poll that delivered nothing, an operation on an empty slot) as soon as it is
enabled and accepted, instead of branching.  For the MODEL acceptor that loses no
linearization: such a call leaves the model state untouched (theorem below), so it can be moved
to the front of any linearization.  For the clause acceptor `Spec.Health.accept`, whose state is
the log and does grow on such calls, completeness of the commit rule is not proved.  Only
completeness is at stake: a wrong commit could cause a false `not-linearizable`, never an
unfounded `ok` — `C18_linearization_search_sound` excludes that for both acceptors. -/

/-- A call answered in a read-only way does not change the model state. -/
theorem C18_readonly_answers_keep_state (s : H) (op : Op)
    (h : Lin.readOnly op (step s op).2 = true) : (step s op).1 = s := by
  cases op with
  | set n st => cases hl : lookup n s.reg <;> simp only [step, hl] at h <;> cases h
  | clear n => cases hl : lookup n s.reg <;> simp only [step, hl] at h <;> cases h
  | watch n => cases hl : lookup n s.reg <;> simp only [step, hl] at h <;> cases h
  | check n => exact step_check s n
  | drop w =>
    by_cases hw : ∃ wt, s.watchers[w]? = some (some wt)
    · obtain ⟨wt, hw⟩ := hw
      rw [step_drop_some hw] at h; cases h
    · rw [step_drop_none fun wt e => hw ⟨wt, e⟩]
  | next w =>
    rcases step_next_cases s w with ⟨wt, c, hw, hc⟩ | hn
    · rw [step_next_some hw hc] at h ⊢
      by_cases hseen : wt.seen = some c.version
      · rw [if_pos hseen]
      · rw [if_neg hseen] at h; cases h
    · rw [hn]

/-- The search is sound: whenever it answers "yes" for a recorded history — against the model
(`Health.accept`) or against the property's clauses (`Spec.Health.accept`) — there is a
schedule of the recorded calls that keeps every task's own order, never places a call before the
HEAD (the oldest pending call) of another task if that head had returned before the call was
invoked (`Lin.minimal`), and along which the machine accepts every recorded answer (`Lin.Run`).
So an `ok` verdict on a concurrent history is never unfounded.  The full real-time condition —
with respect to EVERY pending call — needs the record's stamps to increase inside each task: see
`C18_linearization_respects_real_time` and `C18_linearization_needs_increasing_stamps`. -/
theorem C18_linearization_search_sound {σ : Type} (acc : σ → Op → Resp → Option σ)
    (nslots : σ → Nat) (s : σ) (ts : List Lin.Task)
    (h : Lin.linearizable acc nslots s ts = .yes) : Lin.Run acc nslots s ts :=
  Lin.linearizable_sound acc nslots s ts h

/-- **Real-time order, for records whose stamps increase.**  If inside every task the return
stamps do not decrease along the task's calls (`Lin.wellStamped`: what a task that makes its calls
one after the other and stamps them with a global clock records), then a "yes" of the search comes
with a schedule that keeps every task's own order, along which the machine accepts every recorded
answer, and that NEVER places a call before a call of another task that had returned before it was
invoked — for all pending calls, not only the heads (`Lin.RunRT`, `Lin.Enabled`).  The hypothesis is
about the record: the search does not check it, and neither does the driver. -/
theorem C18_linearization_respects_real_time {σ : Type} (acc : σ → Op → Resp → Option σ)
    (nslots : σ → Nat) (s : σ) (ts : List Lin.Task) (hw : Lin.wellStamped ts = true)
    (h : Lin.linearizable acc nslots s ts = .yes) : Lin.RunRT acc nslots s ts :=
  Lin.run_realtime acc nslots (Lin.linearizable_sound acc nslots s ts h) hw

/-- a record with inconsistent stamps: task A's first call (check `a`, [0,10]) carries a LATER return
stamp than its second (set `a` SERVING, [1,2]); task B's check `a` = NOT_FOUND runs during [5,6],
i.e. it was invoked after A's set had returned -/
def stampsBad : List Lin.Task :=
  [⟨[⟨.check [97], 5, 6, .notFound⟩], Lin.noSlot⟩,
   ⟨[⟨.check [97], 0, 10, .notFound⟩, ⟨.set [97] .serving, 1, 2, .done⟩], Lin.noSlot⟩]

/-- … and the hypothesis is needed.  On `stampsBad` (stamps that do not increase inside a task) the
search says `yes` against model and clauses — B's check is taken first because only the HEAD of
task A is looked at — although no schedule respecting real time for all pending calls exists
(`¬ RunRT`); with consistent stamps for the same calls the search says `no`. -/
theorem C18_linearization_needs_increasing_stamps :
    Lin.wellStamped stampsBad = false ∧
    Lin.linearizable Health.accept (fun s => s.watchers.length) init stampsBad = .yes ∧
    Lin.linearizable Spec.Health.accept Spec.Health.numWatches [] stampsBad = .yes ∧
    ¬ Lin.RunRT Health.accept (fun s => s.watchers.length) init stampsBad ∧
    Lin.linearizable Health.accept (fun s => s.watchers.length) init
      [⟨[⟨.check [97], 5, 6, .notFound⟩], Lin.noSlot⟩,
       ⟨[⟨.check [97], 0, 1, .notFound⟩, ⟨.set [97] .serving, 1, 2, .done⟩], Lin.noSlot⟩] = .no := by
  refine ⟨by decide +kernel, by decide +kernel, by decide +kernel, ?_, by decide +kernel⟩
  intro h
  cases h with
  | done h0 => exact absurd h0 (by decide)
  | step hp hen hacc hrest =>
    simp [Lin.picks, stampsBad] at hp
    rcases hp with ⟨rfl, rfl, rfl⟩ | ⟨rfl, rfl, rfl⟩
    · -- B's check first: A's set (not the head) had returned before it was invoked
      exact hen _ List.mem_cons_self ⟨.set [97] .serving, 1, 2, .done⟩ (by simp) (by decide)
    · -- A's check first
      have e : Health.accept init (.check [97]) .notFound = some init := rfl
      simp only [Lin.localise] at hacc
      rw [e] at hacc
      cases hacc
      cases hrest with
      | done h0 => exact absurd h0 (by decide)
      | step hp hen hacc hrest =>
        simp [Lin.picks, Lin.afterCall] at hp
        rcases hp with ⟨rfl, rfl, rfl⟩ | ⟨rfl, rfl, rfl⟩
        · -- then A's set: B's check = NOT_FOUND is no longer accepted
          simp only [Lin.localise] at hacc
          have e2 : ∃ s2, Health.accept init (.set [97] .serving) .done = some s2 ∧
              Health.accept s2 (.check [97]) .notFound = none := ⟨_, rfl, rfl⟩
          obtain ⟨s2, h2, h3⟩ := e2
          rw [h2] at hacc
          cases hacc
          cases hrest with
          | done h0 => exact absurd h0 (by decide)
          | step hp hen hacc hrest =>
            simp [Lin.picks, Lin.afterCall] at hp
            obtain ⟨rfl, rfl, rfl⟩ := hp
            simp only [Lin.localise] at hacc
            rw [h3] at hacc
            cases hacc
        · -- then B's check: A's set had returned before it was invoked
          exact hen _ List.mem_cons_self ⟨.set [97] .serving, 1, 2, .done⟩
            (by simp) (by decide)

/-! ## non-vacuity: the hypotheses above are met by concrete histories -/

example :
    view (logOf [.set [97] .notServing, .watch [97], .set [97] .serving, .clear [97], .set [97] .unknown]) 0
      = some ⟨[97], .notServing,
          [(.set [97] .unknown, .done), (.clear [97], .done), (.set [97] .serving, .done)]⟩ := by
  decide +kernel
-- the first poll delivers SERVING (the status before the clear, not the later UNKNOWN of the new
-- registration), the second poll says the stream is over
example :
    Health.run init [.set [97] .notServing, .watch [97], .set [97] .serving, .clear [97],
      .set [97] .unknown, .next 0, .next 0, .check [97]]
      = [.done, .subscribed, .done, .done, .done, .value .serving, .ended, .status .unknown] := by
  decide +kernel
-- hypotheses of `C18_watch_first_report_at_subscription` (`hreg`) …
example : current (logOf [.set [97] .serving]) [97] = some .serving ∧
    numWatches (logOf [.set [97] .serving]) = 0 := by decide +kernel
-- … and the theorem at a `mid` that sets another name, clears the name, checks it and watches it again
example : answer ([.set [97] .serving] ++ .watch [97] :: [.set [98] .unknown, .clear [97], .check [97], .watch [97]])
      (.next 0) = .value .serving :=
  C18_watch_first_report_at_subscription [.set [97] .serving]
    [.set [98] .unknown, .clear [97], .check [97], .watch [97]] [97] .serving (by decide +kernel)
    (by intro op h; simp at h; rcases h with rfl | rfl | rfl | rfl <;> simp)
-- `C18_watch_then_silent` with a busy `q` (another name set, another stream opened and polled)
example : answer ([.watch [], .next 0, .set [] .notServing] ++ .next 0 :: [.set [97] .serving, .watch [], .next 1, .next 0])
      (.next 0) = .pending :=
  C18_watch_then_silent _ [.set [97] .serving, .watch [], .next 1, .next 0] 0
    ⟨[], .serving, [(.set [] .notServing, .done), (.next 0, .value .serving)]⟩ (by decide +kernel) (by decide +kernel)
    (by intro op h; simp at h; rcases h with rfl | rfl | rfl | rfl <;> simp)
-- `C18_clear_ends_streams`: both disjuncts are reachable
example : answer [.watch [], .next 0, .clear []] (.next 0) = .ended := by decide +kernel
example : answer [.watch [], .next 0, .set [] .unknown, .clear []] (.next 0) = .value .unknown := by decide +kernel
-- `C18_linearization_respects_real_time`: `wellStamped` holds of the recorded history below
example : Lin.wellStamped
    [⟨[⟨.set [97] .serving, 2, 5, .done⟩], Lin.noSlot⟩,
     ⟨[⟨.watch [97], 0, 1, .subscribed⟩, ⟨.next 0, 1, 4, .value .serving⟩], Lin.noSlot⟩] = true := by decide +kernel
-- hypotheses of `C18_watch_converges` / `C18_watch_then_silent` (open stream with a delivery)
example : view (logOf [.watch [], .next 0, .set [] .notServing]) 0
    = some ⟨[], .serving, [(.set [] .notServing, .done), (.next 0, .value .serving)]⟩ := by decide +kernel
-- hypotheses of `C18_parked_watcher_is_woken`: `set a NOT_SERVING; watch a; next 0; await 0`
-- leaves a task parked on stream 0 (name `a`); `set a NOT_SERVING` again completes it
example : (pexec pinit [.op (.set [97] .notServing), .op (.watch [97]), .op (.next 0), .await 0]).parked = [0] ∧
    (view (logOf (pops [.op (.set [97] .notServing), .op (.watch [97]), .op (.next 0), .await 0])) 0).map (·.name)
      = some [97] := by decide +kernel
example : prun pinit [.op (.set [97] .notServing), .op (.watch [97]), .op (.next 0), .await 0,
      .op (.set [] .unknown), .op (.set [97] .notServing), .await 0, .op (.clear [97])]
    = [⟨.plain .done, []⟩, ⟨.plain .subscribed, []⟩, ⟨.plain (.value .notServing), []⟩, ⟨.parked, []⟩,
       ⟨.plain .done, []⟩, ⟨.plain .done, [(0, .value .notServing)]⟩, ⟨.parked, []⟩,
       ⟨.plain .done, [(0, .ended)]⟩] := by decide +kernel
-- a recorded concurrent history in which the delivery of SERVING overlaps the `set` is found
-- linearizable against the model
example :
    Lin.linearizable Health.accept (fun s => s.watchers.length)
      (exec init [.set [97] .notServing])
      [⟨[⟨.set [97] .serving, 2, 5, .done⟩], Lin.noSlot⟩,
       ⟨[⟨.watch [97], 0, 1, .subscribed⟩, ⟨.next 0, 1, 4, .value .serving⟩], Lin.noSlot⟩] = .yes := by
  decide +kernel
-- … and one in which the watcher's delivery had returned before the set was invoked is not
example :
    Lin.linearizable Health.accept (fun s => s.watchers.length)
      (exec init [.set [97] .notServing])
      [⟨[⟨.set [97] .serving, 5, 6, .done⟩], Lin.noSlot⟩,
       ⟨[⟨.watch [97], 0, 1, .subscribed⟩, ⟨.next 0, 1, 4, .value .serving⟩], Lin.noSlot⟩] = .no := by
  decide +kernel

/-! ## handles and independent pairs (audit aC18)

`life` histories: several `health_reporter()` pairs in one process, reporter and client handles
that are cloned, overwritten and dropped (all of them, too) between the health operations
(`Model/HealthLife`).  The process model keeps one table per pair and the set of handle
variables that hold a value; `effective p` reads, off the items addressed to pair `p` alone, the
health operations that happened on it. -/

/-- Transcription lemma.  In every `life` history, from the start of the process, the answers
pair `p` gets are those of one fresh table to the health operations that happened on `p`
(`effective p`) — whichever clone each went through, however many clones were made or dropped in
between (also when every reporter handle is gone), whether the client a stream came from still
exists, whatever was done to any other pair.  `effective p` (Model/HealthLife) reads those
operations with the same handle rule `sideStep` applies (same liveness test per variable, same
refusal to drop the last handle) and `lstep` touches only the addressed pair, so the equation
holds by construction of the process model, for any table semantics in the place of `Health.step`
and any initial table; there is no independent oracle for the handle rule.  That handles and
other pairs give tonic-health no behaviour (a dropped reporter does not clear the statuses,
clones share one table, pairs share nothing) was written into `sideStep` from the source and is
established by the `life` cases of the correspondence run, not by this theorem. -/
theorem C18_pair_is_own_history (p : Nat) (items : List LItem) :
    sideAnswers p (lrun linit items) = Health.run init (effective p liveInit liveInit items) :=
  (side_is_own_history p items linit).1

/-- Transcription lemma.  The table pair `p` ends with is the one a fresh table reaches on the
health operations that happened on `p`: the second half of `side_is_own_history`, definitional
for the same reason as `C18_pair_is_own_history` (it holds for any table semantics); the
assurance comes from the `life` cases. -/
theorem C18_pair_table_is_own_history (p : Nat) (items : List LItem) :
    ((lexec linit items) p).h = exec init (effective p liveInit liveInit items) :=
  (side_is_own_history p items linit).2

/-- Transcription lemma.  In every `life` history every pair's answers pass the property's
clauses and are the log-scanning oracle's: `C18_answers_allowed` and `C18_refines_oracle` at the
list `effective p …`, after rewriting with `C18_pair_is_own_history`; no content beyond those
three, and the handle / pair claim itself rests on the `life` cases of the correspondence run. -/
theorem C18_pair_answers_allowed (p : Nat) (items : List LItem) :
    allowedTrace [] ((effective p liveInit liveInit items).zip (sideAnswers p (lrun linit items))) = true ∧
    sideAnswers p (lrun linit items) = Spec.Health.run [] (effective p liveInit liveInit items) := by
  rw [C18_pair_is_own_history]
  exact ⟨C18_answers_allowed _, C18_refines_oracle _⟩

-- non-vacuity: pair 0 sets `a`, drops both reporter handles (a later set through an empty
-- variable does not happen), pair 1 never hears of `a`; pair 0 still answers NOT_SERVING.
example :
    lrun linit [⟨0, .rep 0 (.set [97] .notServing)⟩, ⟨0, .rdrop 0⟩, ⟨0, .rdrop 1⟩, ⟨0, .rep 1 (.set [97] .serving)⟩,
        ⟨1, .cli 0 (.check [97])⟩, ⟨0, .cli 1 (.check [97])⟩, ⟨0, .rclone 2 0⟩]
      = [(0, .eff .done), (0, .ok), (0, .ok), (0, .noh), (1, .eff .notFound), (0, .eff (.status .notServing)),
         (0, .noh)] := by
  decide +kernel
example :
    effective 0 liveInit liveInit [⟨0, .rep 0 (.set [97] .notServing)⟩, ⟨0, .rdrop 0⟩, ⟨0, .rdrop 1⟩,
        ⟨0, .rep 1 (.set [97] .serving)⟩, ⟨1, .cli 0 (.check [97])⟩, ⟨0, .cli 1 (.check [97])⟩]
      = [.set [97] .notServing, .check [97]] := by
  decide +kernel

end C18
