import TonicModel.Model.WebClient
import TonicModel.Spec.GrpcWeb
import TonicModel.Lemmas.GrpcWeb
import TonicModel.Lemmas.WebServer
import TonicModel.Lemmas.WebClient
import TonicModel.Lemmas.WebClientBlock
import TonicModel.Lemmas.WebCaller
import TonicModel.Lemmas.WebClientHead
import TonicModel.Lemmas.WebClientHints
import TonicModel.Lemmas.WebClientFuel
import TonicModel.Lemmas.WebClientHintsGen
import TonicModel.Props.C04
/-
C17 — grpc-web client layer recovers messages and full trailers under any chunking.

`WebClient.Fixed` is the client decode loop of tonic-web with the `fix:` commits applied (the
entries "fixed: property=C17" of known_findings.json: five for the loop, one for the hints; that
is what the correspondence run drives);
`WebClient.AsIs` is the loop at the pinned commit, kept for the `_fails` witnesses of DESIGN
§5.8.  `WebCaller` composes the loop with tonic's status codec (`Model/Status`): what the caller
of `client::Grpc` sees.  A body is the list of events its `poll_frame`
produces; `observe` is the list of frames the caller gets until the first `None` / error.
-/
namespace C17
open WebClient WebClientLemmas
open WebServer (BodyEv Out flat notPending)
open Spec.GrpcWeb (WellFramed framesBytes trailersFrame trailersBlock lowerNameOk plainValueOk Item)
open TMap (Pair str str_lit)

/-- **Lossless, full statement.**  For every list of message frames, every trailer list —
values may contain colons and spaces, names may repeat — written by the server in either
customary style (`name:value` or `name: value`), every way of cutting the encoded body into
chunks (inside a frame header, inside the trailers frame, message and trailers in one chunk,
empty chunks) and every interleaving of `Pending`s: the caller receives data frames whose
concatenation is exactly the message frames, then ONE trailers frame with every name and its
full value in the original order, then the end. -/
theorem C17_lossless (sp : Bool) (frames : List (Bool × Bytes)) (trailers : List Pair)
    (chunks : List Bytes) (evs : List BodyEv)
    (hsched : evs.filter notPending = chunks.map BodyEv.data)
    (hbody : chunks.flatten = framesBytes frames ++ trailersFrame sp trailers)
    (hframes : ∀ f ∈ frames, f.2.length < 4294967296)
    (htr : ∀ p ∈ trailers, lowerNameOk p.1 = true ∧ plainValueOk p.2 = true)
    (hlen : (trailersBlock sp trailers).length < 4294967296) :
    ∃ datas : List Bytes,
      Fixed.observe evs = datas.map Out.data ++ [Out.trailers trailers, Out.eos] ∧
      datas.flatten = framesBytes frames := by
  unfold Fixed.observe
  rw [run_filter, hsched]
  obtain ⟨datas, hrun, hflat⟩ := run_stream (trailersBlock sp trailers) (some trailers)
    (decode_trailersFrame sp trailers htr) hlen chunks frames [] hframes hbody
  exact ⟨datas, hrun, hflat rfl⟩

/-- `C17_lossless` for servers that write trailer names in any case (`Grpc-Status: 0`): the
names arrive in lower case (field names are case-insensitive), everything else as above. -/
theorem C17_lossless_any_case (sp : Bool) (frames : List (Bool × Bytes)) (trailers : List Pair)
    (chunks : List Bytes) (evs : List BodyEv)
    (hsched : evs.filter notPending = chunks.map BodyEv.data)
    (hbody : chunks.flatten = framesBytes frames ++ trailersFrame sp trailers)
    (hframes : ∀ f ∈ frames, f.2.length < 4294967296)
    (htr : ∀ p ∈ trailers, Spec.GrpcWeb.anyCaseNameOk p.1 = true ∧ plainValueOk p.2 = true)
    (hlen : (trailersBlock sp trailers).length < 4294967296) :
    ∃ datas : List Bytes,
      Fixed.observe evs = datas.map Out.data ++
        [Out.trailers (trailers.map (fun p => (Spec.GrpcWeb.lowerName p.1, p.2))), Out.eos] ∧
      datas.flatten = framesBytes frames := by
  unfold Fixed.observe
  rw [run_filter, hsched]
  obtain ⟨datas, hrun, hflat⟩ := run_stream (trailersBlock sp trailers) (some _)
    (decode_trailersFrame_any sp trailers htr) hlen chunks frames [] hframes hbody
  exact ⟨datas, hrun, hflat rfl⟩

/-- **The caller sees the server's real status.**  Under the hypotheses of `C17_lossless` (any
message frames, any trailers the server wrote — status, message, details, custom metadata, in
any order, names repeated —, either style, any chunking, any `Pending`s): the trailers map the
layer hands to tonic's `Streaming` is the server's, so the status tonic reads from it
(`Status::from_header_map`, percent-decoding, base64 details, code table: `Model/Status`) is the
status read from the server's trailers, and the call ends for the caller exactly as
`infer_grpc_status(server's trailers, 200)` says — with that status if it is a failing one,
cleanly with the trailers retrievable otherwise. -/
theorem C17_caller_sees_status (sp : Bool) (frames : List (Bool × Bytes)) (trailers : List Pair)
    (chunks : List Bytes) (evs : List BodyEv)
    (hsched : evs.filter notPending = chunks.map BodyEv.data)
    (hbody : chunks.flatten = framesBytes frames ++ trailersFrame sp trailers)
    (hframes : ∀ f ∈ frames, f.2.length < 4294967296)
    (htr : ∀ p ∈ trailers, lowerNameOk p.1 = true ∧ plainValueOk p.2 = true)
    (hlen : (trailersBlock sp trailers).length < 4294967296) :
    ∃ t, WebCaller.trailersOf (Fixed.observe evs) = some t ∧
      Status.fromHeaderMap .fixed t = Status.fromHeaderMap .fixed trailers ∧
      WebCaller.endOf (Fixed.observe evs) =
        (match Status.inferGrpcStatus .fixed (some trailers) 200 with
         | .done => WebCaller.End.ok (some trailers)
         | .noStatus => WebCaller.End.ok (some trailers)
         | .err st => WebCaller.End.status st
         | .panic => WebCaller.End.panic) := by
  obtain ⟨datas, hobs, _⟩ :=
    C17_lossless sp frames trailers chunks evs hsched hbody hframes htr hlen
  obtain ⟨_, h2, h3⟩ := WebCallerLemmas.view_of_clean datas trailers
  refine ⟨trailers, by rw [hobs, h2], rfl, ?_⟩
  have hne : ((List.map Out.data datas ++ [Out.trailers trailers, Out.eos]).getLast? == some Out.err) = false := by
    rw [h3]; rfl
  simp only [WebCaller.endOf, hobs, hne, Bool.false_eq_true, if_false, h2]
  cases Status.inferGrpcStatus .fixed (some trailers) 200 <;> rfl

/-- **… and that status is the INDEPENDENT oracle's reading of the server's trailers.**
`C17_caller_sees_status` compares two applications of the model's own status reader; composed with
`C04_read_is_spec` the caller's status is what `Spec.Status.read` — the oracle written from the gRPC
documents, sharing only the byte-level decoders with the model — reads from the trailers the server
wrote: the code the spec's table gives, the percent-decoded message, the base64-decoded details; an
error status (UNKNOWN) when one of them is undecodable; no status iff the server wrote no
`grpc-status`. -/
theorem C17_caller_status_is_the_spec_reading (sp : Bool) (frames : List (Bool × Bytes)) (trailers : List Pair)
    (chunks : List Bytes) (evs : List BodyEv)
    (hsched : evs.filter notPending = chunks.map BodyEv.data)
    (hbody : chunks.flatten = framesBytes frames ++ trailersFrame sp trailers)
    (hframes : ∀ f ∈ frames, f.2.length < 4294967296)
    (htr : ∀ p ∈ trailers, lowerNameOk p.1 = true ∧ plainValueOk p.2 = true)
    (hlen : (trailersBlock sp trailers).length < 4294967296) :
    ∃ t, WebCaller.trailersOf (Fixed.observe evs) = some t ∧
      match Spec.Status.read trailers, Status.fromHeaderMap .fixed t with
      | none, none => True
      | some r, some (.status st) =>
          (∀ m d, r.message = some m → r.details = some d →
            st.code.num = r.code ∧ st.message = m ∧ st.details = d) ∧
          ((r.message = none ∨ r.details = none) → st.code = .unknown)
      | _, _ => False := by
  obtain ⟨t, h1, h2, _⟩ := C17_caller_sees_status sp frames trailers chunks evs hsched hbody hframes htr hlen
  refine ⟨t, h1, ?_⟩
  rw [h2]
  have := C04.C04_read_is_spec trailers
  revert this
  cases Spec.Status.read trailers with
  | none =>
    cases Status.fromHeaderMap .fixed trailers with
    | none => intro _; trivial
    | some o => intro h; exact h.elim
  | some r =>
    cases Status.fromHeaderMap .fixed trailers with
    | none => intro h; exact h.elim
    | some o =>
      cases o with
      | status st => intro h; exact ⟨h.2.1, h.2.2⟩
      | panic => intro h; exact h.elim

/-- … and the messages the caller's `Streaming` cuts out of the delivered data are the
payloads the server framed (uncompressed frames, as a client without `grpc-encoding` gets). -/
theorem C17_caller_sees_messages (sp : Bool) (frames : List (Bool × Bytes)) (trailers : List Pair)
    (chunks : List Bytes) (evs : List BodyEv)
    (hsched : evs.filter notPending = chunks.map BodyEv.data)
    (hbody : chunks.flatten = framesBytes frames ++ trailersFrame sp trailers)
    (hframes : ∀ f ∈ frames, f.1 = false ∧ f.2.length < 4294967296)
    (htr : ∀ p ∈ trailers, lowerNameOk p.1 = true ∧ plainValueOk p.2 = true)
    (hlen : (trailersBlock sp trailers).length < 4294967296) :
    (WebCaller.streaming (Fixed.observe evs)).msgs = frames.map (·.2) := by
  obtain ⟨datas, hobs, hflat⟩ :=
    C17_lossless sp frames trailers chunks evs hsched hbody (fun f hf => (hframes f hf).2) htr hlen
  obtain ⟨h1, _, _⟩ := WebCallerLemmas.view_of_clean datas trailers
  simp only [WebCaller.streaming, hobs, h1, hflat]
  exact WebCallerLemmas.messages_frames frames hframes

/-- **Through both layers.**  The inner gRPC service of a tonic-web SERVER ends its response
with the trailers map `h` (built by appending, names may repeat); the server layer writes its
binary-mode body (`WebServer.respRun`, C16); that body reaches a tonic-web CLIENT cut into
chunks in any way.  Then the client layer hands out the message frames and one trailers map
that has, under every name, exactly the values of `h` in their order — so the status tonic reads
on the client (`Status::from_header_map`) has the code, message and details the service set,
and the same further metadata name by name. -/
theorem C17_status_through_both_layers (frames : List (Bool × Bytes)) (h : List Pair)
    (chunks : List Bytes) (evs : List BodyEv) (cchunks : List Bytes) (cevs : List BodyEv)
    (hsched : evs.filter notPending = chunks.map BodyEv.data ++ [BodyEv.trailers h])
    (hchunks : chunks.flatten = framesBytes frames)
    (hcsched : cevs.filter notPending = cchunks.map BodyEv.data)
    (hwire : cchunks.flatten = WebServer.dataOf (WebServer.respRun WebServer.Enc.none evs))
    (hframes : ∀ f ∈ frames, f.2.length < 4294967296)
    (htr : ∀ p ∈ h, lowerNameOk p.1 = true ∧ plainValueOk p.2 = true)
    (hlen : (WebServer.encodeTrailers h).length < 4294967296) :
    ∃ (datas : List Bytes) (t : List Pair),
      Fixed.observe cevs = datas.map Out.data ++ [Out.trailers t, Out.eos] ∧
      datas.flatten = framesBytes frames ∧
      (∀ k, TMap.getAll k t = TMap.getAll k h) ∧
      WebCallerLemmas.SameStatus (Status.fromHeaderMap .fixed t) (Status.fromHeaderMap .fixed h) := by
  have hblock : trailersBlock false (TMap.group h) = WebServer.encodeTrailers h := by
    rw [trailersBlock, lineOfSp_false]; rfl
  have hframe : WebServer.makeTrailersFrame h = trailersFrame false (TMap.group h) := by
    simp only [WebServer.makeTrailersFrame, trailersFrame, Spec.GrpcWeb.rawFrame, hblock]
  have hserver : WebServer.dataOf (WebServer.respRun WebServer.Enc.none evs) =
      framesBytes frames ++ trailersFrame false (TMap.group h) := by
    rw [WebServerLemmas.respRun_filter, hsched, WebServerLemmas.respRun_data]
    have : (fun c => Out.data (WebServer.wrap WebServer.Enc.none c)) = Out.data := by
      funext c; rfl
    rw [this, WebCallerLemmas.dataOf_datas, hchunks]
    simp [WebServer.respRun, WebServer.dataOf, WebServer.wrap, hframe]
  have htr' : ∀ p ∈ TMap.group h, lowerNameOk p.1 = true ∧ plainValueOk p.2 = true :=
    fun p hp => htr p ((TMap.group_mem p h).1 hp)
  obtain ⟨datas, hobs, hflat⟩ := C17_lossless false frames (TMap.group h) cchunks cevs hcsched
    (by rw [hwire, hserver]) hframes htr' (by rw [hblock]; exact hlen)
  refine ⟨datas, TMap.group h, hobs, hflat, fun k => TMap.getAll_group k h, ?_⟩
  apply WebCallerLemmas.fromHeaderMap_ext
  intro k
  rw [WebCallerLemmas.hmap_getAll_eq_tmap, WebCallerLemmas.hmap_getAll_eq_tmap, TMap.getAll_group]

/-- **Malformed trailer blocks: an error, or nothing dropped.**  The body is any message frames
followed by a trailers frame whose block is ARBITRARY bytes (lines without a colon, bytes no
field may carry, a last line without CRLF, bare CRs, …), cut into chunks in any way.  Then the
caller's stream either ends in an error, or it hands out the message frames and ONE trailers map
that lists every line of the block — CRLF-separated, the last one possibly unterminated — with
its name (lower case) and its full value (only the one optional space after the colon removed):
never a clean end that hides a line (a status line in particular) that was present. -/
theorem C17_malformed_block_error_or_complete (frames : List (Bool × Bytes)) (blk : Bytes)
    (chunks : List Bytes) (evs : List BodyEv)
    (hsched : evs.filter notPending = chunks.map BodyEv.data)
    (hbody : chunks.flatten = framesBytes frames ++ Spec.GrpcWeb.rawFrame 128 blk)
    (hframes : ∀ f ∈ frames, f.2.length < 4294967296)
    (hlen : blk.length < 4294967296) :
    (Fixed.observe evs).getLast? = some Out.err ∨
    ∃ (datas : List Bytes) (raw : List Pair),
      Fixed.observe evs =
        datas.map Out.data ++ [Out.trailers (Spec.GrpcWeb.exactPairs raw), Out.eos] ∧
      datas.flatten = framesBytes frames ∧
      Spec.GrpcWeb.readBlockLoose blk = some raw := by
  unfold Fixed.observe
  rw [run_filter, hsched]
  obtain ⟨datas, hrun, hflat⟩ := run_stream blk _ (decode_rawFrame 128 blk) hlen chunks frames []
    hframes hbody
  cases hr : mapOpt (fun l => parseLine true l) (crlfLines true [] blk) with
  | none =>
    rw [hr] at hrun
    exact Or.inl (by rw [hrun]; simp [closing])
  | some t =>
    rw [hr] at hrun hflat
    obtain ⟨raw, hraw, ht⟩ := decode_lists_every_line blk t (by rw [decode_rawFrame, hr]; rfl)
    exact Or.inr ⟨datas, raw, by rw [hrun, ht]; rfl, hflat rfl, hraw⟩

/-- The input domain of `C17_lossless` is what the independent grpc-web reader reads as
"these message frames, then exactly one trailers frame with these entries" (shown for the
style tonic's own server writes). -/
theorem C17_domain_is_readers (frames : List (Bool × Bytes)) (trailers : List Pair)
    (hframes : ∀ f ∈ frames, f.2.length < 4294967296)
    (htr : ∀ p ∈ trailers, lowerNameOk p.1 = true ∧ plainValueOk p.2 = true)
    (hlen : (trailersBlock false trailers).length < 4294967296) :
    Spec.GrpcWeb.read false (framesBytes frames ++ trailersFrame false trailers) =
      some (frames.map (fun f => Item.msg f.1 f.2) ++ [Item.trailers trailers]) := by
  simp only [Spec.GrpcWeb.read, Bool.false_eq_true, if_false]
  exact GrpcWebLemmas.parseItems_frames_trailers frames hframes trailers _
    (parseBlock_trailersBlock htr) hlen

/-- **Cut-off or malformed bodies end in an error, full statement.**  For every body — any
events, any chunking — whose data bytes are NOT a sequence of complete frames with known
flags (that is: the body stops inside a frame header or inside a payload, at any byte, or
carries an unknown frame type), the caller's stream ends with an error: never a clean end.
(The error is one the loop's own branches return: by `C17_fuel_never_exhausted` the frames of
`Fixed.observe` are those of the loop run without fuel.) -/
theorem C17_truncation_is_error (evs : List BodyEv) (h : ¬ WellFramed (flat evs)) :
    (Fixed.observe evs).getLast? = some Out.err := by
  unfold Fixed.observe
  exact run_not_wf evs {} (by simpa using h)

/-- **Truncation at every byte.**  Take any sequence of complete frames (messages, trailers)
and cut its wire form after `k` bytes, where `k` is not a frame boundary (`hk`: the prefix is
not the wire form of the first `j` frames, for any `j`) — i.e. strictly inside a frame header
or payload.  However the truncated body is chunked, the caller's stream ends with an error. -/
theorem C17_truncated_body_is_error (items : List (UInt8 × Bytes))
    (hitems : ∀ i ∈ items, Spec.GrpcWeb.flagOk i.1 ∧ i.2.length < 4294967296) (k : Nat)
    (hk : ∀ j, (Spec.GrpcWeb.encItems items).take k ≠ Spec.GrpcWeb.encItems (items.take j))
    (evs : List BodyEv) (hflat : flat evs = (Spec.GrpcWeb.encItems items).take k) :
    (Fixed.observe evs).getLast? = some Out.err := by
  apply C17_truncation_is_error
  rw [hflat]
  intro hw
  obtain ⟨j, hj⟩ := wf_prefix_boundary items hitems _ ((Spec.GrpcWeb.encItems items).drop k)
    (List.take_append_drop _ _) hw
  exact hk j hj

/-- **The loop's fuel is never exhausted.**  `Fixed.drain` (the loop once the inner body has
ended) is written with a fuel argument whose exhausted case returns an error frame.  That case is
never reached: `WebClientLemmas.Runs` / `Drains` are the loop WITHOUT fuel (inductive big-step
relations built from `Fixed.afterPoll` alone — one constructor per branch of `Fixed.run` /
`Fixed.drain`, none for "out of fuel"; a loop that kept passing without reaching a `stop` would
have no derivation), and for every event list, also hostile ones, what `Fixed.observe` computes is
THE result of that fuel-free loop (it has at most one).  Any fuel above the number of buffered
bytes plus one gives the same frames.  The progress argument: after the end of the inner body every
pass that does not stop takes at least one buffered byte, or the stored trailers
(`WebClientLemmas.afterPoll_mu`). -/
theorem C17_fuel_never_exhausted (evs : List BodyEv) :
    Runs {} evs (Fixed.observe evs) ∧
    (∀ os, Runs {} evs os → os = Fixed.observe evs) ∧
    (∀ (st : St) (f : Nat), st.decoded.length + 1 < f →
      Drains st (Fixed.drain f st) ∧ Fixed.drain f st = Fixed.drain (st.decoded.length + 3) st) := by
  refine ⟨run_runs evs {}, fun os h => h.unique (run_runs evs {}), fun st f hf => ?_⟩
  have hm := mu_le st
  exact ⟨drain_drains f st (by omega),
    drain_fuel_irrelevant f _ st (by omega) (by omega)⟩

/-- **Totality / no busy loop.**  Every run of the repaired loop — any events, also hostile
ones — is a finite list of data/trailers frames followed by exactly one terminal frame
(`None` or an error), and that list is the result of the loop run WITHOUT fuel
(`WebClientLemmas.Runs`, see `C17_fuel_never_exhausted`): the terminal frame is one the code's
own branches produced after finitely many passes, never the model's out-of-fuel default.  (Once
the inner body has ended it is not polled again: `Runs.ended` hands over to `Drains`, which only
works on what is buffered.) -/
theorem C17_total (evs : List BodyEv) :
    ∃ (os : List Out) (t : Out), Fixed.observe evs = os ++ [t] ∧ Runs {} evs (os ++ [t]) ∧
      (t = Out.eos ∨ t = Out.err) ∧ ∀ o ∈ os, o ≠ Out.eos ∧ o ≠ Out.err := by
  obtain ⟨os, t, h1, h2, h3⟩ := run_endsOnce evs {}
  refine ⟨os, t, h1, ?_, ?_, ?_⟩
  · have := run_runs evs {}
    rwa [h1] at this
  · cases t <;> simp [isTerminal] at h2 ⊢
  · intro o ho
    have := h3 o ho
    cases o <;> simp [isTerminal] at this ⊢

/-- **A clean end is always faithful** (any body, any events, any chunking — also outside
the domain of `C17_lossless`: no trailers frame, several of them, messages after it): if the
caller's stream ends cleanly, then the body's data bytes were a sequence of complete frames
and the data frames the caller received are, concatenated, exactly the message frames among
them — none dropped, duplicated, reordered or altered. -/
theorem C17_clean_end_is_faithful (evs : List BodyEv)
    (h : (Fixed.observe evs).getLast? = some Out.eos) :
    ∃ items : List (UInt8 × Bytes),
      (∀ i ∈ items, Spec.GrpcWeb.flagOk i.1 ∧ i.2.length < 4294967296) ∧
      flat evs = Spec.GrpcWeb.encItems items ∧
      WebServer.dataOf (Fixed.observe evs) =
        Spec.GrpcWeb.encItems (items.filter (fun i => i.1 != 128)) := by
  obtain ⟨its, hv, hd, hdata⟩ := run_clean evs {} h
  exact ⟨its, hv, by simpa using hd, hdata⟩

/-- A message-only body (no trailers frame) ends cleanly only if it is a sequence of complete
frames: contrapositive of `C17_truncation_is_error`, the form used by the check's verdict. -/
theorem C17_clean_end_implies_well_framed (evs : List BodyEv)
    (h : (Fixed.observe evs).getLast? = some Out.eos) : WellFramed (flat evs) := by
  obtain ⟨items, hv, hflat, _⟩ := C17_clean_end_is_faithful evs h
  exact ⟨items, hv, hflat⟩

/-- Request wrapping (`GrpcWebClientService::call` → `client_request`): the gRPC request
bytes reach the inner HTTP service chunk for chunk. -/
theorem C17_request_passthrough (chunks : List Bytes) (evs : List BodyEv)
    (hsched : evs.filter notPending = chunks.map BodyEv.data) :
    WebServer.respRun WebServer.Enc.none evs = chunks.map Out.data ++ [Out.eos] := by
  rw [WebServerLemmas.respRun_filter, hsched]
  have := WebServerLemmas.respRun_data WebServer.Enc.none chunks []
  simpa [WebServer.respRun, WebServer.wrap] using this

/-! ### the code at the pinned commit violates all three targets (DESIGN §5.8) -/

private def msg : Bytes := [0, 0, 0, 0, 2, 9, 9]
private def tf0 : Bytes := 128 :: u32be 15 ++ str "grpc-status:0\r\n"

/-- (a) message and trailers frame in one chunk: the data arrives, then a clean end — the
trailers (the server's status) never surface. -/
theorem C17_lossless_fails_same_chunk :
    AsIs.observe 1000 [.data (msg ++ tf0)] = ([.data msg, .eos], false, 0) := by
  rw [tf0]
  repeat rw [str_lit]
  decide +kernel

/-- (b) trailers frame split across chunks inside its block: an empty trailers frame, then
an "Invalid header bit" error. -/
theorem C17_lossless_fails_split_trailers :
    AsIs.observe 1000 [.data (tf0.take 9), .data (tf0.drop 9)] = ([.trailers [], .err], false, 0) := by
  rw [tf0]
  repeat rw [str_lit]
  decide +kernel

/-- (b') … split inside its 5-byte header: clean end, trailers lost. -/
theorem C17_lossless_fails_split_trailers_header :
    AsIs.observe 1000 [.data msg, .data (tf0.take 3), .data (tf0.drop 3)] =
      ([.data msg, .eos], false, 0) := by
  rw [tf0]
  repeat rw [str_lit]
  decide +kernel

/-- (c) a value containing a colon is cut at the colon; a repeated name keeps only the last
value. -/
theorem C17_lossless_fails_colon_value :
    AsIs.observe 1000 [.data (128 :: u32be 18 ++ str "grpc-message:a:b\r\n")] =
      ([.trailers [(str "grpc-message", str "a")], .eos], false, 0) := by
  repeat rw [str_lit]
  decide +kernel

theorem C17_lossless_fails_repeated_name :
    AsIs.observe 1000 [.data (128 :: u32be 10 ++ str "x:1\r\nx:2\r\n")] =
      ([.trailers [(str "x", str "2")], .eos], false, 0) := by
  repeat rw [str_lit]
  decide +kernel

/-- (d) a body cut inside a frame header ends cleanly — even when the rest is still to come. -/
theorem C17_truncation_fails_header :
    AsIs.observe 1000 [.data [0, 0, 0]] = ([.eos], false, 0) ∧
    AsIs.observe 1000 [.data [0, 0], .data ([0, 0, 2, 9, 9] ++ tf0)] = ([.eos], false, 0) := by
  rw [tf0]
  repeat rw [str_lit]
  decide +kernel

/-- (e) a body cut inside a payload: the loop never returns; the ended inner body is polled
again and again (the harness body gives up after 1000 polls past its end). -/
theorem C17_total_fails_busy_loop :
    AsIs.observe 1000 [.data [0, 0, 0, 0, 2, 9]] = ([], true, 1001) := by
  decide +kernel

private def unterminated : Bytes := 128 :: u32be 14 ++ str "grpc-status:13"
private def bareCr : Bytes := 128 :: u32be 36 ++ str "grpc-status:0\r\nx: v\rgrpc-status:13\r\n"

/-- (f) found by the second review round, in the tree with repairs (a)–(e): a last trailer line
without its CRLF was dropped.  `decode_trailers_frame` as found (`whole := false`) turns a
trailers frame that says `grpc-status:13` into an EMPTY map — and for the caller a stream that
ends with empty trailers is a success (the loop at the pinned commit does the same). -/
theorem C17_unterminated_line_fails :
    decodeTrailersFrame true unterminated false = some (some []) ∧
    WebCaller.endOf [Out.trailers [], Out.eos] = WebCaller.End.ok (some []) ∧
    AsIs.observe 1000 [.data unterminated] = ([.trailers [], .eos], false, 0) := by
  rw [unterminated]
  repeat rw [str_lit]
  decide +kernel

/-- (g) likewise: in a value that starts with the optional space, everything after a bare CR
was cut off — here a second status line. -/
theorem C17_bare_cr_fails :
    decodeTrailersFrame true bareCr false =
      some (some [(str "grpc-status", str "0"), (str "x", str "v")]) := by
  rw [bareCr]
  repeat rw [str_lit]
  decide +kernel

/-- … repaired (fix 1bfb22e3): the unterminated line is read, the caller gets INTERNAL; the bare
CR makes the block an error. -/
theorem C17_block_witnesses_repaired :
    Fixed.observe [.data unterminated] = [.trailers [(str "grpc-status", str "13")], .eos] ∧
    WebCaller.endOf (Fixed.observe [.data unterminated]) =
      WebCaller.End.status { code := .internal, message := [], details := [], metadata := [] } ∧
    Fixed.observe [.data bareCr] = [.err] := by
  rw [unterminated, bareCr]
  repeat rw [str_lit]
  decide +kernel

/-- … and the repaired loop on the same witnesses. -/
theorem C17_witnesses_repaired :
    Fixed.observe [.data (msg ++ tf0)] = [.data msg, .trailers [(str "grpc-status", str "0")], .eos] ∧
    Fixed.observe [.data msg, .data (tf0.take 3), .data (tf0.drop 3)] =
      [.data msg, .trailers [(str "grpc-status", str "0")], .eos] ∧
    Fixed.observe [.data (128 :: u32be 18 ++ str "grpc-message:a:b\r\n")] =
      [.trailers [(str "grpc-message", str "a:b")], .eos] ∧
    Fixed.observe [.data (128 :: u32be 10 ++ str "x:1\r\nx:2\r\n")] =
      [.trailers [(str "x", str "1"), (str "x", str "2")], .eos] ∧
    Fixed.observe [.data [0, 0, 0]] = [.err] ∧
    Fixed.observe [.data [0, 0, 0, 0, 2, 9]] = [.err] := by
  rw [tf0]
  repeat rw [str_lit]
  decide +kernel

/-! ### the response head: content-type, status, version, headers (`ResponseFuture::poll`) -/

/-- Transcription lemma: the first two conjuncts are `rfl` and the third is `C17_lossless` verbatim,
because the model function `WebClient.respond head evs := (head, Fixed.observe evs)` does not read
`head` and `responseEncoding _ := .none` by definition — "for every head" holds by construction of
the model.  That tonic-web's `ResponseFuture::poll` really ignores the response head is carried by
the correspondence run (`cl` / `st` cases with an `rp <status> <version> <headers>` head: 36
content-type values, 21 statuses, 5 versions, random heads; the head the caller gets is compared
token for token), not by this theorem.

**Response content-type variants.**  `head` is the head of the inner service's response — ANY
status, version and header list, in particular any `content-type` value: absent, one of the four
literals tonic-web knows, another message format (`application/grpc-web+json`, `+thrift`), with
parameters (`application/grpc-web+proto; charset=utf-8`), in any letter case
(`Application/GRPC-Web+Proto`), or anything else.  The client layer hands the head on untouched
(nothing is rewritten, `content-type` included), decodes the body with `Encoding::None`
whatever the head says, and `C17_lossless` applies unchanged: for all message frames, trailers,
either style, all chunkings and `Pending`s the caller gets the message bytes, ONE trailers frame
with every name and full value, then the end.  (The head is universally quantified: the
statement covers the responses the independent classifier `Spec.GrpcWeb.respKind` calls binary
grpc-web — media type `application/grpc-web[+format]` in any case, parameters ignored, or no
content-type — and equally the text kind and everything else: the code does not distinguish
them.  For a body in the text form see `C17_text_response_is_an_error`.) -/
theorem C17_response_content_type_variants (head : RespHead) (sp : Bool)
    (frames : List (Bool × Bytes)) (trailers : List Pair) (chunks : List Bytes) (evs : List BodyEv)
    (hsched : evs.filter notPending = chunks.map BodyEv.data)
    (hbody : chunks.flatten = framesBytes frames ++ trailersFrame sp trailers)
    (hframes : ∀ f ∈ frames, f.2.length < 4294967296)
    (htr : ∀ p ∈ trailers, lowerNameOk p.1 = true ∧ plainValueOk p.2 = true)
    (hlen : (trailersBlock sp trailers).length < 4294967296) :
    (respond head evs).1 = head ∧ responseEncoding head = WebServer.Enc.none ∧
    ∃ datas : List Bytes,
      (respond head evs).2 = datas.map Out.data ++ [Out.trailers trailers, Out.eos] ∧
      datas.flatten = framesBytes frames :=
  ⟨rfl, rfl, C17_lossless sp frames trailers chunks evs hsched hbody hframes htr hlen⟩

/-- **Text-mode responses are not decoded — but never end cleanly.**  The client layer does not
select base64 decoding by the response's content-type (`client_response` is `Encoding::None`;
the client never asks for the text form: it sends `content-type: application/grpc-web` and no
`accept`).  If a server answers in the text form all the same — the body's data bytes are a
non-empty base64 text the independent reader (`Spec.GrpcWeb.b64StreamDecode`) accepts, under any
head, in any chunking — the caller's stream ends with an error: neither messages nor a status
are made up, and there is no clean end hiding the server's status. -/
theorem C17_text_response_is_an_error (head : RespHead) (evs : List BodyEv) (raw : Bytes)
    (hne : flat evs ≠ []) (htext : Spec.GrpcWeb.b64StreamDecode (flat evs) = some raw) :
    (respond head evs).2.getLast? = some Out.err :=
  C17_truncation_is_error evs (WebClientHeadLemmas.text_not_wellFramed (flat evs) raw hne htext)

/-- Transcription lemma: `(respond head evs).2` is `Fixed.observe evs` by definition and
`WebCaller.streamingAt` reads nothing of the head but `head.status`, so the statement holds by
construction of the two model functions; the assurance that `client::Grpc` over the layer behaves so
is the `st` cases with an `rp` head in the correspondence run.

**The caller's view of a 200 response does not depend on the rest of the head**: with
`client::Grpc` over the layer, the messages and the end of a server-streaming call are those of
`C17_caller_sees_status` / `C17_caller_sees_messages`, whatever content-type, version and further
headers the response carries (headers tonic interprets itself — `grpc-status`, `grpc-encoding` —
excluded: Model/WebCaller). -/
theorem C17_caller_view_ignores_head (head : RespHead) (h200 : head.status = 200)
    (evs : List BodyEv) :
    WebCaller.streamingAt (respond head evs).1 (respond head evs).2 =
      WebCaller.streaming (Fixed.observe evs) :=
  WebClientHeadLemmas.streamingAt_200 head h200 (Fixed.observe evs)

/-- witnesses: the body of `C17_witnesses_repaired` under the content-types an independent
adversary's gate let through undecoded (seeded/C17d), and its text form -/
theorem C17_response_witnesses :
    (respond { headers := [(str "content-type", str "application/grpc-web+json")] }
      [.data (msg ++ tf0)]).2 = [.data msg, .trailers [(str "grpc-status", str "0")], .eos] ∧
    (respond { headers := [(str "content-type", str "Application/GRPC-Web+Proto")] }
      [.data (msg ++ tf0)]).2 = [.data msg, .trailers [(str "grpc-status", str "0")], .eos] ∧
    (respond { status := 503, version := .h2,
               headers := [(str "content-type", str "application/grpc-web-text")] }
      [.data (str "AAAAAAIJCYAAAAAPZ3JwYy1zdGF0dXM6MA0K")]) =
      ({ status := 503, version := .h2,
         headers := [(str "content-type", str "application/grpc-web-text")] }, [.err]) ∧
    Spec.GrpcWeb.b64StreamDecode (str "AAAAAAIJCYAAAAAPZ3JwYy1zdGF0dXM6MA0K") = some (msg ++ tf0) := by
  -- `(respond head evs).2` unfolds to `Fixed.observe evs`: the head is not evaluated
  refine ⟨C17_witnesses_repaired.1, C17_witnesses_repaired.1, congrArg (Prod.mk _) ?_, ?_⟩
  · repeat rw [str_lit]
    decide +kernel
  · rw [tf0, GrpcWebLemmas.b64StreamDecode_eq]
    repeat rw [str_lit]
    decide +kernel

/-! Non-vacuity: hypotheses are satisfiable by non-trivial values. -/

example :
    let frames : List (Bool × Bytes) := [(false, [9, 9]), (true, [])]
    let trailers : List Pair := [(str "grpc-status", str "0"), (str "grpc-message", str "a: b:c"),
      (str "x", str "1"), (str "x", str "2")]
    let body := framesBytes frames ++ trailersFrame true trailers
    let chunks : List Bytes := [body.take 3, body.drop 3 |>.take 11, [], (body.drop 14)]
    chunks.flatten = body ∧
    (∀ p ∈ trailers, lowerNameOk p.1 = true ∧ plainValueOk p.2 = true) ∧
    Fixed.observe [.data (body.take 3), .pending, .data ((body.drop 3).take 11), .data [], .data (body.drop 14)] =
      [.data [0, 0, 0, 0, 2, 9, 9, 1, 0, 0, 0, 0], .trailers trailers, .eos] := by
  repeat rw [str_lit]
  decide +kernel

-- the caller's view of a failing call: status 5 with a percent-encoded message containing ':',
-- base64 details and a repeated custom name, in `name: value` style, cut inside the trailers frame
example :
    let trailers : List Pair := [(str "x-a", str "1"), (str "grpc-message", str "not%20found: a%3Ab"),
      (str "grpc-status", str "5"), (str "grpc-status-details-bin", str "AQID"), (str "x-a", str "2")]
    let body := framesBytes [(false, [7, 8])] ++ trailersFrame true trailers
    (∀ p ∈ trailers, lowerNameOk p.1 = true ∧ plainValueOk p.2 = true) ∧
    WebCaller.streaming (Fixed.observe [.data (body.take 20), .pending, .data (body.drop 20)]) =
      { msgs := [[7, 8]],
        fin := .status { code := .notFound, message := str "not found: a:b", details := [1, 2, 3],
                         metadata := [(str "x-a", str "1"), (str "x-a", str "2")] } } := by
  repeat rw [str_lit]
  decide +kernel

example : ¬ WellFramed [0, 0, 0] := by decide +kernel
example : ¬ WellFramed [0, 0, 0, 0, 2, 9] := by decide +kernel
example : ¬ WellFramed [7, 0, 0, 0, 0] := by decide +kernel
example : WellFramed ([0, 0, 0, 0, 2, 9, 9] ++ [128, 0, 0, 0, 0]) := by decide +kernel

example : Spec.GrpcWeb.respKind none = .binary := by decide +kernel
example : Spec.GrpcWeb.respKind (some (str "application/grpc-web+json")) = .binary := by
  repeat rw [str_lit]
  decide +kernel
example : Spec.GrpcWeb.respKind (some (str "application/grpc-web+proto; charset=utf-8")) = .binary := by
  repeat rw [str_lit]
  decide +kernel
example : Spec.GrpcWeb.respKind (some (str "Application/GRPC-Web+Proto")) = .binary := by
  repeat rw [str_lit]
  decide +kernel
example : Spec.GrpcWeb.respKind (some (str "application/grpc-web-text+proto")) = .text := by
  repeat rw [str_lit]
  decide +kernel
example : Spec.GrpcWeb.respKind (some (str "APPLICATION/GRPC-WEB-TEXT; charset=utf-8")) = .text := by
  repeat rw [str_lit]
  decide +kernel
example : Spec.GrpcWeb.respKind (some (str "application/grpc")) = .other := by
  repeat rw [str_lit]
  decide +kernel
example : Spec.GrpcWeb.respKind (some (str "application/grpc-webx")) = .other := by
  repeat rw [str_lit]
  decide +kernel
example : Spec.GrpcWeb.respKind (some (str "text/html")) = .other := by
  repeat rw [str_lit]
  decide +kernel

-- `C17_text_response_is_an_error`: hypotheses satisfiable (the text form of message + trailers frame)
example : (str "AAAAAAIJCYAAAAAPZ3JwYy1zdGF0dXM6MA0K") ≠ [] ∧
    (Spec.GrpcWeb.b64StreamDecode (str "AAAAAAIJCYAAAAAPZ3JwYy1zdGF0dXM6MA0K")).isSome = true := by
  have h := C17_response_witnesses.2.2.2
  refine ⟨fun he => ?_, by rw [h]; rfl⟩
  rw [he] at h
  cases h

/-! ### the hints of the returned body (`Body::is_end_stream`, `Body::size_hint`) — audit aC17

`Hints.observeH hf evs` is `Fixed.observe evs` with, in front of every frame, what the returned
body answered to `is_end_stream()` / `size_hint()` right before the `poll_frame` call that produced
the frame.  `Hints.outerHint bits` is `GrpcWebCall`'s answer in client/Decode mode after
`fix: grpc-web client response body no longer reports the inner body's … hints as its own`;
`Hints.delegated bits` is the code as found (both methods handed on the inner body's answer).
`bits` says which hints the INNER body gives (exact size, end of stream). -/

open WebClient.Hints in
/-- Transcription lemma: `Hints.runH` is `Fixed.run` copied clause by clause with a hint paired to
every frame and never branches on a hint, so projecting the hints away gives `Fixed.run` by
construction; that the REAL body's frames do not depend on the hints the inner body gives is
carried by the `clh` / `sth` cases of the correspondence run.

**Hints are invisible in the frames.**  Whatever the inner body answers to `size_hint` /
`is_end_stream`, and whatever the returned body answers, the frames are those of
`Fixed.observe` — `C17_lossless`, `C17_truncation_is_error`, `C17_total` apply unchanged. -/
theorem C17_hints_invisible (hf : HintFn) (evs : List BodyEv) :
    (observeH hf evs).map Prod.snd = Fixed.observe evs :=
  WebClientHintsLemmas.runH_frames hf evs {} _

open WebClient.Hints WebClientHintsLemmas in
/-- **… over ANY inner body that keeps `http_body`'s contract.**  `outerHintOf inner` is the
repaired `is_end_stream` expression (`decoded` empty ∧ no trailers held ∧ (inner body done ∨ inner
body says end-of-stream)) over an arbitrary inner hint function `inner` (events still to come ↦
hint; `outerHint bits = outerHintOf (innerHint bits)` by `rfl`).  If the inner body says
`is_end_stream() == true` only when nothing is left (`InnerEndHonest`: the contract of
`http_body::Body`), the returned body says it only right before its `None` — every body, chunking
and `Pending` pattern.  The hypothesis is needed: over an inner body that claims its end while a
trailers frame is still to come, the returned body repeats the false claim (second conjunct). -/
theorem C17_end_stream_hint_sound_any_inner :
    (∀ (inner : List BodyEv → Hint), InnerEndHonest inner → ∀ evs : List BodyEv,
      endHintOk (observeH (outerHintOf inner) evs) = true) ∧
    endHintOk (observeH (outerHintOf (fun _ => ⟨true, 0, none⟩)) [.data tf0]) = false := by
  refine ⟨fun _ hi evs => observeH_end_of (outerHintOf_endSound hi) evs, ?_⟩
  rw [tf0]
  repeat rw [str_lit]
  decide +kernel

open WebClient.Hints in
/-- **`is_end_stream()` is true only right before the `None`**, for every body, chunking and
`Pending` pattern and each of the four hint behaviours of the harness's scripted inner body
(`bits % 4`: exact `size_hint` or none, `is_end_stream` once nothing is left or never): never while
message bytes are buffered or the trailers are still to be handed out, never before an error.
For an arbitrary inner body see `C17_end_stream_hint_sound_any_inner`. -/
theorem C17_end_stream_hint_sound (bits : Nat) (evs : List BodyEv) :
    endHintOk (observeH (outerHint bits) evs) = true :=
  C17_end_stream_hint_sound_any_inner.1 _ (WebClientHintsLemmas.innerHint_honest bits) evs

open WebClient.Hints in
/-- Transcription lemma: `Hints.outerHint` has `lower := 0, upper := none` by definition (the
repaired `size_hint` returns `SizeHint::default()`), and `sizeHintOk` is true of EVERY frame list
that carries only such hints — nothing about `Fixed.run` enters.  What carries the assurance that
the real `size_hint()` claims no bounds (and that the delegated one was unsound) is the
`size-hint-is-sound` clause of the `clh` cases in the correspondence run and
`C17_hints_fail_when_delegated`.

**`size_hint()` claims nothing, hence is sound**: at every frame, `lower = 0 ≤ data bytes from
here on`, and there is no upper bound to exceed. -/
theorem C17_size_hint_sound (bits : Nat) (evs : List BodyEv) :
    sizeHintOk (observeH (outerHint bits) evs) = true :=
  WebClientHintsLemmas.sizeHintOk_of_unbounded _
    (WebClientHintsLemmas.runH_hints (P := fun h => h.lower = 0 ∧ h.upper = none)
      (fun _ _ _ => ⟨rfl, rfl⟩) evs {} _ ⟨rfl, rfl⟩)

open WebClient.Hints in
/-- **A consumer that honours the end-of-stream hint loses nothing**: asking `is_end_stream`
before every poll and stopping when told `true` yields exactly the frames of a consumer that
polls to the `None` — so `C17_lossless` (messages, then the complete trailers) holds for it too. -/
theorem C17_lossless_for_consumers_honouring_the_hint (bits : Nat) (evs : List BodyEv) :
    honour (observeH (outerHint bits) evs) = Fixed.observe evs := by
  rw [← C17_hints_invisible (outerHint bits) evs]
  apply WebClientHintsLemmas.honour_eq _ (C17_end_stream_hint_sound bits evs)
  rw [C17_hints_invisible]
  exact run_endsOnce evs {}

open WebClient.Hints in
/-- The code as found (hints handed on from the inner body) fails all three: with an inner body
that reports its end (hyper's `Incoming`, `Full`), message and trailers frame in one chunk — the
returned body says `is_end_stream() == true` while it still holds the trailers, and a consumer that
honours the hint never sees the server's status; with an inner body of exact size the trailers
frame is announced as data. -/
theorem C17_hints_fail_when_delegated :
    endHintOk (observeH (delegated 2) [.data (msg ++ tf0)]) = false ∧
    honour (observeH (delegated 2) [.data (msg ++ tf0)]) = [.data msg, .eos] ∧
    sizeHintOk (observeH (delegated 1) [.data (msg ++ tf0)]) = false := by
  rw [tf0]
  repeat rw [str_lit]
  decide +kernel

/-- … repaired. -/
theorem C17_hint_witness_repaired :
    Hints.honour (Hints.observeH (Hints.outerHint 2) [.data (msg ++ tf0)]) =
      [.data msg, .trailers [(str "grpc-status", str "0")], .eos] :=
  (C17_lossless_for_consumers_honouring_the_hint 2 _).trans C17_witnesses_repaired.1

example : (Hints.observeH (Hints.outerHint 3) [.data (msg ++ tf0)]).map Prod.fst =
    [⟨false, 0, none⟩, ⟨false, 0, none⟩, ⟨true, 0, none⟩] := by
  rw [tf0]
  repeat rw [str_lit]
  decide +kernel

end C17
