import TonicModel.Lemmas.FramingWire
import TonicModel.Lemmas.FramingEncAfter
import TonicModel.Lemmas.Interceptor
import TonicModel.Model.Interceptor
import TonicModel.Lemmas.RecoverError
import TonicModel.Model.GrpcWire
import TonicModel.Spec.GrpcResponse
/-
C03 — Requests and responses on the wire are spec-conformant gRPC.
Four parts.  The message bodies of both roles, judged by `Spec.Framing.split`, a batch parser that imports
nothing of the model (Spec/Framing.lean imports `Basic.Bytes` only and does its own big-endian arithmetic; the
type `Bytes` is all they have in common).  The request line and the trailers-only response
(`Model/Interceptor`'s `prepareRequest` / `statusIntoHttp`).  The responses tonic synthesises (`RecoverError`,
the router's fallback, a generated server's default arm, an interceptor's rejection), judged by
`Spec/GrpcResponse`.  The head of a normal response and `client::Grpc` over a history of calls
(`Model/GrpcWire`).
-/
namespace C03
open Framing Spec.Framing
variable {α : Type}

/-- what the independent parser must find in a body carrying messages `ms` -/
def expectedFrames (cd : Codec α) (cfg : EncCfg) (ms : List α) : List (UInt8 × Bytes) :=
  ms.map (fun m => (flagByte cfg, Framing.payload cd cfg m))

private theorem okPrefix_encodable (cd : Codec α) (cfg : EncCfg) (evs : List (SrcEv α)) :
    ∀ m ∈ okPrefix cd cfg evs, encodeErr cd cfg m = none := by
  induction evs with
  | nil => simp [okPrefix]
  | cons ev r ih =>
    cases ev with
    | pending => simpa [okPrefix] using ih
    | err st => simp [okPrefix]
    | item m =>
      simp only [okPrefix]
      cases he : encodeErr cd cfg m with
      | some st => simp
      | none => exact List.forall_mem_cons.mpr ⟨he, ih⟩

private theorem payload_lt_of_encodable (cd : Codec α) (cfg : EncCfg) (m : α) (h : encodeErr cd cfg m = none) :
    (Framing.payload cd cfg m).length < 4294967296 := by
  simp only [encodeErr] at h
  cases hsf : cd.serFail m with
  | true => simp [hsf] at h
  | false =>
  simp only [hsf, Bool.false_eq_true, ↓reduceIte] at h
  cases hm : cfg.maxSize with
  | none => simp [hm, u32Max] at h; omega
  | some l =>
    simp only [hm] at h
    by_cases h1 : (Framing.payload cd cfg m).length > l
    · simp [h1] at h
    · simp [h1, u32Max] at h; omega

private theorem split_owed (cd : Codec α) (cfg : EncCfg) (evs : List (SrcEv α)) (out : List FrameOut)
    (h : dataConcat out = owedData cd cfg none evs) :
    Spec.Framing.split (dataConcat out) = (expectedFrames cd cfg (okPrefix cd cfg evs), []) := by
  rw [h, owedData, framesOf_eq_spec]
  apply split_frames
  intro fp hfp
  obtain ⟨m, hm, rfl⟩ := List.mem_map.mp hfp
  exact payload_lt_of_encodable cd cfg m (okPrefix_encodable cd cfg evs m hm)

private theorem shape_of_good {cd : Codec α} {cfg : EncCfg} {out : List FrameOut}
    (h : ∀ o ∈ out, GoodChunk cd cfg o) : ∀ o ∈ out, o = .pending ∨ ∃ d, o = .data d := by
  intro o ho
  rcases h o ho with h | ⟨d, h, _⟩
  · exact Or.inl h
  · exact Or.inr ⟨d, h⟩

/-- **A server response body is well-formed gRPC, for every source schedule and outcome.**
Polling the body to exhaustion (and beyond) yields data chunks, then exactly one trailers frame,
then nothing.  The concatenated data, parsed by the independent splitter, is exactly one frame
per message produced before the first failure: flag 1 with the compressed serialization when
compression is in effect, flag 0 with the plain serialization otherwise, a 4-byte big-endian
length equal to the payload length, and no byte left over. -/
theorem C03_server_body_wellformed (cd : Codec α) (cfg : EncCfg) (hs : cfg.server = true)
    (evs : List (SrcEv α)) (n : Nat) (hn : evs.length + 1 < n) :
    ∃ pre st k, Enc.run cd cfg n Enc.init evs = pre ++ [.trailers st] ++ List.replicate k .none ∧
      (∀ o ∈ pre, o = .pending ∨ ∃ d, o = .data d) ∧
      Spec.Framing.split (dataConcat pre) = (expectedFrames cd cfg (okPrefix cd cfg evs), []) ∧
      Spec.Framing.wellFormed (dataConcat pre) = true := by
  obtain ⟨pre, hrun, hgood, hdata, _⟩ := run_server cd cfg hs n none evs (by simp; omega)
  have hsplit := split_owed cd cfg evs pre hdata
  refine ⟨pre, _, _, by simpa [Enc.init] using hrun, shape_of_good hgood, hsplit, ?_⟩
  simp only [Spec.Framing.wellFormed, hsplit, List.isEmpty_nil, Bool.true_and, expectedFrames,
    List.all_map, List.all_eq_true]
  intro m _
  simp [flagByte]; cases cfg.comp <;> simp

/-- **The flag tells the truth about the payload.**
(Transcription lemma: it holds by unfolding the model's definition, so it pins the model's shape for the
correspondence run — its assurance about tonic is the tie, not this proof.) -/
theorem C03_flag_iff_compressed (cd : Codec α) (cfg : EncCfg) (ms : List α) :
    ∀ fp ∈ expectedFrames cd cfg ms, ∃ m ∈ ms,
      (fp.1 = 1 ∧ ∃ e, cfg.comp = some e ∧ fp.2 = cd.cz e (cd.ser m)) ∨
      (fp.1 = 0 ∧ cfg.comp = none ∧ fp.2 = cd.ser m) := by
  intro fp hfp
  simp only [expectedFrames, List.mem_map] at hfp
  obtain ⟨m, hm, rfl⟩ := hfp
  refine ⟨m, hm, ?_⟩
  cases hc : cfg.comp with
  | none => right; simp [flagByte, Framing.payload, hc]
  | some e => left; simp [flagByte, Framing.payload, hc]

/-- **A client request body carries no trailers — ever**: in whatever state, for every source
schedule and however often it is polled (also past an error or its end), a client-role body never
yields a trailers frame.  (`C03_client_body_wellformed` below says what the polls after an error are: a
fresh body's run over the rest of the source — which, by this theorem, contains no trailers either.) -/
theorem C03_client_body_never_trailers (cd : Codec α) (cfg : EncCfg) (hs : cfg.server = false) (n : Nat) :
    ∀ (b : BodySt) (evs : List (SrcEv α)) (st : St), FrameOut.trailers st ∉ Enc.run cd cfg n b evs := by
  intro b evs st h
  refine run_forall cd cfg (· ≠ .trailers st) ?_ n b evs _ h rfl
  intro b evs
  unfold Enc.pollFrame
  split
  · simp
  · split <;> simp [hs]

/-- **A client request body** delivers whole frames of the messages before
the first failure, and then ends (`None` for ever) or fails with that failure's status as its FIRST error
(`pre` holds `Pending`s and data only).  A body polled again after the error — hyper does not do that — resumes
as a fresh body over the rest of the source (`rest`, a suffix of `evs`): the tail is stated, not left open. -/
theorem C03_client_body_wellformed (cd : Codec α) (cfg : EncCfg) (hs : cfg.server = false)
    (evs : List (SrcEv α)) (n : Nat) (hn : evs.length + 1 < n) :
    ∃ pre, (∀ o ∈ pre, o = .pending ∨ ∃ d, o = .data d) ∧
      Spec.Framing.split (dataConcat pre) = (expectedFrames cd cfg (okPrefix cd cfg evs), []) ∧
      ((∃ st done rest, finalSt cd cfg evs = some st ∧ evs = done ++ rest ∧
          Enc.run cd cfg n Enc.init evs = pre ++ .err st :: Enc.run cd cfg (n - pre.length - 1) Enc.init rest) ∨
       (finalSt cd cfg evs = none ∧
          Enc.run cd cfg n Enc.init evs = pre ++ List.replicate (n - pre.length) .none)) := by
  obtain ⟨pre, hgood, hdata, _, hrun⟩ := run_client cd cfg hs n none evs (by simp; omega)
  refine ⟨pre, shape_of_good hgood, split_owed cd cfg evs pre hdata, ?_⟩
  cases hf : finalSt cd cfg evs with
  | some st =>
    rw [owedSt, hf] at hrun
    obtain ⟨post, hp⟩ := hrun
    obtain ⟨done, rest, hev, hpost⟩ :=
      run_client_err_resumes cd cfg hs n Enc.init evs rfl rfl pre post st hp
    exact Or.inl ⟨st, done, rest, rfl, hev, hpost ▸ hp⟩
  | none =>
    rw [owedSt, hf] at hrun
    exact Or.inr ⟨rfl, hrun⟩

/-- **`is_end_stream()` is true only after the trailers frame (server) and never for a client
body.**  Whatever the source does and however often the body is polled: if `is_end_stream()`
observed before poll `i` (or after the last poll) is true, then the body is a server body, one of
the polls before `i` produced the trailers frame (so hyper, which stops polling a body whose
`is_end_stream` is true, has already been handed the grpc-status), and every poll from `i` on
yields `None`. -/
theorem C03_end_stream_only_after_trailers (cd : Codec α) (cfg : EncCfg) (n : Nat) (evs : List (SrcEv α))
    (i : Nat) (h : (Enc.endFlags cd cfg n Enc.init evs)[i]? = some true) :
    cfg.server = true ∧
    (∃ (j : Nat) (st : St), j < i ∧ (Enc.run cd cfg n Enc.init evs)[j]? = some (FrameOut.trailers st)) ∧
    ∀ (j : Nat) (o : FrameOut), i ≤ j → (Enc.run cd cfg n Enc.init evs)[j]? = some o → o = FrameOut.none :=
  endFlags_sound cd cfg n Enc.init evs rfl i h

/-- `size_hint()` is sound in every state: its lower bound is 0 and it claims no upper bound.
(Transcription lemma: it holds by unfolding the model's definition, so it pins the model's shape for the
correspondence run — its assurance about tonic is the tie, not this proof.) -/
theorem C03_size_hint_sound (b : BodySt) : Enc.sizeHint b = (0, none) := rfl

/-- **An `Encoder::encode` failure at any position** (outcome "encode failure" of the property), at the level
of the polled body (`Enc.run`): if the encoder fails on a message that follows any number of `Pending`s and
encodable messages, then — whatever follows it in the source — the polls yield `Pending`s and data chunks whose
concatenation the independent splitter reads as exactly one frame per message BEFORE the failing one, nothing
left over (nothing of the failing message is on the wire), and then: a server body yields exactly one
trailers frame with INTERNAL (class `encode`) and `None` for ever; a client body yields that status as an
error.  (What a client body would yield if it were polled again after that error is not claimed — hyper does
not poll a body again after an error; `C03_client_body_wellformed` / `C06_no_collateral_loss_client` say what
the model does then, `C06_client_polled_after_error_continues` is an instance.)  The last two conjuncts say the
same in terms of the ghost functions `okPrefix` / `finalSt`. -/
theorem C03_encode_failure_any_position (cd : Codec α) (cfg : EncCfg) (pre rest : List (SrcEv α)) (m : α)
    (hpre : AllOk cd cfg pre) (hm : cd.serFail m = true)
    (n : Nat) (hn : (pre ++ .item m :: rest).length + 1 < n) :
    (∃ out, (∀ o ∈ out, o = .pending ∨ ∃ d, o = .data d) ∧
      Spec.Framing.split (dataConcat out) = (expectedFrames cd cfg (itemsOfEvs pre), []) ∧
      (cfg.server = true → ∃ k, Enc.run cd cfg n Enc.init (pre ++ .item m :: rest)
          = out ++ [.trailers ⟨13, .encode⟩] ++ List.replicate k .none) ∧
      (cfg.server = false → ∃ post, Enc.run cd cfg n Enc.init (pre ++ .item m :: rest)
          = out ++ .err ⟨13, .encode⟩ :: post)) ∧
    okPrefix cd cfg (pre ++ .item m :: rest) = itemsOfEvs pre ∧
    finalSt cd cfg (pre ++ .item m :: rest) = some ⟨13, .encode⟩ := by
  obtain ⟨h1, h2⟩ := okPrefix_append cd cfg pre (.item m :: rest) hpre
  have hok : okPrefix cd cfg (pre ++ .item m :: rest) = itemsOfEvs pre := by
    rw [h1]; simp [okPrefix, serFail_encodeErr cd cfg m hm]
  have hfin : finalSt cd cfg (pre ++ .item m :: rest) = some ⟨13, .encode⟩ := by
    rw [h2]; simp [finalSt, serFail_encodeErr cd cfg m hm]
  refine ⟨?_, hok, hfin⟩
  have hn' : (pre ++ .item m :: rest).length + (if (none : Option St).isSome then 1 else 0) + 1 < n + 1 := by
    simp at hn ⊢; omega
  cases hs : cfg.server with
  | true =>
    obtain ⟨out, hrun, hgood, hdata, _⟩ := run_server cd cfg hs n none _ hn'
    rw [owedSt, hfin] at hrun
    exact ⟨out, shape_of_good hgood, hok ▸ split_owed cd cfg _ out hdata, fun _ => ⟨_, hrun⟩, nofun⟩
  | false =>
    obtain ⟨out, hgood, hdata, _, hrun⟩ := run_client cd cfg hs n none _ hn'
    rw [owedSt, hfin] at hrun
    exact ⟨out, shape_of_good hgood, hok ▸ split_owed cd cfg _ out hdata, nofun, fun _ => hrun⟩

/-! ### Header clauses (request line, trailers-only response)

These are theorems about `Model/Interceptor.lean`'s model of `client::Grpc::prepare_request`
and `Status::into_http` (tied to the code by C12's correspondence and by C03's own
whole-request / whole-response oracle cases). -/
section Headers
open HMapLite HttpLite

/-- **Every call is an HTTP/2 POST with `content-type: application/grpc` and `te: trailers`** —
exactly one value each, whatever the caller's metadata contains (a forged `te` or
`content-type` cannot survive) — to the method path joined onto the origin's path, with the
body untouched.  (The proof obligation is in the two `getAll` conjuncts — exactly one value each over
ARBITRARY caller metadata; the conjuncts for method, version, body and URI restate the literals of the model
function `prepareRequest` and hold by unfolding it: for those four the assurance about tonic is the
correspondence — C12's `prepare_request` cases and C03's oracle-only `req` / `wreq` cases.) -/
theorem C03_request_line {β : Type} (originPrefix originPath path : Bytes) (q : Bool)
    (t : Interceptor.TRequest β) :
    let r := Interceptor.prepareRequest originPrefix originPath q path t
    r.method = str "POST" ∧ r.version = 2 ∧
    getAll (str "te") r.headers = [(str "trailers", false)] ∧
    getAll Interceptor.nameContentType r.headers = [(Interceptor.grpcContentType, false)] ∧
    r.body = t.message ∧
    r.uri = originPrefix ++ (if originPath.isEmpty || originPath == str "/" then path
                             else originPath ++ path) := by
  obtain ⟨_, _, _, _, te_ne⟩ := Interceptor.header_names
  simp [Interceptor.prepareRequest, Interceptor.intoHttp, getAll_insert, te_ne]

/-- The path join as found at the pinned commit was wrong for an origin whose path is `/` and that
has a query (`http://host/?x=1`): the request went to `//pkg.Svc/Method` instead of the method's
path.  (Witness of the defect repaired by the `fix:` commit "an origin whose path is / adds no prefix
…"; the case `req g - 3f71 …` — origin `?q` — is in C03's generated cases.) -/
theorem C03_request_path_root_origin_with_query_asis_fails :
    Interceptor.pathJoinAsFound (str "/") true (str "/pkg.Svc/Method") = str "//pkg.Svc/Method" ∧
    Interceptor.pathJoinAsFound (str "/") true (str "/pkg.Svc/Method") ≠ str "/pkg.Svc/Method" := by
  repeat rw [str_lit]
  decide +kernel

/-- **A trailers-only response carries `content-type: application/grpc`, is HTTP 200, has an
empty body and exactly one `grpc-status`, in its headers**: `Status::into_http` never fails, and
the response it builds has status 200, the body it was given (`Body::empty()`), exactly one
`content-type` value — `application/grpc` — and exactly one `grpc-status` value, the status's
code, whatever metadata the status carries (a forged `grpc-status` or `content-type` entry in
the status's metadata cannot add a second value). -/
theorem C03_trailers_only_response {ρ : Type} (dflt : ρ) (st : GStatus) :
    ∃ r, Interceptor.statusIntoHttp dflt st = some r ∧
      r.status = 200 ∧ r.body = dflt ∧
      getAll Interceptor.nameContentType r.headers = [(Interceptor.grpcContentType, false)] ∧
      getAll Interceptor.nameGrpcStatus r.headers = [(Interceptor.codeHeaderValue st.code, false)] := by
  obtain ⟨H, h, hct, hgs, _⟩ := Interceptor.statusIntoHttp_headers dflt st
  exact ⟨_, h, rfl, rfl, hct, hgs⟩

end Headers

/-! ### Synthesised responses (`RecoverError`, `Routes` fallback, generated default arm,
interceptor rejection): every one of them is a conformant trailers-only response

Theorems about `Model/RecoverError.lean` and `Model/Interceptor.lean`, judged by the independent
oracle `Spec/GrpcResponse.lean`; tied to the code by C03's `prod …` correspondence cases. -/
section Producers
open HMapLite HttpLite RecoverError

private theorem eos_all (n : Nat) : (List.replicate (n + 1) Fr.eos).all Spec.GrpcResponse.isEos = true := by
  simp [Spec.GrpcResponse.isEos]

/-- **Every response `RecoverError` synthesises from a failed service stack is a conformant
trailers-only gRPC response.**  Whatever error the stack failed with — a `Status` with any code,
message, details and metadata (forged `content-type` / `grpc-status` metadata included), an error
wrapping one anywhere in its source chain, an expired `Server::timeout` / `grpc-timeout`, a
connect error, an HTTP/2 error — if `Status::try_from_error` finds a status `st` in it, the caller
gets a response (never a panic, never the error): HTTP 200, exactly one
`content-type: application/grpc`, exactly one `grpc-status` (the code of `st`), and an empty body
that stays ended however often it is polled; the independent oracle accepts it. -/
theorem C03_recovered_error_response {ρ ε : Type} (chain : ε → List Link) (e : ε) (st : GStatus)
    (h : tryFromError (chain e) = some st) :
    ∃ r, recoverError (ρ := ρ) chain (.error e) = .response r ∧
      r.status = 200 ∧
      getAll Interceptor.nameContentType r.headers = [(Interceptor.grpcContentType, false)] ∧
      getAll Interceptor.nameGrpcStatus r.headers = [(Interceptor.codeHeaderValue st.code, false)] ∧
      r.body = none ∧
      ∀ (inner : ρ → Nat → List Fr) (extra : Nat),
        bodyPolled inner r.body extra = List.replicate (extra + 1) Fr.eos ∧
        Spec.GrpcResponse.conformant
          { status := r.status, headers := r.headers, frames := bodyPolled inner r.body extra } = true := by
  obtain ⟨H, hH, hct, hgs, _⟩ := Interceptor.statusIntoHttp_headers () st
  refine ⟨{ status := 200, version := 11, headers := H, ext := [], body := none }, ?_, rfl, hct, hgs, rfl, ?_⟩
  · simp [recoverError, h, hH]
  · intro inner extra
    exact ⟨rfl, conformant_of_headers H st.code extra hct hgs⟩

/-- **The rest of the status travels too**: message (percent-encoded, absent iff empty), details
(base64, absent iff empty) and every custom metadata entry whose name is not one of tonic's
reserved names. -/
theorem C03_recovered_error_carries_status {ρ ε : Type} (chain : ε → List Link) (e : ε) (st : GStatus)
    (h : tryFromError (chain e) = some st) :
    ∃ r, recoverError (ρ := ρ) chain (.error e) = .response r ∧
      getAll Interceptor.nameGrpcMessage r.headers =
        (if st.message.isEmpty = false then [(Interceptor.percentEncode st.message, false)] else []) ∧
      getAll Interceptor.nameGrpcDetails r.headers =
        (if st.details.isEmpty = false then [(B64.encode false st.details, false)] else []) ∧
      ∀ k, k ≠ Interceptor.nameContentType → k ≠ Interceptor.nameGrpcStatus →
        k ≠ Interceptor.nameGrpcMessage → k ≠ Interceptor.nameGrpcDetails →
        getAll k r.headers = if k ∈ Interceptor.reservedHeaders then [] else getAll k st.metadata := by
  obtain ⟨H, hH, _, _, hm, hd, hk⟩ := Interceptor.statusIntoHttp_headers () st
  exact ⟨{ status := 200, version := 11, headers := H, ext := [], body := none },
    by simp [recoverError, h, hH], hm, hd, hk⟩

/-- **A response of the inner service passes through `RecoverError` unchanged** (status, version,
headers, extensions; the body is wrapped and delegates every poll).
(Transcription lemma: it holds by unfolding the model's definition, so it pins the model's shape for the
correspondence run — its assurance about tonic is the tie, not this proof.) -/
theorem C03_recover_ok_passthrough {ρ ε : Type} (chain : ε → List Link) (res : Response ρ)
    (inner : ρ → Nat → List Fr) (extra : Nat) :
    ∃ r, recoverError (ε := ε) chain (.ok res) = .response r ∧
      r.status = res.status ∧ r.version = res.version ∧ r.headers = res.headers ∧ r.ext = res.ext ∧
      bodyPolled inner r.body extra = inner res.body extra :=
  ⟨_, rfl, rfl, rfl, rfl, rfl, rfl⟩

/-- **An error in which no status can be found stays an error** (the connection layer then
resets the stream); nothing is invented. -/
theorem C03_recover_unconvertible_stays_error {ρ ε : Type} (chain : ε → List Link) (e : ε)
    (h : tryFromError (chain e) = none) :
    recoverError (ρ := ρ) chain (.error e) = .error e := by
  simp [recoverError, h]

/-- **Which status is found**: below any number of wrapper errors of unknown type, the first
`Status` is taken as it is, an expired timeout is CANCELLED "Timeout expired", a connect error
is UNAVAILABLE with its text; a chain of unknown errors only yields nothing. -/
theorem C03_try_from_error_chain (pre post : List Link) (hp : ∀ l ∈ pre, l = Link.opaque) :
    (∀ st, tryFromError (pre ++ Link.status st :: post) = some st) ∧
    tryFromError (pre ++ Link.timeout :: post) = some timeoutStatus ∧
    (∀ d, tryFromError (pre ++ Link.connect d :: post) = some (connectStatus d)) ∧
    tryFromError pre = none := by
  cases pre with
  | nil => exact ⟨fun _ => rfl, rfl, fun _ => rfl, rfl⟩
  | cons l pre =>
    -- the top error is of unknown type (not an h2 error), so `try_from_error` is the chain walk
    obtain rfl := hp l List.mem_cons_self
    have h := fun rest => findStatus_opaque pre rest (fun l hl => hp l (List.mem_cons_of_mem _ hl))
    exact ⟨fun _ => h _, h _, fun _ => h _, pre.append_nil ▸ h []⟩

/-- **An expired server timeout is answered with a conformant trailers-only CANCELLED** — the
instance of `C03_recovered_error_response` that `Server::timeout` / `grpc-timeout` produce. -/
theorem C03_timeout_response {ρ ε : Type} (chain : ε → List Link) (e : ε) (pre post : List Link)
    (hp : ∀ l ∈ pre, l = Link.opaque) (hc : chain e = pre ++ Link.timeout :: post) :
    ∃ r, recoverError (ρ := ρ) chain (.error e) = .response r ∧ r.status = 200 ∧
      getAll Interceptor.nameContentType r.headers = [(Interceptor.grpcContentType, false)] ∧
      getAll Interceptor.nameGrpcStatus r.headers = [(str "1", false)] ∧ r.body = none := by
  have h : tryFromError (chain e) = some timeoutStatus := by
    rw [hc]; exact (C03_try_from_error_chain pre post hp).2.1
  obtain ⟨r, h1, h2, h3, h4, h5, _⟩ := C03_recovered_error_response (ρ := ρ) chain e timeoutStatus h
  exact ⟨r, h1, h2, h3, h4, h5⟩

/-- **Every trailers-only response written by `Status::into_http`** — the interceptor's
rejection, `Routes`' fallback, `RecoverError` — is accepted by the oracle, for every status. -/
theorem C03_status_into_http_conformant (st : GStatus) (extra : Nat) :
    ∃ r, Interceptor.statusIntoHttp () st = some r ∧
      Spec.GrpcResponse.conformant
        { status := r.status, headers := r.headers, frames := List.replicate (extra + 1) Fr.eos } = true := by
  obtain ⟨H, hH, hct, hgs, _⟩ := Interceptor.statusIntoHttp_headers () st
  exact ⟨_, hH, conformant_of_headers H st.code extra hct hgs⟩

/-- **An interceptor's rejection is a conformant trailers-only response** (`InterceptedService`
with the rejecting status `st`). -/
theorem C03_interceptor_rejection_conformant {ρ ε : Type} (st : GStatus) (extra : Nat) :
    ∃ r, Interceptor.rejectOutcomeWith Interceptor.addHeader (ρ := ρ) (ε := ε) st = .response r ∧
      r.body = Interceptor.RespBody.empty ∧
      Spec.GrpcResponse.conformant
        { status := r.status, headers := r.headers, frames := List.replicate (extra + 1) Fr.eos } = true := by
  obtain ⟨H, hH, hct, hgs, _⟩ := Interceptor.statusIntoHttp_headers () st
  exact ⟨_, Interceptor.rejectOutcome_eq st H hH, rfl, conformant_of_headers H st.code extra hct hgs⟩

/-- **Unknown paths and unknown methods are answered with a conformant trailers-only
UNIMPLEMENTED**: `Routes`' fallback (also after axum added `content-length: 0`) and the default
arm of a generated server. -/
theorem C03_unimplemented_responses (extra : Nat) :
    (∃ r, routesFallback = some r ∧
      Spec.GrpcResponse.conformant
        { status := r.status, headers := r.headers, frames := List.replicate (extra + 1) Fr.eos } = true ∧
      Spec.GrpcResponse.conformant
        { status := (axumEmpty r).status, headers := (axumEmpty r).headers,
          frames := List.replicate (extra + 1) Fr.eos } = true ∧
      getAll Interceptor.nameGrpcStatus r.headers = [(str "12", false)]) ∧
    Spec.GrpcResponse.conformant
      { status := generatedUnimplemented.status, headers := generatedUnimplemented.headers,
        frames := List.replicate (extra + 1) Fr.eos } = true ∧
    Spec.GrpcResponse.conformant
      { status := (axumEmpty generatedUnimplemented).status, headers := (axumEmpty generatedUnimplemented).headers,
        frames := List.replicate (extra + 1) Fr.eos } = true ∧
    getAll Interceptor.nameGrpcStatus generatedUnimplemented.headers = [(str "12", false)] := by
  obtain ⟨H, hH, hct, hgs, _⟩ := Interceptor.statusIntoHttp_headers () ⟨12, [], [], []⟩
  -- axum's `content-length` is under a name of its own
  have hcl : ∀ (r : Response Unit) (k : Bytes), k ≠ str "content-length" →
      getAll k (axumEmpty r).headers = getAll k r.headers := by
    intro r k hk
    unfold axumEmpty
    split
    · rfl
    · exact (getAll_insert ..).trans (if_neg hk)
  obtain ⟨c1, c2, _⟩ := Interceptor.ne_of_not_mem _ Interceptor.contentLength_not_mem
  have gct : getAll Interceptor.nameContentType generatedUnimplemented.headers =
      [(Interceptor.grpcContentType, false)] := (getAll_insert ..).trans (if_pos rfl)
  have ggs : getAll Interceptor.nameGrpcStatus generatedUnimplemented.headers =
      [(Interceptor.codeHeaderValue 12, false)] := by
    simp [generatedUnimplemented, Interceptor.responseNew, getAll_insert,
      Ne.symm Interceptor.names_ne.2.2.2.1]
  exact ⟨⟨_, hH, conformant_of_headers _ 12 extra hct hgs,
      conformant_of_headers _ 12 extra ((hcl _ _ c1.symm).trans hct) ((hcl _ _ c2.symm).trans hgs), hgs⟩,
    conformant_of_headers _ 12 extra gct ggs,
    conformant_of_headers _ 12 extra ((hcl _ _ c1.symm).trans gct) ((hcl _ _ c2.symm).trans ggs), ggs⟩

/-- the seeded defect C03c as a model: `RecoverError` writing the status with `add_header` into a
fresh `Response::new` (no content-type) is rejected by the oracle, for every status.  (Witness
that the oracle clause is not vacuous.) -/
theorem C03_recover_without_into_http_fails (st : GStatus) (extra : Nat) :
    ∃ H, Interceptor.addHeader st [] = some H ∧
      Spec.GrpcResponse.conformant
        { status := 200, headers := H, frames := List.replicate (extra + 1) Fr.eos } = false := by
  obtain ⟨H, hH, hget⟩ := Interceptor.addHeaderWith_getAll (Interceptor.statusMetadataHeaders st) st []
  refine ⟨H, hH, ?_⟩
  obtain ⟨_, _, _, n4, n5, n6⟩ := Interceptor.names_ne
  have hct : getAll Interceptor.nameContentType H = [] := by
    rw [hget, getAll_extend_of_nil _ _ _ (by
      simp [Interceptor.statusMetadataHeaders_getAll, Interceptor.reservedHeaders_mem.1])]
    simp [n4, n5, n6, getAll_nil]
  have : Spec.GrpcResponse.contentTypeOk H = false := by
    rw [Spec.GrpcResponse.contentTypeOk, show str "content-type" = Interceptor.nameContentType from rfl, hct]
  simp [Spec.GrpcResponse.conformant, Spec.GrpcResponse.clauses, this]

end Producers

def idCodec : Codec Bytes := { ser := id, de := some, deErr := 13, cz := fun _ b => b, dz := fun _ b => some b }

example : Enc.run idCodec { comp := none, yieldThr := 0, maxSize := none, server := true } 5 Enc.init
      [.item [1, 2], .err ⟨5, .user⟩, .item [3]]
    = [.data [0, 0, 0, 0, 2, 1, 2], .trailers ⟨5, .user⟩, .none, .none, .none] := by decide +kernel

/- Non-vacuity of `C03_encode_failure_any_position`: an encoder failing on the third source event, with a
`Pending` and an encodable message before it and a message after it; both roles. -/
def failCodec : Codec Bytes := { idCodec with serFail := fun b => b.head? == some 255 }

example : AllOk failCodec { comp := none, yieldThr := 0, maxSize := none, server := true } [.item [1], .pending] ∧
    failCodec.serFail [255] = true := by
  refine ⟨?_, by decide +kernel⟩
  simp only [AllOk, and_true]
  decide +kernel
example : Enc.run failCodec { comp := none, yieldThr := 0, maxSize := none, server := true } 5 Enc.init
      [.item [1], .pending, .item [255], .item [2]]
    = [.data [0, 0, 0, 0, 1, 1], .pending, .trailers ⟨13, .encode⟩, .none, .none] := by decide +kernel
example : (Enc.run failCodec { comp := none, yieldThr := 0, maxSize := none, server := false } 5 Enc.init
      [.item [1], .pending, .item [255], .item [2]]).take 3
    = [.data [0, 0, 0, 0, 1, 1], .pending, .err ⟨13, .encode⟩] := by decide +kernel

/- Non-vacuity of the producer theorems: a wrapped status with forged metadata is found and
answered; a chain of unknown errors is not. -/
open HMapLite HttpLite RecoverError in
example : tryFromError [.opaque, .opaque, .status ⟨7, str "no", [1], [(str "content-type", (str "text/html", false))]⟩, .timeout]
    = some ⟨7, str "no", [1], [(str "content-type", (str "text/html", false))]⟩ := by
  repeat rw [str_lit]
  decide +kernel
open RecoverError in
example : tryFromError [.opaque, .h2 8 [], .opaque] = none := by decide +kernel
open RecoverError in
example : (tryFromError [.h2 8 []]).map (·.code) = some 1 := by decide +kernel

end C03

/-! ### The head of a NORMAL response, and `client::Grpc` as a value with a history (audit aC03).
Correspondence: case kinds `wresp` (handler metadata `HM` with reserved names, all four entry points)
and `wreq` (`nth = 2`, `clone = 1`) of `harness/src/c03_wire.rs`.  Both kinds are ORACLE-ONLY: `Model/GrpcWire.lean`
is imported by this file alone, it predicts no case.  `C03_normal_response_head` is a genuine fact about that
model (sanitising + insertion over arbitrary metadata); the two history theorems are transcription lemmas. -/
namespace C03
section Wire
open HMapLite HttpLite Interceptor GrpcWire

/-- **The head of a normal (not trailers-only) response is HTTP 200 with exactly one content-type,
`application/grpc`, and NO `grpc-status`** — whatever metadata the handler put on its `Response` (a forged
`grpc-status`, `content-type`, `te` … entry cannot reach the head: the one `grpc-status` of such a response is
the one in the trailers block, `C03_server_body_wellformed`) and whether or not an encoding is announced. -/
theorem C03_normal_response_head {ρ : Type} (metadata : Hdrs) (ext : Ext) (enc : Option Bytes) (b : ρ) :
    let r := mapResponseOk metadata ext enc b
    r.status = 200 ∧ r.body = b ∧
    getAll nameContentType r.headers = [(grpcContentType, false)] ∧
    getAll nameGrpcStatus r.headers = [] ∧
    getAll nameGrpcEncoding r.headers = (match enc with | some e => [(e, false)] | none => getAll nameGrpcEncoding metadata) := by
  obtain ⟨mc, _, ms⟩ := reservedHeaders_mem
  have he : nameGrpcEncoding ∉ reservedHeaders := fun h => grpcEncoding_not_mem (List.mem_cons_of_mem _ h)
  have ec : nameGrpcEncoding ≠ nameContentType := fun e => he (e ▸ mc)
  have es : nameGrpcEncoding ≠ nameGrpcStatus := fun e => he (e ▸ ms)
  cases enc <;>
    simp [mapResponseOk, responseIntoHttp, intoSanitizedHeaders, getAll_insert, getAll_removeAll,
      ms, he, ec, Ne.symm ec, Ne.symm es, Ne.symm names_ne.2.2.2.1]

example : getAll nameGrpcStatus (mapResponseOk [(str "grpc-status", (str "0", false)), (str "x-user", (str "1", false))] [] none ()).headers = [] := by
  decide +kernel

/-- The slip of mutant aC03-2 (`Response::into_http` taking the metadata as it is): a handler whose response
metadata contains `grpc-status: 0` gets a `grpc-status` into the HEADERS of a response that also ends with a
trailers block — two `grpc-status` (corpus line `wresp u g … HM 1 677270632d737461747573 30 …`). -/
theorem C03_normal_response_head_unsanitized_fails :
    getAll nameGrpcStatus
      (mapResponseOkUnsanitized [(str "grpc-status", (str "0", false))] [] none ()).headers ≠ [] := by
  decide +kernel

/-- Transcription lemma: `GrpcWire.callOnce` returns its configuration argument unchanged BY DEFINITION, `run` is the
fold over it and `clone` is structure eta, so this statement holds for any request builder whatsoever put in
the place of `prepareRequest` — "the value has no memory" is built into the model, not proved of tonic.  What
it records: in the model, after every history of calls the value is what it was, a clone of it is the same
value, and the request of the next call — on the value or on a clone — is `prepare_request` of the
configuration, this call's path and this call's request alone (so `C03_request_line` applies to every call of a
history of THE MODEL).  That the real `client::Grpc` keeps nothing between calls is carried by the
correspondence run alone: the oracle-only case kind `wreq` with `nth = 2` / `clone = 1`
(`harness/src/c03_wire.rs`, verdict `Driver/C03Wire.lean`; `Model/GrpcWire.lean` is not the prediction of any
case kind — no driver imports it). -/
theorem C03_request_line_every_call {β : Type} (c : Cfg) (hist : List (Bytes × TRequest β))
    (path : Bytes) (t : TRequest β) :
    (run c hist).1 = c ∧ clone (run c hist).1 = c ∧
    (callOnce (clone (run c hist).1) path t).2 = prepareRequest c.originPrefix c.originPath c.originHasQuery path t := by
  have h : (run c hist).1 = c := by
    induction hist with
    | nil => rfl
    | cons x rest ih => obtain ⟨p, t'⟩ := x; simpa [run, callOnce] using ih
  refine ⟨h, ?_, ?_⟩
  · rw [h]; rfl
  · rw [h]; rfl

/-- Transcription lemma: same remark as `C03_request_line_every_call` — `run` threads the unchanged configuration
through `callOnce` by definition, so "every request a history sends is the one `prepare_request` builds for
that call alone" holds for any request builder; the assurance about the real value is the `wreq` (`nth = 2`,
`clone = 1`) oracle cases. -/
theorem C03_history_requests {β : Type} (c : Cfg) (hist : List (Bytes × TRequest β)) :
    (run c hist).2 = hist.map (fun pt => prepareRequest c.originPrefix c.originPath c.originHasQuery pt.1 pt.2) := by
  induction hist with
  | nil => rfl
  | cons x rest ih => obtain ⟨p, t'⟩ := x; simp [run, callOnce, ih]

/-- The slip of mutant aC03-3 (the value caches the first URI it built), as a second hand-written model: there the
second call of a history goes to the FIRST call's path (corpus: `wreq … <nth = 2> …`, first call
`/first.Svc/Other`).  This shows that the request-line clause would notice such a cache (the clause is not
vacuous over histories); it does not show that tonic has none — that is the `wreq` correspondence. -/
theorem C03_request_line_fails_with_cached_uri :
    let t : TRequest Unit := { metadata := [], message := (), extensions := [] }
    let s0 : CachedSt := { cfg := { originPrefix := str "http://h", originPath := [], originHasQuery := false }, uri := none }
    let s1 := (callCached s0 (str "/first.Svc/Other") t).1
    (callCached s1 (str "/pkg.Svc/Method") t).2.uri = str "http://h/first.Svc/Other" ∧
    (callCached s1 (str "/pkg.Svc/Method") t).2.uri ≠ str "http://h/pkg.Svc/Method" := by
  repeat rw [str_lit]
  decide +kernel

end Wire
end C03
