import TonicModel.Lemmas.CompressionHttp
import TonicModel.Lemmas.CompressionPair
/-
C05 — Compression is used only as negotiated and configured.

`Compression.*` is the model of the code (after
`fixes/fix-C05-accept-encoding-enabled.patch`; the code as found is `Compression.Orig.*`);
`Spec.Compression.*` is the oracle.  `configure direct cs` is the 3-slot array a server ends up
with after the configuration calls `cs` (either route), `enabledAfter cs` the naive set those
calls denote.  Every theorem quantifies over all call sequences, all header byte strings, all
frame lists, all four call shapes and all handler scripts; none has a size bound.
-/
namespace C05
open CompObs Compression Spec.Compression

/-! ### what "configured" and "offers" mean -/

/-- Whatever the order, repetition and `pop`s of the configuration calls, and on both routes
(builder calls on `server::Grpc`, or a generated server's stored set copied by
`apply_compression_config`), an encoding is enabled iff the calls enabled it: the 3-slot array
never overflows and never drops or invents an entry. -/
theorem C05_configuration (direct : Bool) (cs : List Call) (e : Enc) :
    isEnabled (configure direct cs) e = (enabledAfter cs).contains e :=
  configure_agree direct cs e

/-- The executable test used by the oracle (`offersB`: split on commas, strip SP/HTAB, compare)
decides exactly the declarative reading of "the header value offers `e`". -/
theorem C05_offers_decidable (v : Bytes) (e : Enc) : offersB v e = true ↔ Offers v e :=
  offersB_iff v e

/-! ### sentence 1: the server's choice -/

/-- A server compresses only with an encoding it was configured to send and that the request's
`grpc-accept-encoding` offers — for every state of the enabled set and every list of header
values (any bytes). -/
theorem C05_server_choice (s : Slots) (vals : List Bytes) (e : Enc)
    (h : fromAcceptEncodingHeader vals s = some e) :
    isEnabled s e = true ∧ ∃ v rest, vals = v :: rest ∧ Offers v e := by
  obtain ⟨hen, v, rest, hv, ho⟩ := fromAccept_some h
  exact ⟨hen, v, rest, hv, (offersB_iff v e).mp (List.contains_iff_mem.mpr ho)⟩

/-- … and it is the client's first listed encoding among those the server may send (so a
mutually acceptable encoding is never passed over), for every visible-ASCII value. -/
theorem C05_server_choice_first_mutual (direct : Bool) (cs : List Call) (v : Bytes)
    (rest : List Bytes) (hv : v.all Ascii.isVisible = true) :
    fromAcceptEncodingHeader (v :: rest) (configure direct cs) = firstMutual (enabledAfter cs) v :=
  fromAccept_spec (configure_agree direct cs) hv

/-- Completeness: if some configured encoding is offered, the server does compress. -/
theorem C05_server_choice_complete (direct : Bool) (cs : List Call) (v : Bytes) (rest : List Bytes)
    (e : Enc) (hv : v.all Ascii.isVisible = true) (he : (enabledAfter cs).contains e = true)
    (ho : Offers v e) : fromAcceptEncodingHeader (v :: rest) (configure direct cs) ≠ none := by
  rw [C05_server_choice_first_mutual direct cs v rest hv, firstMutual]
  intro hn
  have := List.findSome?_eq_none_iff.mp hn _ (List.contains_iff_mem.mp ((offersB_iff v e).mpr ho))
  rw [nameOf_name, Option.filter_some, if_pos he] at this
  cases this

/-- A value that is not visible ASCII offers nothing: identity is sent. -/
theorem C05_server_choice_non_ascii (s : Slots) (v : Bytes) (rest : List Bytes)
    (hv : v.all Ascii.isVisible = false) : fromAcceptEncodingHeader (v :: rest) s = none := by
  rw [fromAccept_eq, toStrOk, hv]
  rfl

/-- The code as found at the pinned commit violates sentence 1: send = {gzip},
`grpc-accept-encoding: zstd,gzip` ⇒ zstd is chosen (DESIGN §5.4).  Replayed on the real code by
the first corpus case of `harness/src/c05.rs`. -/
theorem C05_server_choice_fails_before_fix :
    ¬ (∀ (s : Slots) (vals : List Bytes) (e : Enc),
        Orig.fromAcceptEncodingHeader vals s = some e → isEnabled s e = true) := by
  intro h
  have := h (configure true [.en .gzip]) [zstdName ++ [44] ++ gzipName] .zstd (by decide +kernel)
  revert this
  decide +kernel

/-! ### the server as observed (all shapes, all requests, all handler scripts) -/

/-- Observable form of sentence 1: every `grpc-encoding` the response carries names an encoding
configured for sending and offered by the request; there is at most one.  (Guard: the handler
does not itself put `grpc-encoding` into the response metadata — see
`C05_server_choice_fails_with_forged_metadata`.) -/
theorem C05_server_response_choice (direct : Bool) (acc snd : List Call) (req : SrvReq)
    (h : Handler) (hmd : h.forges = false) :
    srvChoice (enabledAfter snd) req
      (serve (configure direct acc) (configure direct snd) req h) = true :=
  serve_choice (configure_agree direct snd) hmd

/-- Without the guard the statement is false of the code: `grpc-encoding` is not a reserved
metadata name and `map_response` inserts its own value only when an encoding was chosen, so a
handler's own `grpc-encoding: gzip` reaches the wire on a server configured to send nothing
(known finding C05-F1; the witness is in the harness corpus). -/
theorem C05_server_choice_fails_with_forged_metadata :
    ¬ (∀ (direct : Bool) (acc snd : List Call) (req : SrvReq) (h : Handler),
        srvChoice (enabledAfter snd) req
          (serve (configure direct acc) (configure direct snd) req h) = true) := by
  intro h
  have := h true [] [] ⟨.unary, [], [gzipName], [⟨0, .raw⟩]⟩ (.reply 1 false [gzipName])
  revert this
  decide +kernel

/-- "announces it in grpc-encoding exactly when one is chosen": every response other than a
trailers-only error (i.e. every response that can carry messages, `grpc-status` in the trailers)
announces precisely the chosen encoding — nothing if none was chosen.  (A trailers-only error
response carries no message and no `grpc-encoding`: `C05_server_response_choice`.) -/
theorem C05_server_announces_iff_chosen (direct : Bool) (acc snd : List Call) (req : SrvReq)
    (h : Handler) (hmd : h.forges = false) :
    let o := serve (configure direct acc) (configure direct snd) req h
    o.stWhere = .trl →
      o.enc = ((fromAcceptEncodingHeader req.accVals (configure direct snd)).map name).toList :=
  serve_enc_trl hmd

/-- "… and otherwise sends identity": every message of every response is either flag 0 with the
message bytes themselves, or flag 1 compressed with exactly the announced encoding. -/
theorem C05_server_compresses_only_as_announced (direct : Bool) (acc snd : List Call)
    (req : SrvReq) (h : Handler) :
    srvAnnounce (serve (configure direct acc) (configure direct snd) req h) = true :=
  serve_announce

/-! ### sentence 2: refusing what was not enabled for receiving; flag without encoding -/

/-- A request whose `grpc-encoding` is not enabled for receiving is refused with UNIMPLEMENTED
before the handler runs, answering with a `grpc-accept-encoding` that lists precisely the enabled
encodings; no other request is refused on those grounds. -/
theorem C05_reject_unsupported (direct : Bool) (acc snd : List Call) (req : SrvReq) (h : Handler) :
    srvReject (enabledAfter acc) req
      (serve (configure direct acc) (configure direct snd) req h) = true :=
  serve_reject (configure_agree direct acc)

/-- What `recv … = refuse` says: there is a `grpc-encoding` value, it is not `identity`, and it
is not the name of an enabled encoding. -/
theorem C05_refuse_meaning (enabled : List Enc) (vals : List Bytes) :
    recv enabled vals = .refuse ↔
      ∃ v rest, vals = v :: rest ∧ v ≠ identity ∧ ∀ e, enabled.contains e = true → v ≠ name e := by
  cases vals with
  | nil => exact ⟨nofun, nofun⟩
  | cons v rest =>
    refine Iff.trans ?_ ⟨fun h => ⟨v, rest, rfl, h⟩, fun ⟨_, _, hv, h⟩ => by cases hv; exact h⟩
    rcases value_cases v with rfl | ⟨e, rfl⟩ | ⟨hi, hn⟩
    · exact ⟨nofun, fun h => absurd rfl h.1⟩
    · rw [recv_name]
      refine ⟨fun h => ⟨name_ne_identity e, fun e' he' heq => ?_⟩, fun h => if_neg fun he => h.2 e he rfl⟩
      rw [name_inj heq, if_pos he'] at h
      cases h
    · exact ⟨fun _ => ⟨hi, fun e _ => nameOf_eq_none hn e⟩, fun _ => recv_other hi hn⟩

/-- What `acceptListOk` says: one value, and an encoding's name is among its elements iff the
encoding is enabled (every other element is `identity`). -/
theorem C05_accept_list_meaning (enabled : List Enc) (vals : List Bytes)
    (h : acceptListOk enabled vals = true) :
    ∃ v, vals = [v] ∧ (∀ e, Offers v e ↔ enabled.contains e = true) ∧
      ∀ t ∈ tokens v, t = identity ∨ ∃ e, t = name e := by
  unfold acceptListOk at h
  split at h
  · rename_i v
    rw [Bool.and_eq_true, List.all_eq_true, List.all_eq_true] at h
    refine ⟨v, rfl, fun e => ?_, fun t ht => ?_⟩
    · rw [← offersB_iff, offersB]
      refine ⟨fun hm => ?_, fun he => h.2 e (List.contains_iff_mem.mp he)⟩
      simpa only [nameOf_name, beq_eq_false_iff_ne.mpr (name_ne_identity e), Bool.false_or] using
        h.1 _ (List.contains_iff_mem.mp hm)
    · rcases value_cases t with hi | hn | ⟨hi, hn⟩
      · exact Or.inl hi
      · exact Or.inr hn
      · have := h.1 t ht
        rw [hn, beq_eq_false_iff_ne.mpr hi] at this
        cases this
  · cases h

/-- One frame header: a message flagged as compressed is decoded with the negotiated encoding
and with nothing else; with no negotiated encoding it is the INTERNAL "compressed-flag but no
grpc-encoding" error; flag 0 is never decompressed; any other flag is an error. -/
theorem C05_flag_header (neg : Option Enc) (flag : UInt8) :
    (decodeFlag neg flag = .error .noEncoding ↔ flag = 1 ∧ neg = none) ∧
    (∀ c, decodeFlag neg flag = .ok c ↔ (flag = 0 ∧ c = none) ∨ (flag = 1 ∧ c = neg ∧ neg ≠ none)) := by
  unfold decodeFlag
  by_cases h0 : flag = 0
  · subst h0; simp [eq_comm]
  · by_cases h1 : flag = 1
    · subst h1; cases neg <;> simp [eq_comm]
    · simp [h0, h1]

/-- A message flagged as compressed when no encoding was negotiated is rejected with INTERNAL:
the call fails with status 13 (class "compressed-flag but no grpc-encoding"), that message and
all later ones never reach the handler, nothing is sent back — at any position in the request
stream, for all shapes. -/
theorem C05_flag_without_encoding (direct : Bool) (acc snd : List Call) (req : SrvReq)
    (h : Handler) :
    srvFlag (enabledAfter acc) req
      (serve (configure direct acc) (configure direct snd) req h) = true :=
  serve_flag (configure_agree direct acc)

/-- Conversely an acceptable request that is well-formed for the negotiated encoding reaches the
handler, each message decoded with exactly that encoding (flag 1) or untouched (flag 0). -/
theorem C05_acceptable_request_delivered (direct : Bool) (acc snd : List Call) (req : SrvReq)
    (h : Handler) :
    srvDeliver (enabledAfter acc) req
      (serve (configure direct acc) (configure direct snd) req h) = true :=
  serve_deliver (configure_agree direct acc)

/-! ### sentence 3: the client -/

/-- the `send_compressed` calls of a client: the last one wins -/
def sendOf (cs : List Enc) : Option Enc := cs.getLast?

/-- A client compresses every request message with exactly the encoding it was told to send and
says so in `grpc-encoding`; told nothing, it sends identity and no `grpc-encoding`.  (Guard: the
caller's own metadata carries no `grpc-encoding`.) -/
theorem C05_client_sends_configured (send : List Enc) (acc : List Call) (shape : Shape)
    (umdAcc : List Bytes) (k : Nat) (resp : CliResp) :
    cliSend (sendOf send)
      (call { send := sendOf send, accept := configure true acc } shape [] umdAcc k resp) = true :=
  cliSend_of_sent (cfg := ⟨sendOf send, configure true acc⟩) call_sent

/-- Without the guards the two client statements are false of the code: the caller's own
`grpc-encoding` / `grpc-accept-encoding` metadata pass through `prepare_request` when the
corresponding setting was never configured (known findings C05-F2, C05-F3). -/
theorem C05_client_headers_fail_with_forged_metadata :
    ¬ (∀ (umdEnc umdAcc : List Bytes) (resp : CliResp),
        cliSend none (call { send := none, accept := configure true [] } .unary umdEnc umdAcc 1 resp) = true ∧
        cliAdvertise [] (call { send := none, accept := configure true [] } .unary umdEnc umdAcc 1 resp) = true) := by
  intro h
  have := h [gzipName] [gzipName] { encVals := [], hdrStatus := none, frames := [⟨0, .raw⟩], trlStatus := some 0 }
  revert this
  decide +kernel

/-- A client advertises exactly the encodings it accepts: no header if it accepts none,
otherwise one value listing precisely them (plus `identity`).  (Guard: the caller's own metadata
carries no `grpc-accept-encoding`.) -/
theorem C05_client_advertises_accepted (send : Option Enc) (acc : List Call) (shape : Shape)
    (umdEnc : List Bytes) (k : Nat) (resp : CliResp) :
    cliAdvertise (enabledAfter acc)
      (call { send, accept := configure true acc } shape umdEnc [] k resp) = true :=
  cliAdvertise_of_sent (configure_agree true acc) call_sent

/-- A response whose `grpc-encoding` is not enabled for receiving is refused with
UNIMPLEMENTED; no other response is (guard: the peer's own status, which the client passes on
verbatim, is not itself such a refusal). -/
theorem C05_client_refuses_unsupported (send : Option Enc) (acc : List Call) (shape : Shape)
    (umdEnc umdAcc : List Bytes) (k : Nat) (resp : CliResp) (hp : resp.peerCls ≠ .unsupported) :
    cliRefuse (enabledAfter acc) resp
      (call { send, accept := configure true acc } shape umdEnc umdAcc k resp) = true :=
  call_refuse (configure_agree true acc) hp

/-- Client side of "flag without negotiated encoding ⇒ INTERNAL". -/
theorem C05_client_flag_without_encoding (send : Option Enc) (acc : List Call) (shape : Shape)
    (umdEnc umdAcc : List Bytes) (k : Nat) (resp : CliResp) :
    cliFlag (enabledAfter acc) resp
      (call { send, accept := configure true acc } shape umdEnc umdAcc k resp) = true :=
  call_flag (configure_agree true acc)

/-- An acceptable, well-formed, successful response is delivered decoded by exactly the
negotiated encoding. -/
theorem C05_client_response_delivered (send : Option Enc) (acc : List Call) (shape : Shape)
    (umdEnc umdAcc : List Bytes) (k : Nat) (resp : CliResp) :
    cliDeliver (enabledAfter acc) shape resp
      (call { send, accept := configure true acc } shape umdEnc umdAcc k resp) = true :=
  call_deliver (configure_agree true acc)

/-! ### the response's HTTP status -/

/-- Whatever the HTTP status of the response (200 or not; `callHttp` follows `create_response`,
`Streaming::new_response` and `infer_grpc_status` for the others): a response whose
`grpc-encoding` is not enabled for receiving is refused with UNIMPLEMENTED, and — under the guard
`hp`, the same as in `C05_client_refuses_unsupported`: the peer's own status, which the client
passes on verbatim, is not itself such a refusal — no other response is.  The encoding check comes
before anything the HTTP status decides.  Without the guard the "no other" half is false:
`C05_client_refusal_needs_the_peer_guard`. -/
theorem C05_client_refuses_unsupported_any_http_status (send : Option Enc) (acc : List Call)
    (shape : Shape) (umdEnc umdAcc : List Bytes) (k http : Nat) (resp : CliResp)
    (hp : resp.peerCls ≠ .unsupported) :
    cliRefuse (enabledAfter acc) resp
      (callHttp { send, accept := configure true acc } shape umdEnc umdAcc k http resp) = true :=
  callHttp_refuse (configure_agree true acc) hp

/-- The guard `hp` of the two refusal theorems is needed: a peer (another tonic, say) whose own
trailers carry the refusal status — UNIMPLEMENTED of class `unsupported` — for a response the
client has no reason to refuse (`grpc-encoding` absent) makes the caller see that status, which
the clause "no other response is refused" cannot tell from the client's own refusal. -/
theorem C05_client_refusal_needs_the_peer_guard :
    ¬ (∀ (http : Nat) (resp : CliResp),
        cliRefuse [.gzip] resp
          (callHttp { send := none, accept := configure true [.en .gzip] } .unary [] [] 1 http resp) = true) := by
  intro h
  have := h 200 { encVals := [], hdrStatus := none, frames := [], trlStatus := some 12, peerCls := .unsupported }
  revert this
  decide +kernel

/-- What the client sends and advertises does not depend on how the peer's answer looks (its HTTP
status included): the two client statements hold for every HTTP status under the same guards as
their HTTP-200 forms `C05_client_sends_configured` / `C05_client_advertises_accepted` — the
caller's own metadata carries no `grpc-encoding` (first conjunct; its `grpc-accept-encoding`
values `umdAcc` are arbitrary), resp. no `grpc-accept-encoding` (second conjunct; its
`grpc-encoding` values `umdEnc` are arbitrary).  Without these guards both statements are false
for every status: `C05_client_headers_fail_with_forged_metadata`. -/
theorem C05_client_request_any_http_status (send : List Enc) (acc : List Call) (shape : Shape)
    (umdEnc umdAcc : List Bytes) (k http : Nat) (resp : CliResp) :
    cliSend (sendOf send)
      (callHttp { send := sendOf send, accept := configure true acc } shape [] umdAcc k http resp) = true ∧
    cliAdvertise (enabledAfter acc)
      (callHttp { send := sendOf send, accept := configure true acc } shape umdEnc [] k http resp) = true :=
  ⟨cliSend_of_sent (cfg := ⟨sendOf send, configure true acc⟩) callHttp_sent,
    cliAdvertise_of_sent (configure_agree true acc) callHttp_sent⟩

/-- A client that looked at the HTTP status first (skipping the encoding check for a non-200
response, `callHttpLax`) would violate the refusal clause: accept = {gzip}, a 503 whose head says
`grpc-encoding: deflate` is then reported as UNAVAILABLE instead of UNIMPLEMENTED. -/
theorem C05_client_refusal_fails_if_http_status_is_consulted_first :
    ¬ (∀ (http : Nat) (resp : CliResp), resp.peerCls ≠ .unsupported →
        cliRefuse [.gzip] resp
          (callHttpLax { send := none, accept := configure true [.en .gzip] } .unary [] [] 1 http resp) = true) := by
  intro h
  have := h 503 { encVals := [deflateName], hdrStatus := none, frames := [], trlStatus := none } (by decide +kernel)
  revert this
  decide +kernel

/-! ### both together: any tonic client against any tonic server -/

/-- Whatever the two configurations (any call sequences on either side, either server route),
shape, stream length and handler script: the call is refused with UNIMPLEMENTED — the server's
accept list reaching the caller — exactly when the client sends an encoding the server does not
accept; otherwise every request message reaches the handler intact, the response is compressed
with the first encoding in the client's advertised order that the server may send (identity if
there is none), and the caller receives every response message intact: a tonic client never
refuses or garbles what a tonic server chooses to send it.  (`pairOk` is evaluated on the real
pair for the full 4 × 16 × 16 × 16 matrix of ordered subsets on every run.) -/
theorem C05_tonic_pair (send : Option Enc) (cacc : List Call) (direct : Bool) (sacc ssnd : List Call)
    (shape : Shape) (k : Nat) (h : Handler) (hmd : h.forges = false) :
    let r := pair { send, accept := configure true cacc } (configure direct sacc)
      (configure direct ssnd) shape k h
    pairOk send (enabledAfter cacc) (enabledAfter sacc) (enabledAfter ssnd) shape k h r.1 r.2 = true :=
  pair_ok (ccfg := ⟨send, configure true cacc⟩) (enabledList_configure_direct cacc)
    (configure_agree direct sacc) (configure_agree direct ssnd) hmd

/-! ### non-vacuity -/

-- "deflate ,\tgzip" offers gzip (declaratively), "gzipp, GZIP" does not
example : Offers [100, 101, 102, 108, 97, 116, 101, 32, 44, 9, 103, 122, 105, 112] .gzip :=
  (offersB_iff _ _).mp (by decide +kernel)
example : ¬ Offers [103, 122, 105, 112, 112, 44, 32, 71, 90, 73, 80] .gzip :=
  fun h => absurd ((offersB_iff _ _).mpr h) (by decide +kernel)
-- the §5.4 witness on the fixed model: send = {gzip}, "zstd,gzip" ⇒ gzip
example : fromAcceptEncodingHeader [zstdName ++ [44] ++ gzipName] (configure true [.en .gzip]) = some .gzip := by
  decide +kernel
example : enabledAfter [.en .zstd, .en .gzip, .en .zstd, .pop, .en .deflate] = [.zstd, .deflate] := by decide +kernel
example : recv [.gzip] [name .deflate] = .refuse ∧ recv [.gzip] [identity] = .identity := by decide +kernel
-- a request refused: accept = {zstd, gzip}, `grpc-encoding: deflate`
example : (serve (configure false [.en .zstd, .en .gzip]) (configure false []) ⟨.unary, [deflateName], [], [⟨1, .z .deflate⟩]⟩
    (.reply 1 false [])).acc = [gzipName ++ [44] ++ zstdName ++ [44] ++ identityName] := by decide +kernel
-- a flagged message without negotiated encoding, second in a client stream
example : (serve (configure true []) (configure true []) ⟨.bidi, [], [], [⟨0, .raw⟩, ⟨1, .z .gzip⟩]⟩
    (.reply 2 false [])).saw = [.ok .raw, .err 13 .flagNoEnc] := by decide +kernel

-- a pair that is refused, and one that negotiates deflate (client prefers zstd, server cannot send it)
example : (pair { send := some .zstd, accept := configure true [] } (configure true [.en .gzip])
    (configure true []) .unary 1 (.reply 1 false [])).2.result = [.err 12 .unsupported] := by decide +kernel
example : (pair { send := none, accept := configure true [.en .zstd, .en .deflate, .en .gzip] }
    (configure false []) (configure false [.en .gzip, .en .deflate]) .serverStreaming 1
    (.reply 2 false [])).1.frames = [⟨1, .z .deflate⟩, ⟨1, .z .deflate⟩] := by decide +kernel

end C05
