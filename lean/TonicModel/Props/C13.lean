import TonicModel.Model.Shutdown
import TonicModel.Spec.Shutdown
import TonicModel.Lemmas.Shutdown
import TonicModel.Lemmas.ShutdownViews
import TonicModel.Lemmas.ShutdownProgress
import TonicModel.Lemmas.ShutdownTrack
import TonicModel.Lemmas.ShutdownAccept
import TonicModel.Lemmas.ShutdownContract
import TonicModel.Lemmas.ShutdownBurst
import TonicModel.Model.ShutdownPair
/-
C13 — Graceful shutdown loses no accepted call.  Property theorems only; the proofs rest on the
`Lemmas/Shutdown*` files, the oracle is in `Spec/Shutdown`.

`Reachable g b a s`: `s` is reachable from the initial state of a server configured with
`g` (a shutdown signal is given), `b` (the accept loop's `select!` is `biased;`, i.e. the repaired
code) and `a` (`max_connection_age` set) by ANY finite interleaving of enabled steps — any number
of connections (plain or through the TLS handshake set) and calls (all four shapes), any placement
of the signal, any order of task steps.  The initial state is taken with ANY setting of
`Server::timeout` (`Reachable.init t`), so every statement about `Reachable g b a` covers servers
with and without a request timeout; time passing is the environment steps `ageTick` (a connection's
`max_connection_age` sleep elapsed) and `deadlineTick` (a call's `GrpcTimeout` sleep elapsed).

The clauses the doc comments name, all about tonic's own logic (serve_internal, serve_connection,
Fuse, ServerIoStream): (a) every accepted call runs to completion and every caller holds a prefix of
the true outcome of its call; (b) the biased accept loop takes nothing once the signal is ready,
also of several connections ready at once (counter-model `stepDrain`, Model/ShutdownBurst: a loop
that takes the whole backlog in one go); (c) the serve future resolves only when the watch
channel's receiver count — its own receiver plus one per unfinished connection task — is 0, and
then every accepted connection is closed; (d) progress: the server's own steps terminate, and every
maximal run of them from a closeable state ends resolved.  Sibling servers made from one builder
are the product of two copies of the system (Model/ShutdownPair).

"True outcome" (`Spec.outcome`, `Call.outcome`) is the handler's outcome, or the server's CANCELLED
"Timeout expired" for a call the request timeout cut; that timeout (tonic's own logic,
`GrpcTimeout` in `MakeSvc`) bounds the time to the response head only.

WHAT IS TAKEN FROM HYPER ON TRUST, and what merely follows from it: clause (a) is hyper's
graceful-shutdown contract.  In the model it is the guard `hyperConnDone` of the step `connBreak`;
`C13_inflight_never_dropped` and `C13_accepted_call_runs_to_completion` follow from that guard
(plus tonic never dropping a connection task or a stream itself, which IS checked: no tonic step
touches `calls`), and `C13_outcomes_truthful` holds by construction of `produce` / `deliver`.  The
trusted part is one named object, `HyperGracefulContract` (Lemmas/ShutdownContract).  The whole
contract pins three of hyper's five guards (`connDone`, `finalGoaway`, `deliver`) to exactly the
model's and lets the other two (`handshake`, `acceptStream`) only be restrictions of the model's,
so it is the NAMED STATEMENT of what is assumed of hyper rather than a generalisation; the safety
half alone (`HyperSafety`, one-directional) is genuinely more general — it covers every hyper whose
behaviours are a subset of the model's.  Whether the real hyper satisfies the contract is exercised
by the correspondence runs only.
-/
namespace C13
open Shutdown Spec.Shutdown

/-- (a, truth) In every reachable state every caller holds a prefix of the true outcome of its
call, and nothing at all of a call the server did not accept.
BY CONSTRUCTION of the model: `produce` appends the handler's next chunk of the plan, `deliver`
hands over the next written item — the model has no step that could corrupt or reorder an item.
That the real stack (tonic's encoder, hyper, h2) does not is what the correspondence runs check
(message contents, the response header and the status text are compared per call). -/
theorem C13_outcomes_truthful {g b a : Bool} {s : State} (h : Reachable g b a s) :
    truthful (callViews s) = true := by
  have hg := good_reachable h
  simp only [truthful, callViews, List.all_eq_true, List.mem_flatMap, List.mem_map,
    Bool.and_eq_true, Bool.or_eq_true, List.isEmpty_iff]
  rintro v ⟨cn, hcn, k, hk, rfl⟩
  exact callView_truthful ((hg.conns cn hcn).calls_ok k hk)

/-- (b) With the repaired (`biased;`) accept loop, a connection offered after the signal fired
is never accepted — in no reachable state, whatever the interleaving. -/
theorem C13_no_accept_after_signal {g a : Bool} {s : State} (h : Reachable g true a s) :
    noAcceptAfterSignal (connViews s) = true := by
  have hg := good_reachable h
  have hb := (reachable_cfg h).2.1
  simp only [noAcceptAfterSignal, connViews, List.all_eq_true, List.mem_map]
  rintro v ⟨cn, hcn, rfl⟩
  simp only [connView]
  cases ho : cn.offeredAfterSig with
  | false => simp
  | true => simp [(hg.conns cn hcn).late hb ho]

/-- (b) as enabledness: in every reachable state of the repaired server in which the signal has
fired, the accept step is disabled for every connection. -/
theorem C13_accept_disabled_after_signal {g a : Bool} {s : State} (h : Reachable g true a s)
    (hs : s.sigReady = true) (c : Nat) : step s (.loopAccept c) = none :=
  accept_disabled (good_reachable h) (Or.inl ⟨(reachable_cfg h).2.1, hs⟩) c

/-- (b) on traces: no execution of the repaired server contains an accept after the signal —
whatever happens before, between and after. -/
theorem C13_no_accept_after_signal_trace (g a t : Bool) (pre mid post : List Label) (c : Nat) :
    run (init g true a t) (pre ++ [.sigFire] ++ mid ++ [.loopAccept c] ++ post) = none := by
  cases hrun : run (init g true a t) (pre ++ [.sigFire] ++ mid ++ [.loopAccept c] ++ post) with
  | none => rfl
  | some sEnd =>
    obtain ⟨_, hrun, _⟩ := run_append.1 hrun
    obtain ⟨s3, hrun, hacc⟩ := run_append.1 hrun
    obtain ⟨s2, hrun, hmid⟩ := run_append.1 hrun
    obtain ⟨s1, hpre, hfire⟩ := run_append.1 hrun
    exact absurd (List.mem_append_right mid (List.mem_singleton_self _))
      (run_no_accept_after_signal (reachable_run (reachable_run (.init t) hpre) hfire)
        (sigReady_of_sigFire hfire) (run_append.2 ⟨s3, hmid, hacc⟩) c)

/-- What the code as found does guarantee: once the accept loop is over (it has SEEN the signal,
or incoming ended), nothing is accepted any more — also without `biased;`. -/
theorem C13_no_accept_once_loop_over {g b a : Bool} {s s' : State} {ls : List Label}
    (h : Reachable g b a s) (hloop : s.loopRunning = false) (hrun : run s ls = some s') (c : Nat) :
    step s' (.loopAccept c) = none :=
  accept_disabled (good_reachable (reachable_run h hrun)) (Or.inr ((run_frame_any hrun).loopOver hloop)) c

/-- (b) is FALSE of the accept loop as found (`select!` without `biased;`): the signal fires, a
connection is offered afterwards, and the loop — both branches ready — takes the connection. -/
theorem C13_no_accept_after_signal_fails :
    ∃ s, Reachable true false false s ∧ noAcceptAfterSignal (connViews s) = false := by
  refine ⟨_, .step (.loopAccept 0) (.step .offer (.step .sigFire (.init false) rfl) rfl) rfl, ?_⟩
  decide +kernel

/-- (b) for a BURST — several connections ready on `incoming` at the same instant, and the signal
becoming ready between two of them (on a single-threaded runtime: the accept itself fires it - an
`incoming` that serves `j` connections and then stops the server).  From ANY reachable state of the
repaired server, for EVERY burst size `n` and EVERY position `j` of the signal inside the burst
(`burstLabels`: `n` offers, the accept loop handed the first `j`, then `sigFire`), whatever happens
afterwards (`rest`: any labels, any length): every connection of the burst that was still queued
when the signal became ready — `j`, …, `n - 1` — is still unaccepted.  The loop looks at the signal
again before EVERY connection, however many are ready: there is no "rest of the backlog". -/
theorem C13_burst_not_accepted_past_signal {g a : Bool} {s0 s2 : State}
    (h0 : Reachable g true a s0) (n j : Nat) (rest : List Label)
    (hrun : run s0 (burstLabels s0.conns.length n j ++ rest) = some s2)
    (i : Nat) (hji : j ≤ i) (hin : i < n) :
    ∃ cn, s2.conns[s0.conns.length + i]? = some cn ∧ cn.accepted = false := by
  show Unaccepted s2 _
  obtain ⟨s1'', h3, hrest⟩ := run_append.1 hrun
  obtain ⟨s1', h12, hfire⟩ := run_append.1 h3
  obtain ⟨s1, h1, h2⟩ := run_append.1 h12
  -- the signal is ready from `s1''` on, so `rest` contains no accept at all
  have hrest' := run_no_accept_after_signal (reachable_run h0 h3) (sigReady_of_sigFire hfire) hrest
    (s0.conns.length + i)
  refine (run_frame (took := (· ∈ rest)) (fun _ => id) hrest).unaccepted ?_ hrest'
  refine (run_frame (took := (· = .sigFire)) (fun _ => List.eq_of_mem_singleton) hfire).unaccepted
    ?_ nofun
  -- the accept loop was handed the slots before `j` only
  refine (run_frame (took := (· ∈ burstAccepts s0.conns.length j)) (fun _ => id) h2).unaccepted
    (run_offers_unaccepted h1 hin) fun hm => ?_
  obtain ⟨i', hi', e⟩ := List.mem_map.1 hm
  injection e with e
  have := List.mem_range.1 hi'
  omega

/-- The same on traces, as a corollary of `C13_no_accept_after_signal_trace`: no execution of the
repaired server contains a burst with the signal at position `j` and, anywhere later, an accept —
of a connection of the burst or of any other. -/
theorem C13_burst_no_accept_after_signal_trace (g a t : Bool) (pre mid post : List Label)
    (base n j c : Nat) :
    run (init g true a t) (pre ++ burstLabels base n j ++ mid ++ [.loopAccept c] ++ post) = none := by
  have := C13_no_accept_after_signal_trace g a t (pre ++ burstOffers n ++ burstAccepts base j) mid post c
  simpa [burstLabels, List.append_assoc] using this

/-- The burst statement is FALSE of a loop that takes the whole backlog in one go (the counter-model
`stepDrain`: after handing a connection to its task the loop polls `incoming` again on the spot and
only goes back to `select!` — where the signal is looked at — when nothing is ready): two
connections offered at once, the first taken, the signal fires, and the second — queued when the
signal became ready — is accepted all the same. -/
theorem C13_burst_not_accepted_past_signal_fails_for_a_draining_loop :
    ∃ d, runDrain { st := init true true false, inDrain := false }
            (burstLabels 0 2 1 ++ [.loopAccept 1]) = some d
      ∧ d.st.sigReady = true ∧ (d.st.conns[1]?).map (·.accepted) = some true := by
  refine ⟨_, rfl, ?_, ?_⟩ <;> decide +kernel

/-- … and that is the ONLY difference: outside its inner loop (`inDrain = false`: the loop is at
`select!`) the counter-model takes exactly the steps of the model. -/
theorem C13_draining_loop_differs_only_inside_a_burst (d : DrainState) (l : Label)
    (h : d.inDrain = false) : (stepDrain d l).map (·.st) = step d.st l := by
  obtain ⟨st, _⟩ := d
  cases h
  -- every arm of `stepDrain` wraps a step of `st` into a `DrainState`; `·.st` unwraps it again
  have key (o : Option State) (b : State → Bool) :
      (o.map fun s' => (⟨s', b s'⟩ : DrainState)).map (·.st) = o := by cases o <;> rfl
  unfold stepDrain
  split <;> exact key _ _

-- the hypotheses of the burst theorem are satisfiable by non-trivial runs: a burst of 3 with the
-- signal behind the 2nd, on a server that already has a connection, followed by the loop's exit
example : (run (init true true false) ([.offer, .loopAccept 0] ++ burstLabels 1 3 2
    ++ [.loopSig, .afterLoop, .connSig 0])).isSome = true := by decide +kernel
-- … and the model itself refuses the step the draining loop takes
example : run (init true true false) (burstLabels 0 2 1 ++ [.loopAccept 1]) = none := by
  decide +kernel

/-- (c) + (a) Whenever the serve future has resolved, every accepted connection has been closed
and every accepted call whose caller did not itself give up has delivered its complete, true
outcome; and no accepted connection was open at the instant of resolution. -/
theorem C13_resolve_only_when_all_closed {b a : Bool} {s : State} (h : Reachable true b a s) :
    resolvedOnlyAfterClose s.resolved (connViews s) (callViews s) = true
    ∧ (s.resolved = true → s.openAtResolve = 0) := by
  have hg := good_reachable h
  have hgr := (reachable_cfg h).1
  refine ⟨?_, fun hr => hg.open_zero hr hgr⟩
  cases hr : s.resolved with
  | false => simp [resolvedOnlyAfterClose]
  | true =>
    simp only [resolvedOnlyAfterClose, Bool.not_true, Bool.false_or, Bool.and_eq_true]
    refine ⟨allClosed_connViews.2 fun cn hcn => (hg.conns cn hcn).resolved_closed hr hgr, ?_⟩
    simp only [acceptedCallsComplete, callViews, List.all_eq_true, List.mem_flatMap,
      List.mem_map, Bool.or_eq_true, Bool.not_eq_true', beq_iff_eq]
    rintro v ⟨cn, hcn, k, hk, rfl⟩
    have hc := hg.conns cn hcn
    cases hst : k.started with
    | false => exact Or.inl (Or.inl (by simp [callView, hst]))
    | true =>
      cases hab : (k.cancelled || cn.peerGone) with
      | true => exact Or.inl (Or.inr (by simp [callView, hab]))
      | false =>
        simp only [Bool.or_eq_false_iff] at hab
        right
        have hcl := hc.resolved_closed hr hgr (hc.hs_acc (hc.started_hs k hk hst))
        exact callView_complete (hc.calls_ok k hk) (hc.closed_calls hcl hab.2 k hk hst hab.1)

/-- The watch channel's receiver count is what the anchors say: the serve future's own receiver
(until the accept loop is over) plus one per connection task that has not finished — every open
accepted connection is counted, nothing but accepted connections is counted, and a count of zero
means every accepted connection is closed. -/
theorem C13_receiver_count_is_open_connections {b a : Bool} {s : State}
    (h : Reachable true b a s) :
    receiverCount s = (if s.afterDone then 0 else 1) + s.conns.countP (·.watcher)
    ∧ openCount s ≤ s.conns.countP (·.watcher)
    ∧ (∀ cn ∈ s.conns, cn.watcher = true → cn.accepted = true)
    ∧ (receiverCount s = 0 → allClosed (connViews s) = true) := by
  have hg := good_reachable h
  have hgr := (reachable_cfg h).1
  refine ⟨?_, ?_, ?_, ?_⟩
  · unfold receiverCount
    rw [hg.mainRx_eq]
    cases s.afterDone <;> simp
  · unfold openCount
    apply List.countP_mono_left
    intro cn hcn ho
    simp only [Conn.isOpen, Bool.and_eq_true, Bool.not_eq_true'] at ho
    exact (hg.conns cn hcn).open_watched ho.1 ho.2 hgr
  · intro cn hcn hw
    exact ((hg.conns cn hcn).watcher_acc hw).1
  · exact fun h0 => allClosed_connViews.2 (hg.all_closed_of_no_receivers hgr h0)

/-- "resolve enabled iff the accept loop has ended and the receiver count is 0": the exact
enabling condition of the `resolve` step. (Transcription lemma: it holds by unfolding the model's
definition, so it pins the model's shape for the correspondence run — its assurance about tonic is
the tie, not this proof.) -/
theorem C13_resolve_enabled_iff (s : State) :
    (step s .resolve).isSome = true ↔
      s.afterDone = true ∧ s.resolved = false ∧ (s.cfgGraceful = true → receiverCount s = 0) := by
  show (if _ then some _ else none : Option State).isSome = true ↔ _
  rw [Option.isSome_ite, Bool.and_eq_true, Bool.and_eq_true, Bool.not_eq_true', Bool.or_eq_true,
    Bool.not_eq_true', beq_iff_eq, and_assoc]
  cases s.cfgGraceful
  · exact ⟨fun h => ⟨h.1, h.2.1, nofun⟩, fun h => ⟨h.1, h.2.1, Or.inl rfl⟩⟩
  · exact ⟨fun h => ⟨h.1, h.2.1, fun _ => h.2.2.resolve_left nofun⟩,
      fun h => ⟨h.1, h.2.1, Or.inr (h.2.2 rfl)⟩⟩

/-- (a, step by step) FOLLOWS FROM hyper's contract (the guard `hyperConnDone` of `connBreak`)
together with facts about tonic that are checked here: none of tonic's own steps (accept loop,
`send`, `graceful_shutdown()` calls, dropping the watcher, resolving) removes a call or closes a
connection — only `connBreak` closes, and only under hyper's guard; and the one tonic step that
does end a call, the request timeout (`expire`), is enabled only before the call's response head.
An accepted call is never dropped by the server: for every reachable state — with or without
`Server::timeout`, `max_connection_age` configured —
and EVERY step out of it — the signal, the accept loop ending, `send`, a connection task seeing the
signal or its age limit, graceful shutdown, the final GOAWAY, other connections closing, the serve
future resolving, any timer elapsing or firing, … — other than the caller's own `cancel` of this
call or `peerDrop` of its connection: the call is still there and still accepted, its handler's
outcome is unchanged, what was written to it is only extended, what the caller received has only
grown; it is cut by the request timeout in the new state only if it already was or this very step
is its `expire` and it had not reached its response head; and if its connection is closed in the
new state, the caller holds the complete true outcome (the handler's, if the call was not cut). -/
theorem C13_inflight_never_dropped {g b a : Bool} {s s' : State} {l : Label} {c j : Nat}
    {cn : Conn} {k : Call} (h : Reachable g b a s) (hs : step s l = some s')
    (hc : s.conns[c]? = some cn) (hk : cn.calls[j]? = some k)
    (hst : k.started = true) (hcan : k.cancelled = false) (hpg : cn.peerGone = false)
    (hl1 : l ≠ .cancel c j) (hl2 : l ≠ .peerDrop c) :
    ∃ cn' k', s'.conns[c]? = some cn' ∧ cn'.calls[j]? = some k'
      ∧ k'.started = true ∧ k'.cancelled = false ∧ cn'.peerGone = false
      ∧ k'.plan = k.plan ∧ (∃ more, k'.sent = k.sent ++ more) ∧ k.recv ≤ k'.recv
      ∧ (k'.expired = true → k.expired = true ∨ (l = .expire c j ∧ k.headDone = false))
      ∧ (cn'.closed = true → (callView cn' k').got = outcome (callView cn' k'))
      ∧ (cn'.closed = true → k'.expired = false → (callView cn' k').got = k.plan.map toOut) := by
  obtain ⟨cn', k', h1, h2, fk, _, hko', hst', hcan', hpg', hcomp⟩ :=
    (step_frame (took := (l = ·)) hs rfl).follow_call (good_step (good_reachable h) hs) hc hk hst
      hcan hpg hl1 hl2
  refine ⟨cn', k', h1, h2, hst', hcan', hpg', fk.plan, fk.sent, fk.recv, fun he => ?_,
    fun hcl => callView_complete hko' (hcomp hcl), fun hcl he => ?_⟩
  · exact fk.expired.imp (·.symm.trans he) id
  · rw [callView_complete_plan hko' (hcomp hcl) he, fk.plan]

/-- Transcription lemma (definitional): this is the guard of `step _ (.expire c j)` unfolded — the
"exact enabling condition" is the one written into the model, so the theorem restates a definition
and carries no assurance of its own (twin of `C13_resolve_enabled_iff`).  What rests on it are the
trace-level theorems of this section (`C13_timeout_never_cuts_a_streaming_body`, …); that the real
`GrpcTimeout` stops at the response head is established by the correspondence run (scripts with
the `t<secs>` option = `Server::timeout`: streaming bodies that outlive the timeout, calls cut
before their head).
THE REQUEST TIMEOUT FIRES ONLY BEFORE THE RESPONSE HEAD (tonic's own logic: `GrpcTimeout` wraps
the handler's response future, not the response body).  The exact enabling condition of `expire`:
a timeout is configured, the call's handler was invoked and its sleep has elapsed, the handler has
not returned its response yet, the caller is still there, the call was not cut before.  In
particular: never without `Server::timeout`, never for a call past its response head. -/
theorem C13_timeout_fires_only_before_head (s : State) (c j : Nat) :
    (step s (.expire c j)).isSome = true ↔
      s.cfgTimeout = true ∧ ∃ cn k, s.conns[c]? = some cn ∧ cn.calls[j]? = some k
        ∧ cn.closed = false ∧ k.started = true ∧ k.cancelled = false ∧ k.headersDeadline = true
        ∧ k.headDone = false ∧ k.expired = false := by
  constructor
  · intro h
    obtain ⟨s', hs'⟩ := Option.isSome_iff_exists.1 h
    obtain ⟨ht, hs'⟩ := Option.ite_none_right_eq_some.1 hs'
    obtain ⟨cn, k, hc, hk, hgd, _⟩ := updCall_some hs'
    simp only [Bool.and_eq_true, Bool.not_eq_true', and_assoc] at hgd
    exact ⟨ht, cn, k, hc, hk, hgd⟩
  · rintro ⟨ht, cn, k, hc, hk, h1, h2, h3, h4, h5, h6⟩
    exact guard_isSome ht (updCall_isSome hc hk (by rw [h1, h2, h3, h4, h5, h6]; rfl))

/-- A CALL PAST ITS RESPONSE HEAD IS ENDED ONLY BY ITS HANDLER OR BY ITS CALLER — whatever timers
are configured (`Server::timeout`, `max_connection_age`) and whenever they elapse or fire.
Take any reachable state (any configuration), an accepted call in it whose handler has returned
its response (`headDone`: the response head is out, the body may be streaming) and whose caller is
still there, and ANY run from there — the server's own steps in any order, the shutdown signal,
deadline and age ticks, `expire` attempts, other peers coming and going — in which this caller does
not cancel the call or leave.  Then at the end the call is still there, not cancelled, NOT cut by
the timeout; everything written to it is the handler's (written ++ still to come = the handler's
outcome), what the caller holds has only grown, and if its connection has been closed the caller
holds the handler's complete outcome.
This is what a "drain timeout" taken from `Server::timeout` in `serve_connection` would violate:
the model has no step that closes a connection under an unsettled call (`connBreak` is guarded by
hyper's contract), and the only tonic step that ends a call is `expire`. -/
theorem C13_timeout_never_cuts_a_streaming_body {g b a : Bool} {s s' : State} {ls : List Label}
    {c j : Nat} {cn : Conn} {k : Call} (h : Reachable g b a s) (hrun : run s ls = some s')
    (hc : s.conns[c]? = some cn) (hk : cn.calls[j]? = some k)
    (hst : k.started = true) (hhead : k.headDone = true)
    (hcan : k.cancelled = false) (hpg : cn.peerGone = false)
    (hall : ∀ l ∈ ls, l ≠ .cancel c j ∧ l ≠ .peerDrop c) :
    ∃ cn' k', s'.conns[c]? = some cn' ∧ cn'.calls[j]? = some k'
      ∧ k'.started = true ∧ k'.cancelled = false ∧ cn'.peerGone = false
      ∧ k'.expired = false ∧ k'.headDone = true
      ∧ k'.plan = k.plan ∧ (∃ more, k'.sent = k.sent ++ more)
      ∧ k'.sent ++ k'.todo.flatten = k.plan ∧ k.recv ≤ k'.recv
      ∧ (callView cn' k').timedOut = false
      ∧ (cn'.closed = true → (callView cn' k').got = k.plan.map toOut) := by
  have hg := good_reachable h
  have hko := (hg.conns cn (List.mem_of_getElem? hc)).calls_ok k (List.mem_of_getElem? hk)
  obtain ⟨cn', k', h1, h2, fk, _, hko', hst', hcan', hpg', hcomp⟩ :=
    (run_frame (took := (· ∈ ls)) (fun _ => id) hrun).follow_call (good_run hg hrun) hc hk hst hcan
      hpg (fun hm => (hall _ hm).1 rfl) (fun hm => (hall _ hm).2 rfl)
  -- a call past its response head was not cut before, and no `expire` can cut it now
  have hne' : k'.expired = false := by
    rcases fk.expired with e | ⟨_, e⟩
    · cases he : k.expired with
      | false => exact e.trans he
      | true => exact absurd hhead (Bool.eq_false_iff.1 (hko.expired_nohead he))
    · exact absurd hhead (Bool.eq_false_iff.1 e)
  refine ⟨cn', k', h1, h2, hst', hcan', hpg', hne', fk.headDone hhead, fk.plan, fk.sent, ?_, fk.recv,
    hne', fun hcl => ?_⟩
  · rw [hko'.plan_eq hne', fk.plan]
  · rw [callView_complete_plan hko' (hcomp hcl) hne', fk.plan]

/-- The server's own steps (tonic's tasks, hyper, handlers) cannot go on for ever: any run made
of internal steps only is at most `weight s` long — from ANY state, for any interleaving. -/
theorem C13_internal_steps_terminate {s s' : State} {ls : List Label}
    (hall : ∀ l ∈ ls, l.internal = true) (h : run s ls = some s') :
    ls.length + weight s' ≤ weight s :=
  internal_run_bounded hall h

/-- (d, no stuck state) In every reachable state in which shutdown has been requested (signal
fired, or incoming ended, or the loop is over), no handler is waiting for an outside release or
for the rest of its caller's request, and the future has not resolved yet, the server can take a
step of its own.  (`Unblocked` is a property of one state; `Closeable`, which internal steps
preserve, is what `C13_every_maximal_run_resolves` uses.) -/
theorem C13_not_stuck_before_resolved {b a : Bool} {s : State} (h : Reachable true b a s)
    (hreq : ShutdownRequested s) (hub : Unblocked s) (hres : s.resolved = false) :
    ∃ l, l.internal = true ∧ (step s l).isSome = true :=
  progress (good_reachable h) (reachable_cfg h).1 hreq hub hres

/-- (d) "and does resolve once they have": from every reachable state in which the accept loop is
over and every accepted connection is closed, the serve future resolves within `weight s` steps
of its own — nothing else has to happen. -/
theorem C13_resolve_enabled_once_all_closed {b a : Bool} {s : State} (h : Reachable true b a s)
    (hloop : s.loopRunning = false) (hclosed : allClosed (connViews s) = true) :
    ∃ ls s', (∀ l ∈ ls, l.internal = true ∧ l.drains = true) ∧ run s ls = some s'
      ∧ s'.resolved = true ∧ ls.length ≤ weight s := by
  refine internal_run_until
    (fun s => Good s ∧ s.cfgGraceful = true ∧ s.loopRunning = false ∧ AllClosed s)
    (·.resolved = true) (·.drains = true) (fun _ => Label.drains_internal) ?_ ?_
    ⟨good_reachable h, (reachable_cfg h).1, hloop, allClosed_connViews.1 hclosed⟩
  · intro s l s' ⟨hg, hgr, hl, ha⟩ hi hs
    have fr := step_frame_any hs
    exact ⟨good_step hg hs, fr.cfgGraceful.trans hgr, fr.loopOver hl, allClosed_step hg hl ha hi hs⟩
  · intro s ⟨hg, hgr, hl, ha⟩ hr
    exact progress_drains hg hgr (Or.inr (Or.inr hl)) (unblocked_of_allClosed hg ha)
      (Bool.eq_false_iff.2 hr)

/-- (a)+(d) liveness of the whole shutdown (existential form; `C13_every_maximal_run_resolves` is
the universal one): from every reachable state in which shutdown has been requested, handlers are
left to run and every remaining caller has completed its request (`RequestsDone`; trivially true of
unary and server-streaming calls), the server reaches — by its own steps alone, in at most
`weight s` of them, without any client having to go away and without the request timeout cutting
anything (`drains` steps only) — a state where the serve future has resolved; by
`C13_resolve_only_when_all_closed` every accepted call is complete there. -/
theorem C13_shutdown_completes {b a : Bool} {s : State} (h : Reachable true b a s)
    (hreq : ShutdownRequested s) (hfree : s.freeRun = true) (hdone : RequestsDone s) :
    ∃ ls s', (∀ l ∈ ls, l.internal = true ∧ l.drains = true) ∧ run s ls = some s'
      ∧ s'.resolved = true ∧ ls.length ≤ weight s :=
  (draining_of_reachable h hreq (closeable_of_requestsDone hfree hdone)).resolves

/-- (a) end to end, for one call.  FOLLOWS FROM hyper's contract (`hyperConnDone`: a connection
closes under a call only when the call is settled) and the progress result
`C13_shutdown_completes`, which is about tonic's bookkeeping; `RequestsDone` — every caller that
is still there has sent its complete request — is needed since client-streaming and bidi calls
exist in the model (a handler's last phase waits for the end of the request stream; a client that
never finishes its request keeps a graceful shutdown waiting for ever, in the real server too).
Take ANY reachable state in which shutdown has been requested —
so the signal may have fired before the call's response headers, mid-stream or as it completes —
and a call the server has accepted there whose caller is still present.  If handlers are left to
run, the server by its own steps reaches a state where the serve future has resolved and THIS call
(same slot, same true outcome — the handler's, unless the request timeout had already cut the call
before) has been received by its caller completely. -/
theorem C13_accepted_call_runs_to_completion {b a : Bool} {s : State} {c j : Nat} {cn : Conn}
    {k : Call} (h : Reachable true b a s) (hreq : ShutdownRequested s) (hfree : s.freeRun = true)
    (hdone : RequestsDone s)
    (hc : s.conns[c]? = some cn) (hk : cn.calls[j]? = some k)
    (hst : k.started = true) (hcan : k.cancelled = false) (hpg : cn.peerGone = false) :
    ∃ ls s' cn' k', (∀ l ∈ ls, l.internal = true) ∧ run s ls = some s' ∧ s'.resolved = true
      ∧ s'.conns[c]? = some cn' ∧ cn'.calls[j]? = some k' ∧ k'.plan = k.plan
      ∧ k'.expired = k.expired
      ∧ (callView cn' k').got = k.outcome.map toOut
      ∧ (k.expired = false → (callView cn' k').got = k.plan.map toOut) := by
  obtain ⟨ls, s', halld, hrun, hres, _⟩ := C13_shutdown_completes h hreq hfree hdone
  have hall : ∀ l ∈ ls, l.internal = true := fun l hl => (halld l hl).1
  -- a run of draining steps: nobody cancels, no peer leaves, no `expire`
  obtain ⟨cn', k', h1, h2, fk, hk', hko', hst', _, _, hcomp⟩ :=
    (run_frame (took := (· ∈ ls)) (fun _ => id) hrun).follow_call (good_run (good_reachable h) hrun)
      hc hk hst hcan hpg (fun hm => nomatch hall _ hm) (fun hm => nomatch hall _ hm)
  have hexp : k'.expired = k.expired := fk.expired.resolve_right fun e => nomatch (halld _ e.1).2
  have hcl := hk'.resolved_closed hres (reachable_cfg (reachable_run h hrun)).1
    (hk'.hs_acc (hk'.started_hs k' (List.mem_of_getElem? h2) hst'))
  have hout : (callView cn' k').got = k.outcome.map toOut := by
    rw [callView_complete hko' (hcomp hcl), outcome_callView, Call.outcome, Call.outcome, fk.plan,
      hexp]
  refine ⟨ls, s', cn', k', hall, hrun, hres, h1, h2, fk.plan, hexp, hout, fun he => ?_⟩
  rw [hout, Call.outcome, he]
  rfl

/-- TLS accept path (`ServerIoStream`): a failed handshake does not stop the accept loop — after
`tlsFail c` the loop is as it was, and every other connection that could be accepted (or handed to
the handshake set) before still can. -/
theorem C13_failed_handshake_keeps_accepting {s s' : State} {c c' : Nat}
    (h : step s (.tlsFail c) = some s') (hne : c' ≠ c) :
    s'.loopRunning = s.loopRunning ∧ incomingBranch s' = incomingBranch s
    ∧ ((step s (.loopAccept c')).isSome = true → (step s' (.loopAccept c')).isSome = true)
    ∧ ((step s (.tlsTake c')).isSome = true → (step s' (.tlsTake c')).isSome = true) := by
  obtain ⟨cn, hc, _, rfl⟩ := updConn_some h
  -- slot `c'` is as it was, so a guarded rewrite of it is enabled if it was
  have key {g : Conn → Bool} {f f' : Conn → Conn} (h1 : (updConn s c' g f).isSome = true) :
      (updConn { s with conns := s.conns.set c { cn with pending := false } } c' g f').isSome
        = true := by
    obtain ⟨_, h1⟩ := Option.isSome_iff_exists.1 h1
    obtain ⟨x, hx, hg, _⟩ := updConn_some h1
    exact updConn_isSome ((List.getElem?_set_ne (Ne.symm hne)).trans hx) hg
  refine ⟨rfl, rfl, fun h1 => ?_, fun h1 => ?_⟩
  all_goals
    obtain ⟨_, h1⟩ := Option.isSome_iff_exists.1 h1
    obtain ⟨hib, h1⟩ := Option.ite_none_right_eq_some.1 h1
    exact guard_isSome hib (key (Option.isSome_iff_exists.2 ⟨_, h1⟩))

/-- TLS accept path: a connection whose handshake is still running (or has just finished) in the
`JoinSet` when the signal fires is never accepted by the repaired loop — whether it was offered
before or after the signal. -/
theorem C13_handshake_in_progress_at_signal_not_accepted {g a : Bool} {s s' : State}
    {ls : List Label} {c : Nat} (h : Reachable g true a s) (hs : s.sigReady = true)
    (hrun : run s ls = some s') :
    step s' (.loopAccept c) = none ∧ step s' (.tlsTake c) = none := by
  have hr' := reachable_run h hrun
  have hdead := incomingBranch_dead (good_reachable hr')
    (Or.inl ⟨(reachable_cfg hr').2.1, (run_frame_any hrun).sigReady hs⟩)
  exact ⟨guard_none hdead, guard_none hdead⟩

/-- **A resolved serve future holds no connection it never accepted.**  In every reachable state in
which the serve future has resolved, no connection is still `pending` — offered on `incoming` and
not (yet) handed to the accept loop: queued on the stream, or inside `ServerIoStream`'s `JoinSet`
with its TLS handshake running or just finished.  Returning drops `incoming` with everything queued
on it and aborts the handshake tasks; and nothing offered afterwards is taken.  ("Resolves only
after all connections have closed" for the connections that are not accepted ones; the accepted
ones are `C13_resolve_only_when_all_closed`.  The harness observes it as `held`, clause
`no-connection-held-after-resolve`; seed C13g: handshake tasks that outlive the serve future.) -/
theorem C13_resolved_holds_no_unaccepted_connection {g b a : Bool} {s : State}
    (h : Reachable g b a s) (hres : s.resolved = true) :
    ∀ cn ∈ s.conns, cn.pending = false :=
  fun cn hcn => ((good_reachable h).conns cn hcn).resolved_npending hres

/-- (d, universal form) EVERY maximal run of the server's own steps resolves: take any reachable
state in which shutdown has been requested and all connections are closeable (every call its
caller still wants has its complete request and all the releases its handler needs, or handlers
run freely).  Whatever internal steps the server's tasks take from there, in whatever order —
if the run cannot be extended (no internal step is enabled at its end), the serve future has
resolved there, after at most `weight s` steps.  (Termination measure `weight` + the progress
lemma: a non-resolved draining state always has an enabled internal step.) -/
theorem C13_every_maximal_run_resolves {b a : Bool} {s s' : State} {ls : List Label}
    (h : Reachable true b a s) (hreq : ShutdownRequested s) (hcl : Closeable s)
    (hall : ∀ l ∈ ls, l.internal = true) (hrun : run s ls = some s')
    (hmax : ∀ l, l.internal = true → step s' l = none) :
    s'.resolved = true ∧ ls.length ≤ weight s :=
  (draining_of_reachable h hreq hcl).maximal_run_resolves hall hrun
    fun l hd => by rw [hmax l (Label.drains_internal hd)]; rfl

/-- … and maximal runs exist: from ANY state, any run of internal steps can be continued to one
that cannot be extended (there is no infinite run of internal steps). -/
theorem C13_maximal_run_exists (s : State) :
    ∃ ls s', (∀ l ∈ ls, l.internal = true) ∧ run s ls = some s'
      ∧ (∀ l, l.internal = true → step s' l = none) := by
  obtain ⟨ls, s', hall, hrun, hmax, _⟩ := internal_run_until (fun _ => True)
    (fun s => ∀ l, l.internal = true → step s l = none) (·.internal = true) (fun _ => id)
    (fun _ _ _ _ _ _ => trivial)
    (fun s _ hn => Classical.byContradiction fun hne => hn fun l hi => by
      cases hs : step s l with
      | none => rfl
      | some s1 => exact absurd ⟨l, hi, by rw [hs]; rfl⟩ hne)
    (s := s) trivial
  exact ⟨ls, s', fun l hl => (hall l hl).1, hrun, hmax⟩

/-- The trusted object is inhabited by the model's own guards, and the model IS the transition
system over them: `step = stepH hyperModel`, `hyperModel` satisfies `HyperGracefulContract`.  So
every theorem above is the instance `H := hyperModel` of a statement about an arbitrary hyper. -/
theorem C13_hyper_contract_of_model :
    HyperGracefulContract hyperModel ∧ ∀ s l, stepH hyperModel s l = step s l :=
  ⟨hyperModel_contract, stepH_hyperModel⟩

/-- SAFETY for any hyper that satisfies the safety half of the contract (every hyper whose
behaviours are among the model's): every state the server can reach over such a hyper is a
reachable state of the model, hence the clauses (a truth), (b), (c) hold in it. -/
theorem C13_safety_under_hyper_contract {H : Hyper} (hc : HyperSafety H) {b a : Bool} {s : State}
    (h : ReachableH H true b a s) :
    Reachable true b a s
    ∧ truthful (callViews s) = true
    ∧ resolvedOnlyAfterClose s.resolved (connViews s) (callViews s) = true
    ∧ (b = true → noAcceptAfterSignal (connViews s) = true) := by
  have hr := reachableH_sub hc h
  refine ⟨hr, C13_outcomes_truthful hr, (C13_resolve_only_when_all_closed hr).1, fun hb => ?_⟩
  subst hb
  exact C13_no_accept_after_signal hr

/-- LIVENESS for a hyper that satisfies the whole contract (which leaves only `handshake` and
`acceptStream` free to be more restrictive than the model's — see the header): every maximal run of
the server's own steps OVER THAT HYPER, from a reachable state in which shutdown has been requested
and all connections are closeable, ends with the serve future resolved (and is at most `weight s`
long). -/
theorem C13_every_maximal_run_resolves_under_hyper_contract {H : Hyper}
    (hc : HyperGracefulContract H) {b a : Bool} {s s' : State} {ls : List Label}
    (h : ReachableH H true b a s) (hreq : ShutdownRequested s) (hcl : Closeable s)
    (hall : ∀ l ∈ ls, l.internal = true) (hrun : runH H s ls = some s')
    (hmax : ∀ l, l.internal = true → stepH H s' l = none) :
    s'.resolved = true ∧ ls.length ≤ weight s := by
  refine (draining_of_reachable (reachableH_sub hc.toHyperSafety h) hreq hcl).maximal_run_resolves
    hall (runH_sub hc.toHyperSafety hrun) fun l hd => ?_
  -- a draining step enabled in the model would be enabled over this hyper too
  cases hs : (step s' l).isSome with
  | false => rfl
  | true =>
    have := stepH_of_step_drains hc.toHyperLiveness hd hs
    rw [hmax l (Label.drains_internal hd)] at this
    cases this

-- a resolved state is reachable with something in it: an accepted connection and a call that was
-- in flight when the signal came
example : ∃ s, Reachable true true false s ∧ s.resolved = true
    ∧ (connViews s).any (·.accepted) = true ∧ (callViews s).any (·.started) = true := by
  refine ⟨_, reachable_getD _ _ _ false [.offer, .loopAccept 0, .hsDone 0,
      .issue 0 [[.hdr, .msg 0, .status 0]] 0, .callStart 0 0, .sigFire, .loopSig, .afterLoop,
      .connSig 0, .final 0, .permit 0 0, .produce 0 0, .deliver 0 0, .deliver 0 0, .deliver 0 0,
      .connBreak 0, .connDropWatcher 0, .resolve], ?_⟩
  decide +kernel

-- the hypotheses of the liveness theorems are satisfiable by a non-trivial reachable state: the
-- signal fired with a streaming call in flight whose handler has one released phase
example : ∃ s, Reachable true true false s ∧ ShutdownRequested s ∧ Unblocked s
    ∧ s.resolved = false ∧ (callViews s).any (fun v => v.started && v.got != v.plan) = true := by
  refine ⟨_, reachable_getD _ _ _ false [.offer, .loopAccept 0, .hsDone 0,
      .issue 0 [[.hdr], [.msg 0], [.status 0]] 0, .callStart 0 0, .permit 0 0, .sigFire],
    Or.inl ?_, unblocked_of_bool ?_, ?_⟩ <;> decide +kernel

-- … and those of `C13_resolve_enabled_once_all_closed`: the one accepted connection is closed, its
-- task not yet finished (it still holds its watcher)
example : ∃ s, Reachable true true false s ∧ s.loopRunning = false
    ∧ allClosed (connViews s) = true ∧ (connViews s).any (·.accepted) = true
    ∧ s.resolved = false ∧ receiverCount s = 1 := by
  refine ⟨_, reachable_getD _ _ _ false [.offer, .loopAccept 0, .hsDone 0, .sigFire, .loopSig,
      .afterLoop, .connSig 0, .final 0, .connBreak 0], ?_⟩
  decide +kernel

-- … and those of `C13_inflight_never_dropped`: the step is the connection task seeing the signal
example : ∃ s s' cn k, Reachable true true false s ∧ step s (.connSig 0) = some s'
    ∧ s.conns[0]? = some cn ∧ cn.calls[0]? = some k ∧ k.started = true ∧ k.cancelled = false
    ∧ cn.peerGone = false := by
  refine ⟨_, _, _, _, reachable_run (ls := [.offer, .loopAccept 0, .hsDone 0,
      .issue 0 [[.hdr], [.status 0]] 0, .callStart 0 0, .sigFire, .loopSig, .afterLoop]) (.init false) rfl,
    rfl, rfl, rfl, rfl, rfl, rfl⟩

-- … and those of `C13_accepted_call_runs_to_completion`: the signal fires mid-stream (headers and
-- one message delivered, more to come), handlers then run freely
example : ∃ s cn k, Reachable true true false s ∧ ShutdownRequested s ∧ s.freeRun = true
    ∧ RequestsDone s
    ∧ s.conns[0]? = some cn ∧ cn.calls[0]? = some k ∧ k.started = true ∧ k.cancelled = false
    ∧ cn.peerGone = false ∧ k.recv = 2 ∧ k.todo.length = 2 := by
  refine ⟨_, _, _, reachable_run (ls := [.offer, .loopAccept 0, .hsDone 0,
      .issue 0 [[.hdr], [.msg 0], [.msg 1], [.status 0]] 0, .callStart 0 0, .permit 0 0,
      .produce 0 0, .deliver 0 0, .permit 0 0, .produce 0 0, .deliver 0 0, .sigFire, .freeRun])
      (.init false) rfl, Or.inl rfl, rfl, requestsDone_of_bool (by decide +kernel), rfl, rfl, rfl, rfl, rfl, rfl,
      rfl⟩

-- the hypotheses of `C13_every_maximal_run_resolves` are satisfiable by a non-trivial state: one
-- connection accepted through the TLS handshake set carrying a client-streaming call whose
-- request is complete (2 of 2 messages sent) and a bidi call that is mid-stream, both released;
-- a second TLS connection whose client has not spoken yet; then the signal
example : ∃ s, Reachable true true false s ∧ ShutdownRequested s ∧ Closeable s
    ∧ s.resolved = false ∧ (callViews s).any (fun v => v.started && v.got != v.plan) = true
    ∧ s.conns.any (fun cn => cn.tls && cn.accepted) = true
    ∧ s.conns.any (fun cn => cn.inSet && !cn.tlsOk) = true := by
  refine ⟨_, reachable_getD _ _ _ false [.offerTls true false, .tlsTake 0, .tlsDone 0, .loopAccept 0,
      .hsDone 0, .offerTls false false, .tlsTake 1,
      .issue 0 [[.hdr, .msg 0, .status 0]] 2, .callStart 0 0, .reqSend 0 0, .reqSend 0 0,
      .issue 0 [[.hdr], [.msg 0], [.status 5]] 1, .callStart 0 1, .reqSend 0 1,
      .permit 0 0, .permit 0 1, .permit 0 1, .permit 0 1, .produce 0 1, .deliver 0 1,
      .sigFire], Or.inl ?_, closeable_of_bool ?_, ?_⟩ <;> decide +kernel

-- … and the conclusion is not vacuous either: a run of internal steps from such a state that ends
-- resolved (every call complete), spelled out
example :
    let s0 := run (init true true false) [.offer, .loopAccept 0, .hsDone 0,
      .issue 0 [[.hdr, .msg 0, .status 0]] 1, .callStart 0 0, .reqSend 0 0, .permit 0 0, .sigFire]
    let ls : List Label := [.loopSig, .afterLoop, .connSig 0, .final 0, .produce 0 0, .deliver 0 0,
      .deliver 0 0, .deliver 0 0, .connBreak 0, .connDropWatcher 0, .resolve]
    (s0.map closeableB) = some true ∧ ls.all Label.internal = true
    ∧ ((s0.bind (run · ls)).map fun s => (s.resolved, acceptedCallsComplete (callViews s)))
        = some (true, true) := by
  decide +kernel

-- the hypotheses of `C13_timeout_never_cuts_a_streaming_body` are satisfiable by the situation the
-- theorem is about: `Server::timeout` and `max_connection_age` configured, a server-streaming call
-- whose response head and first message are out, its `GrpcTimeout` sleep long elapsed; the run that
-- follows has the signal, the connection task's graceful shutdown, more clock ticks and the rest of
-- the stream.  `expire` is not enabled for that call at the start (`step s (.expire 0 0) = none`).
example : ∃ s cn k ls s', Reachable true true true s ∧ s.cfgTimeout = true
    ∧ s.conns[0]? = some cn ∧ cn.calls[0]? = some k ∧ k.started = true ∧ k.headDone = true
    ∧ k.headersDeadline = true ∧ k.cancelled = false ∧ cn.peerGone = false
    ∧ step s (.expire 0 0) = none
    ∧ run s ls = some s' ∧ (∀ l ∈ ls, l ≠ .cancel 0 0 ∧ l ≠ .peerDrop 0)
    ∧ s'.resolved = true ∧ acceptedCallsComplete (callViews s') = true := by
  refine ⟨_, _, _, [.sigFire, .loopSig, .afterLoop, .connSig 0, .deadlineTick 0 0, .ageTick 0,
      .connAge 0, .final 0, .permit 0 0, .produce 0 0, .deliver 0 0, .permit 0 0, .produce 0 0,
      .deliver 0 0, .connBreak 0, .connDropWatcher 0, .resolve], _,
    reachable_run (ls := [.offer, .loopAccept 0, .hsDone 0,
      .issue 0 [[.hdr], [.msg 0], [.msg 1], [.status 0]] 0, .callStart 0 0, .permit 0 0,
      .produce 0 0, .deliver 0 0, .permit 0 0, .produce 0 0, .deliver 0 0, .deadlineTick 0 0])
      (.init true) rfl,
    rfl, rfl, rfl, rfl, rfl, rfl, rfl, rfl, by decide +kernel, rfl, ?_, by decide +kernel,
    by decide +kernel⟩
  intro l hl
  constructor <;> rintro rfl <;>
    simp only [List.mem_cons, reduceCtorEq, List.not_mem_nil, or_self] at hl

-- … and `C13_timeout_fires_only_before_head` is not vacuous: with `Server::timeout` configured, a
-- unary call whose handler has not answered when its sleep elapses IS cut (`expire` enabled); the
-- caller then receives the server's "Timeout expired" — that is the call's true outcome
-- (`timedOut`), the connection drains and the serve future resolves
example :
    let s0 := run (init true true false true) [.offer, .loopAccept 0, .hsDone 0,
      .issue 0 [[.hdr, .msg 0, .status 0]] 0, .callStart 0 0, .sigFire, .deadlineTick 0 0]
    let ls : List Label := [.expire 0 0, .loopSig, .afterLoop, .connSig 0, .final 0, .deliver 0 0,
      .connBreak 0, .connDropWatcher 0, .resolve]
    (s0.map fun s => (step s (.expire 0 0)).isSome) = some true
    ∧ ((s0.bind (run · ls)).map fun s =>
        (s.resolved, acceptedCallsComplete (callViews s), truthful (callViews s)))
        = some (true, true, true)
    ∧ ((s0.bind (run · ls)).map fun s => (callViews s).map (fun v => (v.timedOut, v.got)))
        = some [(true, [.expired])]
    -- without the timeout configured the same call is never cut
    ∧ ((run (init true true false false) [.offer, .loopAccept 0, .hsDone 0,
      .issue 0 [[.hdr, .msg 0, .status 0]] 0, .callStart 0 0, .sigFire]).map
        fun s => ((step s (.deadlineTick 0 0)).isSome, (step s (.expire 0 0)).isSome))
      = some (false, false) := by
  decide +kernel

-- the hypotheses of `C13_failed_handshake_keeps_accepting` are satisfiable, with something to keep
-- accepting: connection 0 sent plain HTTP (its handshake fails), connection 1 has finished its
-- handshake and waits in the set for the loop
example : ∃ s, Reachable true true false s ∧ (step s (.tlsFail 0)).isSome = true
    ∧ (step s (.loopAccept 1)).isSome = true := by
  refine ⟨_, reachable_getD _ _ _ false [.offerTls false true, .tlsTake 0, .offerTls true false,
      .tlsTake 1, .tlsDone 1], ?_⟩
  decide +kernel

-- a hyper that is NOT the model's and still satisfies the contract: one that never completes a
-- handshake and never accepts a stream (the contract asks for neither) — so the contract is
-- strictly weaker than "hyper = the guards written into `step`"
example : ∃ H : Hyper, HyperGracefulContract H ∧ H.handshake ≠ hyperModel.handshake := by
  refine ⟨{ hyperModel with handshake := fun _ => false, acceptStream := fun _ _ => false },
    { connDone_only := hyperModel_contract.connDone_only
      handshake_only := by intro cn h; cases h
      finalGoaway_only := hyperModel_contract.finalGoaway_only
      acceptStream_only := by intro cn k h; cases h
      deliver_only := hyperModel_contract.deliver_only
      connDone_when := hyperModel_contract.connDone_when
      finalGoaway_when := hyperModel_contract.finalGoaway_when
      deliver_when := hyperModel_contract.deliver_when }, ?_⟩
  intro h
  have := congrFun h (Conn.new false false)
  simp [hyperModel, Conn.new] at this

/-! ### Sibling servers (one builder, two servers) -/

/-- Transcription lemma (definitional): both directions together — a pair run IS a pair of lone runs of
its two projections (the characterisation of a product; no property of `serve_internal` enters). -/
theorem C13_sibling_servers_independent_iff (ls : List (Side × Label)) (p p' : Pair) :
    runPair p ls = some p' ↔
      run p.a (labelsOf .a ls) = some p'.a ∧ run p.b (labelsOf .b ls) = some p'.b := by
  induction ls generalizing p with
  | nil =>
    exact ⟨fun h => by cases h; exact ⟨rfl, rfl⟩,
      fun ⟨ha, hb⟩ => by cases p; cases p'; cases ha; cases hb; rfl⟩
  | cons x ls ih =>
    obtain ⟨sd, l⟩ := x
    cases sd with
    | a =>
      show (match (step p.a l).map _ with | some p1 => runPair p1 ls | none => none) = _ ↔
        run p.a (l :: labelsOf .a ls) = _ ∧ _
      rw [run]
      cases step p.a l with
      | none => exact ⟨nofun, fun h => nomatch h.1⟩
      | some s => exact ih _
    | b =>
      show (match (step p.b l).map _ with | some p1 => runPair p1 ls | none => none) = _ ↔
        _ ∧ run p.b (l :: labelsOf .b ls) = _
      rw [run]
      cases step p.b l with
      | none => exact ⟨nofun, fun h => nomatch h.2⟩
      | some s => exact ih _

/-- Transcription lemma (definitional): `Pair` / `stepPair` (Model/ShutdownPair.lean) ARE the product of
two copies of `step`, so this is the projection property of a product and holds for EVERY transition
function — nothing of `serve_internal` is used.  "Sibling servers share nothing" is the modelling
DECISION (read off the code: `add_service` clones the builder; the watch channel, the `Fuse`s and the
connection tasks are created per `serve_internal` call), not something this theorem establishes; the
assurance is the correspondence run (the `z` cases: a sibling server from the same builder, its signal
never fired, must stay unaffected while the script shuts the other down; clause
`sibling-unaffected`) and the kernel-checked contrast with a builder that carries the watch channel
(`C13_sibling_resolve_fails_with_shared_channel`, `C13_sibling_independence_fails_with_shared_channel`).
SIBLING SERVERS, AS MODELLED.  Two servers made by `add_service` on one `Server` builder value run as
the product of two copies of the transition system: along ANY interleaving of their steps, each
server's own steps - in order - are a run of that server alone, ending in its component of the final
state.  So everything proved of `Reachable` states and of `run` holds of each of the two, whatever the
other one does: its signal, its connections, its calls, its resolution.  (Only this direction; the
converse — any two lone runs interleave into a pair run — is `C13_sibling_servers_independent_iff`.) -/
theorem C13_sibling_servers_independent (ls : List (Side × Label)) :
    ∀ (p p' : Pair), runPair p ls = some p' →
      run p.a (labelsOf .a ls) = some p'.a ∧ run p.b (labelsOf .b ls) = some p'.b :=
  fun p p' => (C13_sibling_servers_independent_iff ls p p').1

/-- Transcription lemma (definitional): corollary of the product projection
`C13_sibling_servers_independent` (true of every product of transition systems); tie: the `z` cases.
A server is untouched by whatever a sibling built from the same builder goes through (its
shutdown signal, its drain, its resolution): if only the sibling takes steps, this server's state
is what it was. -/
theorem C13_sibling_untouched (ls : List (Side × Label)) (p p' : Pair)
    (h : runPair p ls = some p') (hs : ∀ x ∈ ls, x.1 = Side.a) : p'.b = p.b := by
  have hb := (C13_sibling_servers_independent ls p p' h).2
  have : labelsOf .b ls = [] := by
    simp only [labelsOf, List.filterMap_eq_nil_iff]
    intro x hx
    have := hs x hx
    simp [this]
  rw [this] at hb
  simpa [run] using hb.symm

/-- Transcription lemma (definitional): corollary of the product projection
`C13_sibling_servers_independent`; it transfers the lone-server theorems to each component of the
product and says nothing about whether the product is the right model (tie: the `z` cases).
Both servers of a pair started from initial states stay within the reachable states of a lone
server (so `C13_no_accept_after_signal`, `C13_resolve_only_when_all_closed`, … apply to each). -/
theorem C13_sibling_servers_reachable (g g' b a a' t t' : Bool) (ls : List (Side × Label)) (p' : Pair)
    (h : runPair { a := init g b a t, b := init g' b a' t' } ls = some p') :
    Reachable g b a p'.a ∧ Reachable g' b a' p'.b := by
  have := C13_sibling_servers_independent ls _ p' h
  exact ⟨reachable_run (.init t) this.1, reachable_run (.init t') this.2⟩

/-- Transcription lemma (definitional): the guard of `step _ .resolve` unfolded through `stepPair`,
twin of `C13_resolve_enabled_iff`; the content is
the contrast with `stepPairShared` (next theorem) and the tie (`z` cases: the script's server resolves
while its sibling still serves a streaming call).
The serve future of one server waits for its OWN receivers only: `resolve` is enabled in the
pair exactly when it is enabled for that server alone - whatever connections the sibling has. -/
theorem C13_sibling_resolve_waits_for_own_connections_only (p : Pair) :
    (stepPair p .a .resolve).isSome
      = (p.a.afterDone && !p.a.resolved && (!p.a.cfgGraceful || receiverCount p.a == 0)) := by
  show ((if _ then some _ else none : Option State).map _).isSome = _
  rw [Option.isSome_map]
  generalize (p.a.afterDone && !p.a.resolved && (!p.a.cfgGraceful || receiverCount p.a == 0)) = c
  cases c <;> rfl

/-- … and this is false of a builder that carries the watch channel (shared by its clones): a
server whose signal fired and which has no connection at all cannot resolve while its sibling is
merely running (the sibling's `signal_rx` is a receiver of the shared channel). -/
theorem C13_sibling_resolve_fails_with_shared_channel :
    ∃ p : Pair, receiverCount p.a = 0 ∧ p.a.afterDone = true ∧ p.a.conns = []
      ∧ (stepPair p .a .resolve).isSome = true ∧ (stepPairShared p .a .resolve).isSome = false := by
  refine ⟨{ a := ((run (init true true false) [.sigFire, .loopSig, .afterLoop]).getD (init true true false)),
            b := init true true false }, ?_, ?_, ?_, ?_, ?_⟩ <;> decide +kernel

/-- Transcription lemma (definitional): the converse projection property of the product, again true of
every transition function.  Any run of server `a` alone and any run of server `b` alone, interleaved
in ANY way, are a run of the pair: neither server ever has to wait for, or is ever blocked by, the
other.  (This is the half a shared watch channel breaks:
`C13_sibling_independence_fails_with_shared_channel`.) -/
theorem C13_sibling_lone_runs_interleave (ls : List (Side × Label)) :
    ∀ (p : Pair) (sa sb : State),
      run p.a (labelsOf .a ls) = some sa → run p.b (labelsOf .b ls) = some sb →
      runPair p ls = some { a := sa, b := sb } :=
  fun p sa sb ha hb => (C13_sibling_servers_independent_iff ls p ⟨sa, sb⟩).2 ⟨ha, hb⟩

/-- … and the interleaving half is FALSE of a builder that carries the watch channel (counter-model
`stepPairShared`, run over whole interleavings by `runPairBy`): server `a` alone can resolve (signal
fired, accept loop left, no connection), server `b` alone can stay as it is, but the pair cannot
take `a`'s `resolve` step — `a` is blocked by a sibling that is merely running.  So the two
projection lemmas above do tell the product from this sharing. -/
theorem C13_sibling_independence_fails_with_shared_channel :
    ¬ ∀ (ls : List (Side × Label)) (p : Pair),
      (run p.a (labelsOf .a ls)).isSome = true → (run p.b (labelsOf .b ls)).isSome = true →
      (runPairBy stepPairShared p ls).isSome = true := by
  intro h
  have := h [(.a, .resolve)]
    { a := ((run (init true true false) [.sigFire, .loopSig, .afterLoop]).getD (init true true false)),
      b := init true true false } (by decide +kernel) (by decide +kernel)
  revert this
  decide +kernel

end C13
