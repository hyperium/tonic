import TonicModel.Lemmas.CallEnd
import TonicModel.Lemmas.CallKnobs
/-
C02 — Client observes exactly the messages, metadata and status the server produced; the
handler receives exactly the request the caller sent; under any transport fragmentation.

The property theorems, with the translation of model values into the oracle's (`specSt`, `didOf`,
`sawOf`, `gotOf`) and the caller-side hypotheses `RequestOk`, `Budget`; the handler-side ones
(`ScriptOk`, `MsgOk`, `noEncodingName`) and `SameStatus` head `Lemmas/CallWire.lean`.  The model is
`Model/Call.lean` (a composition of the framing, status and metadata models of
C01/C03/C04/C06/C07/C08); the oracle is `Spec/Call.lean` (no model import); the work is in
`Lemmas/Call.lean`, `CallWire.lean`, `CallEnd.lean`, and `CallKnobs.lean` for the size limits.

Reading guide.  `Call.Cfg` = codec + encoder yield threshold + `fuel` (how many polls a side
waits before the model calls it a hang).  `Call.clientRequest c nc r` is the HTTP request the
client's `Grpc` hands to the transport for caller request `r` (body polled `nc` times).
`Call.serve c ns q s sc rd` is what the server's `Grpc` entry point (`q`: takes a request
stream, `s`: returns a response stream) does with request delivery `rd` and handler script `sc`:
what the handler saw, and the HTTP response.  `Call.clientReceive c s d` is what the client API
returns for response delivery `d`.

THE TRANSPORT ASSUMPTION is the pair of relations `Call.ReqTransports sent got` /
`Call.RespTransports sent got` (hypotheses `htq` / `htr` below): headers (and status) arrive
intact; the data bytes arrive as ANY list of chunks with ANY `Pending`s in between whose
concatenation is the bytes sent; the trailers frame arrives intact after all data (built into
the type `RespDelivery`).  Every theorem quantifies over all deliveries satisfying it.  This is
what is assumed of hyper/h2; flow control, RST_STREAM and GOAWAY are outside the model — C02 is
*partial* in that sense.
-/
namespace C02
open Call Framing
variable {α : Type}

def specSt (st : FSt) : Spec.Call.St := ⟨st.code.num, st.message, st.details, st.metadata⟩

/-- what the handler did, abstractly -/
def didOf (sc : Script α) : Spec.Call.Did α :=
  match sc.early with
  | some st => .failed (specSt st)
  | none => .responded sc.initMd sc.body.msgs (sc.final.map specSt)

/-- what the client API returned, abstractly -/
def sawOf : ClientObs α → Spec.Call.Saw α
  | .err st => .failed (specSt st)
  | .single md m => .single md m
  | .stream md ms e _ => .stream md ms (e.map specSt)
  | .hang => .other

/-- what the handler was given, abstractly -/
def gotOf : Seen α → Spec.Call.Got α
  | .notCalled => .notCalled
  | .unary md m => .unary md m
  | .stream md ms e => .stream md ms (e.map Option.isNone)

/-- What is asked of the caller: messages both ends can carry, and no metadata entry named
`grpc-encoding` (not reserved by tonic; the server would take it for the compression header). -/
structure RequestOk (cd : Codec α) (r : CallReq α) : Prop where
  msgs : ∀ m ∈ r.msgs.msgs, MsgOk cd m
  md : noEncodingName r.md

/-- poll budgets: the transports poll the bodies to their end; nobody gives up early -/
structure Budget (c : Cfg α) (r : CallReq α) (sc : Script α) (nc ns : Nat) (rd : ReqDelivery) (d : RespDelivery) : Prop where
  client : r.msgs.length + 1 < nc
  server : sc.body.length + 2 < ns
  reqFuel : rd.chunks.length < c.fuel
  respFuel : d.chunks.length + 1 + sc.body.msgs.length < c.fuel

private theorem sameStatus_spec (want got : FSt) (h : SameStatus want got) :
    Spec.Call.sameStatus (specSt want) (specSt got) = true := by
  obtain ⟨h1, h2, h3, h4⟩ := h
  simp [Spec.Call.sameStatus, specSt, h1, h2, h3, (carried_exactly_of _ _ h4).1]

private theorem code_ne_zero (st : FSt) (h : st.code ≠ .ok) : ((specSt st).code != 0) = true := by
  simp [specSt, num_eq_zero, h]

/-- **The handler of a unary-request method receives exactly the caller's message and
metadata** — for every caller metadata map, every message, every yield threshold, and EVERY
delivery of the request allowed by the transport relation (any cut of the 5-byte prefix or the
payload, any `Pending` pattern); whatever the handler then does (`sc`), and for both response
shapes (`s`: unary, server-streaming). -/
theorem C02_handler_sees_request_unary [BEq α] [LawfulBEq α] (c : Cfg α) (laws : CodecLaws c.cd)
    (r : CallReq α) (m : α) (hone : r.msgs.msgs = [m]) (rok : RequestOk c.cd r)
    (nc : Nat) (hnc : r.msgs.length + 1 < nc)
    (rd : ReqDelivery) (htq : ReqTransports (clientRequest c nc r) rd) (hfuel : rd.chunks.length < c.fuel)
    (ns : Nat) (s : Bool) (sc : Script α) :
    Spec.Call.handlerOk false sc.reads ⟨r.md, r.msgs.msgs⟩ (gotOf (serve c ns false s sc rd).1) = true ∧
    (serve c ns false s sc rd).2 = handlerResponse c ns s sc := by
  rw [serve_unary_sees c laws r m hone rok.msgs rok.md nc hnc rd htq hfuel ns s sc]
  refine ⟨?_, rfl⟩
  simp only [gotOf, Spec.Call.handlerOk, hone, Bool.not_false, Bool.true_and, beq_self_eq_true]
  exact exactly_requestWire r.md

/-- **The handler of a streaming-request method receives exactly the caller's messages, in
order, then the clean end of the stream, and the caller's metadata** — for every request
schedule (any number of messages, `Pending`s anywhere), every delivery allowed by the transport
relation, and every number `sc.reads` of `message()` calls the handler chooses to make (if it
stops early it has seen the corresponding prefix). -/
theorem C02_handler_sees_request_streaming [BEq α] [LawfulBEq α] (c : Cfg α) (laws : CodecLaws c.cd)
    (r : CallReq α) (rok : RequestOk c.cd r)
    (nc : Nat) (hnc : r.msgs.length + 1 < nc)
    (rd : ReqDelivery) (htq : ReqTransports (clientRequest c nc r) rd) (hfuel : rd.chunks.length < c.fuel)
    (ns : Nat) (s : Bool) (sc : Script α) :
    Spec.Call.handlerOk true sc.reads ⟨r.md, r.msgs.msgs⟩ (gotOf (serve c ns true s sc rd).1) = true ∧
    (serve c ns true s sc rd).2 = handlerResponse c ns s sc := by
  rw [serve_stream_sees c laws r rok.msgs rok.md nc hnc rd htq hfuel ns s sc]
  refine ⟨?_, rfl⟩
  by_cases hk : sc.reads ≤ r.msgs.msgs.length <;>
    simp [gotOf, Spec.Call.handlerOk, exactly_requestWire r.md, hk]

/-- **Streaming-response methods: the client sees the script.**  For every handler script —
`Err(status)` at once, or any initial metadata, any `k ≥ 0` messages with any `Pending` pattern,
ended normally or by any error status (any non-OK code, any message text, any details bytes, any
metadata) — and EVERY delivery of the server's response allowed by the transport relation:
`Grpc::streaming` / `server_streaming` return the initial metadata; `message()` yields exactly
the script's messages in order; then `None` iff the handler's stream ended normally, otherwise
`Err` with the handler's code, message, details and every custom metadata entry (under its
name, values in order); and an `Err(status)` handler makes the call itself fail with that status. -/
theorem C02_client_sees_script_response_stream [BEq α] [LawfulBEq α] (c : Cfg α) (laws : CodecLaws c.cd)
    (sc : Script α) (ok : ScriptOk c.cd sc)
    (ns : Nat) (hns : sc.body.length + 2 < ns)
    (d : RespDelivery) (htr : RespTransports (handlerResponse c ns true sc) d)
    (hfuel : d.chunks.length + 1 + sc.body.msgs.length < c.fuel) :
    Spec.Call.clientOk true (didOf sc) (sawOf (clientReceive c true d)) = true := by
  cases he : sc.early with
  | some st =>
    obtain ⟨st', hobs, hsame⟩ := client_sees_early c true sc st he ok ns d htr true
    simp [didOf, he, hobs, sawOf, Spec.Call.clientOk, sameStatus_spec _ _ hsame, code_ne_zero st (ok.early st he).1]
  | none =>
    obtain ⟨ended, tr, hobs, hend⟩ := clientStream_sees c laws sc he ok ns hns d htr hfuel
    simp only [clientReceive, ↓reduceIte, hobs, didOf, he, sawOf, Spec.Call.clientOk, Bool.true_and,
      beq_self_eq_true, carried_responseWire sc.initMd]
    cases hf : sc.final with
    | none => rw [hf] at hend; simp [hend.1]
    | some st =>
      rw [hf] at hend
      obtain ⟨_, st', rfl, _, hsame⟩ := hend
      simp [sameStatus_spec _ _ hsame, code_ne_zero st (ok.final st hf).1]

/-- **Unary-response methods: the client sees the script.**  The handler returns `Err(status)`
or one message with any metadata; for EVERY delivery of the server's response allowed by the
transport relation, `Grpc::unary` / `client_streaming` return `Ok` with that message and that
metadata iff the handler returned `Ok`, and otherwise `Err` with the handler's code, message,
details and custom metadata. -/
theorem C02_client_sees_script_response_single [BEq α] [LawfulBEq α] (c : Cfg α) (laws : CodecLaws c.cd)
    (sc : Script α) (ok : ScriptOk c.cd sc) (m : α) (hone : sc.body.msgs = [m]) (hfin : sc.final = none)
    (ns : Nat) (hns : sc.body.length + 2 < ns)
    (d : RespDelivery) (htr : RespTransports (handlerResponse c ns false sc) d)
    (hfuel : d.chunks.length + 1 + sc.body.msgs.length < c.fuel) :
    Spec.Call.clientOk false (didOf sc) (sawOf (clientReceive c false d)) = true := by
  cases he : sc.early with
  | some st =>
    obtain ⟨st', hobs, hsame⟩ := client_sees_early c false sc st he ok ns d htr false
    simp [didOf, he, hobs, sawOf, Spec.Call.clientOk, sameStatus_spec _ _ hsame, code_ne_zero st (ok.early st he).1]
  | none =>
    have hobs := clientSingle_sees c laws sc m he hone ok ns hns d htr hfuel
    simp [clientReceive, hobs, didOf, he, sawOf, Spec.Call.clientOk, hone, hfin,
      carried_clientUnaryMetadata sc.initMd]

/-- **A single-response client facing a handler that streams: the final error is not lost.**  A server may
answer a unary / client-streaming call with HEADERS, any number of messages and then an ERROR status in the
TRAILERS (what a tonic streaming handler produces, and what other gRPC servers produce for a unary call that
fails after writing output).  For EVERY such script (any initial metadata, `k ≥ 0` messages, any non-OK code,
message text, details, metadata) and EVERY delivery allowed by the transport relation, `Grpc::unary` /
`client_streaming` fail with the handler's code, message and details and every custom metadata entry of the
status — when no message preceded the error, apart from the names the response headers also carry (the client
merges the headers into the status there: C08's subject, finding C08-F1).  `body.trailers().await?` — the
drain after the first message — is where the error surfaces; a `trailers()` that swallows the stream's error
(seed C02f) turns the call into a success. -/
theorem C02_single_client_sees_streamed_error [BEq α] [LawfulBEq α] (c : Cfg α) (laws : CodecLaws c.cd)
    (sc : Script α) (ok : ScriptOk c.cd sc) (he : sc.early = none) (st : FSt) (hf : sc.final = some st)
    (ns : Nat) (hns : sc.body.length + 2 < ns)
    (d : RespDelivery) (htr : RespTransports (handlerResponse c ns true sc) d)
    (hfuel : d.chunks.length + 1 + sc.body.msgs.length < c.fuel) :
    Spec.Call.clientOkMixed (didOf sc) (sawOf (clientReceive c false d)) = true := by
  obtain ⟨st', hsame, hobs⟩ := clientSingle_sees_streamed_error c laws sc st he hf ok ns hns d htr hfuel
  obtain ⟨h1, h2, h3, h4⟩ := hsame
  have hcode := code_ne_zero st (ok.final st hf).1
  simp only [clientReceive, Bool.false_eq_true, ↓reduceIte, hobs, didOf, he, hf, Option.map_some, sawOf,
    Spec.Call.clientOkMixed, hcode, Bool.true_and, Bool.and_eq_true, beq_iff_eq, List.all_eq_true,
    Bool.or_eq_true, List.contains_iff_mem, Bool.not_eq_true']
  -- per name of the status' metadata: a protocol name; or no message preceded the error and the
  -- response headers carry the name too (merged over it: C08's subject); or the status' own values
  by_cases hnil : sc.body.msgs = []
  · simp only [hnil, ↓reduceIte, specSt, h1, h2, h3, true_and, List.isEmpty_nil, and_true]
    intro k _
    by_cases hk : k ∈ Spec.Call.protocolNames
    · exact Or.inl (Or.inl hk)
    · by_cases hem : HMap.getAll k sc.initMd = []
      · exact Or.inr ((getAll_extend_responseWire _ _ hk hem).trans (h4 k hk))
      · exact Or.inl (Or.inr (by simpa using hem))
  · simp only [hnil, ↓reduceIte, specSt, h1, h2, h3, true_and]
    intro k _
    by_cases hk : k ∈ Spec.Call.protocolNames
    · exact Or.inl (Or.inl hk)
    · exact Or.inr (h4 k hk)

/-! ## the four call shapes, end to end

caller → client `Grpc` → ANY request delivery → server `Grpc` → handler script → ANY response
delivery → client API result.  One theorem per shape; each concludes both halves of the
property: the handler was given the caller's request, and the client was given the handler's
response. -/

/-- **Unary call.** -/
theorem C02_client_sees_script_unary [BEq α] [LawfulBEq α] (c : Cfg α) (laws : CodecLaws c.cd)
    (r : CallReq α) (mq : α) (hq : r.msgs.msgs = [mq]) (rok : RequestOk c.cd r)
    (sc : Script α) (ok : ScriptOk c.cd sc) (mr : α) (hr : sc.body.msgs = [mr]) (hfin : sc.final = none)
    (nc ns : Nat) (rd : ReqDelivery) (d : RespDelivery) (b : Budget c r sc nc ns rd d)
    (htq : ReqTransports (clientRequest c nc r) rd)
    (htr : RespTransports (serve c ns false false sc rd).2 d) :
    Spec.Call.handlerOk false sc.reads ⟨r.md, r.msgs.msgs⟩ (gotOf (serve c ns false false sc rd).1) = true ∧
    Spec.Call.clientOk false (didOf sc) (sawOf (clientReceive c false d)) = true := by
  obtain ⟨h1, h2⟩ := C02_handler_sees_request_unary c laws r mq hq rok nc b.client rd htq b.reqFuel ns false sc
  rw [h2] at htr
  exact ⟨h1, C02_client_sees_script_response_single c laws sc ok mr hr hfin ns b.server d htr b.respFuel⟩

/-- **Client-streaming call.** -/
theorem C02_client_sees_script_client_streaming [BEq α] [LawfulBEq α] (c : Cfg α) (laws : CodecLaws c.cd)
    (r : CallReq α) (rok : RequestOk c.cd r)
    (sc : Script α) (ok : ScriptOk c.cd sc) (mr : α) (hr : sc.body.msgs = [mr]) (hfin : sc.final = none)
    (nc ns : Nat) (rd : ReqDelivery) (d : RespDelivery) (b : Budget c r sc nc ns rd d)
    (htq : ReqTransports (clientRequest c nc r) rd)
    (htr : RespTransports (serve c ns true false sc rd).2 d) :
    Spec.Call.handlerOk true sc.reads ⟨r.md, r.msgs.msgs⟩ (gotOf (serve c ns true false sc rd).1) = true ∧
    Spec.Call.clientOk false (didOf sc) (sawOf (clientReceive c false d)) = true := by
  obtain ⟨h1, h2⟩ := C02_handler_sees_request_streaming c laws r rok nc b.client rd htq b.reqFuel ns false sc
  rw [h2] at htr
  exact ⟨h1, C02_client_sees_script_response_single c laws sc ok mr hr hfin ns b.server d htr b.respFuel⟩

/-- **Server-streaming call.** -/
theorem C02_client_sees_script_server_streaming [BEq α] [LawfulBEq α] (c : Cfg α) (laws : CodecLaws c.cd)
    (r : CallReq α) (mq : α) (hq : r.msgs.msgs = [mq]) (rok : RequestOk c.cd r)
    (sc : Script α) (ok : ScriptOk c.cd sc)
    (nc ns : Nat) (rd : ReqDelivery) (d : RespDelivery) (b : Budget c r sc nc ns rd d)
    (htq : ReqTransports (clientRequest c nc r) rd)
    (htr : RespTransports (serve c ns false true sc rd).2 d) :
    Spec.Call.handlerOk false sc.reads ⟨r.md, r.msgs.msgs⟩ (gotOf (serve c ns false true sc rd).1) = true ∧
    Spec.Call.clientOk true (didOf sc) (sawOf (clientReceive c true d)) = true := by
  obtain ⟨h1, h2⟩ := C02_handler_sees_request_unary c laws r mq hq rok nc b.client rd htq b.reqFuel ns true sc
  rw [h2] at htr
  exact ⟨h1, C02_client_sees_script_response_stream c laws sc ok ns b.server d htr b.respFuel⟩

/-- **Bidirectional-streaming call.** -/
theorem C02_client_sees_script_bidi [BEq α] [LawfulBEq α] (c : Cfg α) (laws : CodecLaws c.cd)
    (r : CallReq α) (rok : RequestOk c.cd r)
    (sc : Script α) (ok : ScriptOk c.cd sc)
    (nc ns : Nat) (rd : ReqDelivery) (d : RespDelivery) (b : Budget c r sc nc ns rd d)
    (htq : ReqTransports (clientRequest c nc r) rd)
    (htr : RespTransports (serve c ns true true sc rd).2 d) :
    Spec.Call.handlerOk true sc.reads ⟨r.md, r.msgs.msgs⟩ (gotOf (serve c ns true true sc rd).1) = true ∧
    Spec.Call.clientOk true (didOf sc) (sawOf (clientReceive c true d)) = true := by
  obtain ⟨h1, h2⟩ := C02_handler_sees_request_streaming c laws r rok nc b.client rd htq b.reqFuel ns true sc
  rw [h2] at htr
  exact ⟨h1, C02_client_sees_script_response_stream c laws sc ok ns b.server d htr b.respFuel⟩

/-- the response delivered with the whole body in one data frame, immediately followed by the
trailers, no `Pending` anywhere: everything "arrives in one read" -/
def oneRead (resp : HttpResp) : RespDelivery :=
  { status := resp.status, headers := resp.headers,
    chunks := [some (respData resp.body)], trailers := (respTrailers resp.body).head? }

theorem oneRead_transports (resp : HttpResp) : RespTransports resp (oneRead resp) :=
  ⟨rfl, rfl, List.append_nil _, rfl⟩

/-- **A status is not lost when it shares a read with the last message.**  Even if all `k`
messages and the trailers are available to the client in the same poll, it yields all `k`
messages first and then the handler's status (what integration tests over loopback cannot
force). -/
theorem C02_status_not_lost_when_sharing_a_read [BEq α] [LawfulBEq α] (c : Cfg α) (laws : CodecLaws c.cd)
    (sc : Script α) (ok : ScriptOk c.cd sc) (st : FSt) (hearly : sc.early = none) (hf : sc.final = some st)
    (ns : Nat) (hns : sc.body.length + 2 < ns) (hfuel : 2 + sc.body.msgs.length < c.fuel) :
    ∃ md st' tr, clientReceive c true (oneRead (handlerResponse c ns true sc)) = .stream md sc.body.msgs (some st') tr ∧
      SameStatus st st' := by
  obtain ⟨ended, tr, hobs, hend⟩ := clientStream_sees c laws sc hearly ok ns hns _ (oneRead_transports _)
    (by simpa [oneRead] using hfuel)
  rw [hf] at hend
  obtain ⟨_, st', rfl, _, hsame⟩ := hend
  exact ⟨Metadata.responseWire sc.initMd, st', tr, by simp [clientReceive, hobs], hsame⟩

/-- **The result does not depend on the delivery at all**: any two deliveries of the same
response allowed by the transport relation give the client API the same result (streaming
shapes; messages, end of stream, error status, trailers). -/
theorem C02_independent_of_fragmentation (c : Cfg α) (laws : CodecLaws c.cd)
    (sc : Script α) (hearly : sc.early = none) (ok : ScriptOk c.cd sc)
    (ns : Nat) (hns : sc.body.length + 2 < ns)
    (d1 d2 : RespDelivery)
    (h1 : RespTransports (handlerResponse c ns true sc) d1) (h2 : RespTransports (handlerResponse c ns true sc) d2)
    (f1 : d1.chunks.length + 1 + sc.body.msgs.length < c.fuel)
    (f2 : d2.chunks.length + 1 + sc.body.msgs.length < c.fuel) :
    sawOf (clientReceive c true d1) = sawOf (clientReceive c true d2) := by
  obtain ⟨e1, t1, o1, x1⟩ := clientStream_sees c laws sc hearly ok ns hns d1 h1 f1
  obtain ⟨e2, t2, o2, x2⟩ := clientStream_sees c laws sc hearly ok ns hns d2 h2 f2
  simp only [clientReceive, ↓reduceIte, o1, o2, sawOf]
  cases hf : sc.final with
  | none => rw [hf] at x1 x2; rw [x1.1, x2.1]
  | some st =>
    rw [hf] at x1 x2
    obtain ⟨_, s1, rfl, r1, _⟩ := x1
    obtain ⟨_, s2, rfl, r2, _⟩ := x2
    -- both are the status read from the same trailers block
    rw [r1] at r2
    cases r2
    rfl

/-- **The projection the composition rests on is faithful** (simulation lemma): the framing
model sees a trailers block only as its `grpc-status` code and reports a code and a class; put
back into full statuses by the call model, that is exactly `infer_grpc_status` on the full
trailers and HTTP status — same decision, same status — for EVERY trailers block and status. -/
theorem C02_status_views_agree (deMsg : Bytes) (d : RespDelivery) :
    match Status.inferGrpcStatus .fixed d.trailers d.status with
    | .done => Framing.inferStatus (d.trailers.map trOf) d.status = none
    | .noStatus => Framing.inferStatus (d.trailers.map trOf) d.status = none
    | .err st => ∃ e, Framing.inferStatus (d.trailers.map trOf) d.status = some e ∧ respErr deMsg d e = st
    | .panic => False := by
  have hm := http_map d.status
  cases ht : d.trailers with
  | none =>
    simp only [Status.inferGrpcStatus, Option.map_none]
    cases hc : Status.httpToCode d.status with
    | none => rw [hc] at hm; exact hm.1
    | some c =>
      rw [hc] at hm
      exact ⟨_, hm.1, by simp [respErr, mkSt, hm.2.2]⟩
  | some T =>
    simp only [Status.inferGrpcStatus, Option.map_some]
    cases hf : Status.fromHeaderMap .fixed T with
    | none =>
      have : trOf T = none := by simp [trOf, hf]
      rw [this]
      cases hc : Status.httpToCode d.status with
      | none => rw [hc] at hm; exact hm.2
      | some c =>
        rw [hc] at hm
        exact ⟨_, hm.2.1, by simp [respErr, mkSt, hm.2.2]⟩
    | some o =>
      cases o with
      | panic => exact absurd hf (C04.C04_read_total T)
      | status st =>
        have : trOf T = some st.code.num := by simp [trOf, hf]
        rw [this]
        by_cases hok : st.code = .ok
        · simp [hok, Framing.inferStatus, Status.Code.num]
        · have hne : st.code.num ≠ 0 := fun h => hok ((num_eq_zero _).mp h)
          simp only [hok, ↓reduceIte]
          exact ⟨⟨st.code.num, .user⟩, by simp [Framing.inferStatus, hne], by simp [respErr, ht, hf]⟩

/-! ## non-vacuity

A bidirectional call that satisfies every hypothesis of `C02_client_sees_script_bidi`: caller
metadata with a reserved name, three request events, a request delivery cut inside both length
prefixes with an empty chunk and `Pending`s; a handler that sends repeated initial metadata, two
messages (one empty) around a `Pending`, then DATA_LOSS with `%`, newline and non-ASCII in the
message, binary details, repeated / reserved / binary metadata; a response delivery cut inside
the first prefix and between prefix and payload. -/

def idCodec : Codec Bytes := { ser := id, de := some, deErr := 13, cz := fun _ b => b, dz := fun _ b => some b }
def exCfg : Cfg Bytes := { cd := idCodec, deMsg := [], yieldThr := 6, fuel := 40 }

def exSt : FSt :=
  { code := .dataLoss, message := [37, 10, 195, 169], details := [0, 255],
    metadata := [(HMap.name "x-a", [49]), (HMap.name "te", [120]), (HMap.name "x-a", [50]), (HMap.name "t-bin", [81, 81])] }

def exScript : Script Bytes :=
  { early := none, initMd := [(HMap.name "x-r", [97]), (HMap.name "x-r", [98])],
    body := [some [1, 2], none, some []], final := some exSt, reads := 5 }

def exReq : CallReq Bytes :=
  { md := [(HMap.name "x-q", [49]), (HMap.name "content-type", [120])], msgs := [some [7], none, some [8, 9]] }

def exRd : ReqDelivery :=
  { headers := Metadata.requestWire exReq.md,
    chunks := [some [0, 0], none, some [0, 0, 1, 7, 0], some [], some [0, 0, 0, 2, 8], none, some [9]] }

def exD : RespDelivery :=
  { status := 200, headers := Metadata.responseWire exScript.initMd,
    chunks := [some [0, 0, 0], none, some [0, 2, 1], some [2, 0, 0, 0, 0, 0]],
    trailers := some (Status.wire .fixed exSt []) }

theorem exLaws : CodecLaws exCfg.cd := ⟨fun _ => rfl, fun _ _ => rfl⟩

theorem exRequestOk : RequestOk exCfg.cd exReq :=
  { msgs := by decide +kernel
    md := by unfold noEncodingName; decide +kernel }

theorem exScriptOk : ScriptOk exCfg.cd exScript :=
  { msgs := by decide +kernel
    early := nofun
    final := by intro st h; cases h; exact ⟨by decide, by decide +kernel⟩
    initMd := by unfold noEncodingName; decide +kernel }

/- the transport relation holds of these deliveries (it is decidable) … -/
theorem exReqT : ReqTransports (clientRequest exCfg 5 exReq) exRd := ⟨rfl, by decide +kernel, by decide +kernel⟩

private theorem exServed : (serve exCfg 6 true true exScript exRd).2 = handlerResponse exCfg 6 true exScript :=
  (C02_handler_sees_request_streaming exCfg exLaws exReq exRequestOk 5 (by decide) exRd exReqT (by decide)
    6 true exScript).2

theorem exRespT : RespTransports (serve exCfg 6 true true exScript exRd).2 exD := by
  obtain ⟨h1, h2, h3, h4⟩ := handlerResponse_ok exCfg 6 true exScript rfl exScriptOk.msgs (by decide)
  rw [exServed]
  exact ⟨h1.symm, h2.symm, h3.trans (by decide +kernel) |>.symm,
    (h4.trans (congrArg some (userTrailers_eq exCfg exScript exSt _ rfl))).symm⟩
theorem exBudget : Budget exCfg exReq exScript 5 6 exRd exD := ⟨by decide, by decide, by decide, by decide⟩

/- … and it REJECTS deliveries that lose, reorder or invent bytes, or drop / alter the trailers -/
example : ¬ RespTransports (serve exCfg 6 true true exScript exRd).2 { exD with chunks := [some [0, 0, 0, 0, 2, 1]] } :=
  fun h => absurd (exRespT.unique h).2.2.1 (by decide +kernel)
example : ¬ RespTransports (serve exCfg 6 true true exScript exRd).2 { exD with trailers := none } :=
  fun h => absurd (exRespT.unique h).2.2.2 (by decide +kernel)
example : ¬ RespTransports (serve exCfg 6 true true exScript exRd).2 { exD with trailers := some [] } := fun h => by
  -- a trailers block written from a status is never empty: it has the `grpc-status` entry
  have e : some [] = some (Status.wire .fixed exSt []) := (exRespT.unique h).2.2.2
  have := congrArg (HMap.getAll Status.GRPC_STATUS) (Option.some.inj e)
  rw [Status.getAll_wire, if_pos rfl] at this
  exact absurd this (List.cons_ne_nil _ _).symm

/- a handler that fails at once (trailers-only response) meets `ScriptOk` too -/
example : ScriptOk idCodec { exScript with early := some exSt, final := none } :=
  { msgs := exScriptOk.msgs
    early := by
      intro st h; cases h
      exact ⟨by decide, by decide +kernel, by unfold noEncodingName; decide +kernel⟩
    final := nofun
    initMd := exScriptOk.initMd }

/- the oracle is not vacuous: it rejects a lost message, a wrong code, a lost metadata value and a
success reported for a failed stream -/
example : Spec.Call.clientOk true (didOf exScript) (.stream exD.headers [[1, 2]] (some (specSt exSt))) = false := by decide +kernel
example : Spec.Call.clientOk true (didOf exScript) (.stream exD.headers [[1, 2], []] (some { specSt exSt with code := 2 })) = false := by decide +kernel
example : Spec.Call.clientOk true (didOf exScript) (.stream exD.headers [[1, 2], []]
    (some { specSt exSt with metadata := [(HMap.name "x-a", [50])] })) = false := by decide +kernel
example : Spec.Call.clientOk true (didOf exScript) (.stream exD.headers [[1, 2], []] none) = false := by decide +kernel
/- all hypotheses of the bidi theorem together, on this example -/
example : Spec.Call.handlerOk true exScript.reads ⟨exReq.md, exReq.msgs.msgs⟩ (gotOf (serve exCfg 6 true true exScript exRd).1) = true ∧
    Spec.Call.clientOk true (didOf exScript) (sawOf (clientReceive exCfg true exD)) = true :=
  C02_client_sees_script_bidi exCfg exLaws exReq exRequestOk exScript exScriptOk 5 6 exRd exD exBudget exReqT exRespT

/- the hypotheses of the mixed-shape theorem hold of the same script and delivery (two messages, then
DATA_LOSS with details and metadata), and the oracle is not trivially true: success, another code, or a
status that lost an entry are all rejected -/
example : Spec.Call.clientOkMixed (didOf exScript) (sawOf (clientReceive exCfg false exD)) = true :=
  C02_single_client_sees_streamed_error exCfg exLaws exScript exScriptOk rfl exSt rfl 6 exBudget.server exD
    (exServed ▸ exRespT) exBudget.respFuel
example : Spec.Call.clientOkMixed (didOf exScript) (.single exD.headers [1, 2]) = false := by decide +kernel
example : Spec.Call.clientOkMixed (didOf exScript) (.failed { specSt exSt with code := 2 }) = false := by decide +kernel
example : Spec.Call.clientOkMixed (didOf exScript) (.failed { specSt exSt with metadata := [] }) = false := by decide +kernel

/-! ## what fails without the `grpc-encoding` guard

tonic reserves six metadata names; `grpc-encoding` is not among them (the root cause recorded as
C05-F1/F2).  A handler or caller that attaches an entry of that name gets it onto the wire in the
HEADERS frame, and the peer takes it for the compression announcement and refuses the call with
UNIMPLEMENTED.  So the property as literally stated ("any … metadata") is false of the code; the
theorems above are the statement under the exact guard (`noEncodingName` in `ScriptOk` /
`RequestOk`), and here are the two witnesses.  They are in the harness corpus and are listed in
known_findings.json (C02-F1). -/

/-- `ScriptOk` without its two `grpc-encoding` conditions -/
structure ScriptOkAnyMetadata (cd : Codec α) (sc : Script α) : Prop where
  msgs : ∀ m ∈ sc.body.msgs, MsgOk cd m
  early : ∀ st, sc.early = some st → st.code ≠ .ok ∧ Utf8.valid st.message = true
  final : ∀ st, sc.final = some st → st.code ≠ .ok ∧ Utf8.valid st.message = true

def forgedScript : Script Bytes :=
  { early := none, initMd := [(HMap.name "grpc-encoding", HMap.name "gzip")], body := [some [1]], final := none, reads := 0 }

/-- Handler metadata `grpc-encoding: gzip` on a successful response: the client fails the call
with UNIMPLEMENTED although the handler succeeded. -/
theorem C02_client_sees_script_any_metadata_fails :
    ¬ ∀ (sc : Script Bytes), ScriptOkAnyMetadata exCfg.cd sc →
      ∀ d, RespTransports (handlerResponse exCfg 6 true sc) d →
        Spec.Call.clientOk true (didOf sc) (sawOf (clientReceive exCfg true d)) = true := by
  intro h
  have := h forgedScript { msgs := by decide +kernel, early := nofun, final := nofun }
    (oneRead (handlerResponse exCfg 6 true forgedScript)) (oneRead_transports _)
  revert this
  decide +kernel

/-- `RequestOk` without its `grpc-encoding` condition -/
structure RequestOkAnyMetadata (cd : Codec α) (r : CallReq α) : Prop where
  msgs : ∀ m ∈ r.msgs.msgs, MsgOk cd m

def forgedReq : CallReq Bytes :=
  { md := [(HMap.name "x-a", [49]), (HMap.name "grpc-encoding", HMap.name "gzip")], msgs := [some [1]] }

/-- Caller metadata `grpc-encoding: gzip`: the server answers UNIMPLEMENTED without calling the
handler, so the handler does not receive the request. -/
theorem C02_handler_sees_request_any_metadata_fails :
    ¬ ∀ (r : CallReq Bytes), RequestOkAnyMetadata exCfg.cd r →
      ∀ rd, ReqTransports (clientRequest exCfg 5 r) rd →
        Spec.Call.handlerOk false 0 ⟨r.md, r.msgs.msgs⟩ (gotOf (serve exCfg 6 false false exScript rd).1) = true := by
  intro h
  have := h forgedReq { msgs := by decide +kernel }
    { headers := (clientRequest exCfg 5 forgedReq).headers, chunks := [some (reqData (clientRequest exCfg 5 forgedReq).body)] }
    ⟨rfl, List.append_nil _, by decide +kernel⟩
  revert this
  decide +kernel

/-! ## outside the contract: no request message

A unary-request method called with an empty request stream: `map_request_unary` answers
INTERNAL "Missing request message." as a trailers-only response without calling the handler, and
either client entry point reports exactly that status — for every delivery of both directions. -/

theorem C02_missing_request_message [BEq α] [LawfulBEq α] (c : Cfg α) (laws : CodecLaws c.cd)
    (r : CallReq α) (hnone : r.msgs.msgs = []) (hmd : noEncodingName r.md)
    (nc : Nat) (hnc : r.msgs.length + 1 < nc)
    (rd : ReqDelivery) (htq : ReqTransports (clientRequest c nc r) rd) (hfuel : rd.chunks.length < c.fuel)
    (ns : Nat) (s : Bool) (sc : Script α)
    (d : RespDelivery) (htr : RespTransports (serve c ns false s sc rd).2 d) (cs : Bool) :
    (serve c ns false s sc rd).1 = .notCalled ∧
    ∃ st', clientReceive c cs d = .err st' ∧ SameStatus missingRequest st' := by
  have hms : ∀ m ∈ r.msgs.msgs, MsgOk c.cd m := by intro m h; rw [hnone] at h; cases h
  obtain ⟨hh, hold⟩ := request_delivered c laws r hms nc hnc rd htq hfuel
  obtain ⟨s1, evs1, hi, _⟩ := nextItem_nil (hnone ▸ hold)
  have hserve : serve c ns false s sc rd = (.notCalled, statusIntoHttp missingRequest) := by
    simp only [serve, mapRequestUnary, hh, encodingCheck_requestWire r.md hmd, hi, respTr_request]
    rfl
  rw [hserve] at htr ⊢
  exact ⟨rfl, clientReceive_trailersOnly c cs d missingRequest (by decide) (by decide +kernel) rfl htr.2.1⟩

/-! ## configuration that must not show

The correspondence run drives the real pair with message-size limits set to exactly the largest
message of each direction (`+lim` cases), with the server configured as generated code does it,
with a cloned / re-used client, other constructors, pass-through middleware and hinting bodies
(harness/src/c02.rs, "flags"): the prediction for all of them is the model WITHOUT the knob.  For
the sending-side limit that is a theorem about the model with the knob: -/

/-- **A client-side `max_encoding_message_size` that every request message fits — the boundary
`length = limit` included — is invisible**: the HTTP request handed to the transport (headers and
every poll of the body) is the one of a client without the limit, for every caller request, every
yield threshold and any number of polls.  All C02 theorems therefore hold for such a client. -/
theorem C02_client_encoding_limit_invisible (c : Cfg α) (l nc : Nat) (r : CallReq α)
    (hfit : ∀ m ∈ r.msgs.msgs, (c.cd.ser m).length ≤ l) :
    clientRequestLim c l nc r = clientRequest c nc r := by
  unfold clientRequestLim clientRequest encCfgLim
  rw [Framing.run_limit c.cd (encCfg c false) l nc Enc.init (srcOf r.msgs) fun m hm => hfit m (item_mem_srcOf hm)]
  rfl

/-- **A server-side `max_encoding_message_size` that every response message of the script fits is
invisible**: the HTTP response (status, headers, every poll of the body incl. the trailers) is the
one of a server without the limit — for both response shapes, every script (early error, any
messages and `Pending`s, any final status), every yield threshold and any number of polls. -/
theorem C02_server_encoding_limit_invisible (c : Cfg α) (l ns : Nat) (s : Bool) (sc : Script α)
    (hfit : ∀ m ∈ sc.body.msgs, (c.cd.ser m).length ≤ l) :
    handlerResponseLim c l ns s sc = handlerResponse c ns s sc := by
  unfold handlerResponseLim handlerResponse encCfgLim
  cases sc.early with
  | some st => rfl
  | none =>
    simp only
    rw [Framing.run_limit c.cd (encCfg c true) l ns Enc.init (handlerSrc s sc)
      fun m hm => hfit m (item_mem_handlerSrc hm)]
    rfl

/-- the hypotheses are satisfiable at the boundary: a limit equal to the longest message -/
example : ∀ m ∈ exReq.msgs.msgs, (exCfg.cd.ser m).length ≤ 2 := by decide +kernel
example : (clientRequestLim exCfg 2 5 exReq).body = (clientRequest exCfg 5 exReq).body := by decide +kernel

/-- … and the limit is not vacuous in the model: one byte less and the request body fails -/
example : (clientRequestLim exCfg 1 5 exReq).body ≠ (clientRequest exCfg 5 exReq).body := by decide +kernel

end C02
