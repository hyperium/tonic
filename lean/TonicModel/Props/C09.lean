import TonicModel.Model.Timeout
import TonicModel.Spec.Timeout
import TonicModel.Lemmas.Timeout
/-
C09 — Deadlines: faithful grpc-timeout encoding and shortest-deadline enforcement.

The theorems follow the property's sentences: what `Request::set_timeout` writes and what the parser
reads, against the oracle's `denote`; the min rule and the cut-off of one `GrpcTimeout` future (`run`;
`cutAt` is the same future with completion times); the client and server stacks against
`Spec.Timeout.expected`, and for a caller that polls late against `Spec.Timeout.lateExpected`; then
what must make no difference: earlier calls on the same value, the call's own status, further
connections, a future that changes hands.
-/
namespace C09
open Timeout

/-- Every duration up to 99 999 999 hours is encodable (the `expect` cannot fire). -/
theorem C09_encode_defined (d : Nat) (h : d ≤ Spec.Timeout.maxDuration) :
    ∃ vu, encodeVU d = some vu := by
  -- hours always fit: the cascade, read as the oracle's `find?`, has a hit
  have : (Spec.Timeout.chosenUnit d).isSome := List.find?_isSome.2
    ⟨3600 * 1000000000, by simp [Spec.Timeout.unitSizes], by
      simp only [Spec.Timeout.maxDuration] at h; simp only [decide_eq_true_eq]; omega⟩
  rw [chosenUnit_eq, Option.isSome_map] at this
  exact Option.isSome_iff_exists.1 this

/-- The value written is spec-conformant (1–8 ASCII digits and a unit) and denotes
`value × unit`. -/
theorem C09_encode_conformant (d : Nat) (vu : Nat × U) (h : encodeVU d = some vu) :
    Spec.Timeout.denote (render vu) = some (vu.1 * vu.2.nanos) := by
  have hv := (encodeVU_eq_some h).2.1
  obtain ⟨hdig, hval, h1, hlen⟩ := decimal_spec vu.1
  have h8 := hlen 7 (by unfold maxValue at hv; omega)
  rw [render, Spec.Timeout.denote_concat, if_pos ⟨h1, h8, hdig⟩, unitNanos_byte, hval]
  rfl

/-- The encoded timeout never denotes a longer time than requested … -/
theorem C09_never_longer (d : Nat) (vu : Nat × U) (h : encodeVU d = some vu) :
    vu.1 * vu.2.nanos ≤ d := by
  rw [(encodeVU_eq_some h).1]; exact Nat.div_mul_le_self d _

/-- … and loses less than one unit of the chosen precision. -/
theorem C09_loss_lt_unit (d : Nat) (vu : Nat × U) (h : encodeVU d = some vu) :
    d < vu.1 * vu.2.nanos + vu.2.nanos := by
  rw [(encodeVU_eq_some h).1]; exact Nat.lt_div_mul_add vu.2.nanos_pos

/-- The most precise unit is chosen: no finer unit could hold the value in 8 digits. -/
theorem C09_most_precise (d : Nat) (vu : Nat × U) (h : encodeVU d = some vu) (u' : U)
    (hfiner : u'.nanos < vu.2.nanos) : maxValue < d / u'.nanos :=
  (encodeVU_eq_some h).2.2 u' hfiner

/-- The parser computes exactly the spec's denotation: every spec-conformant value is parsed
to the duration it denotes and every other byte string is ignored (`none`), for all byte
strings.  CAVEAT: the oracle `Spec.Timeout.denote` reads the value part with `digitsVal` and
`Ascii.isDigit` (Basic/Bytes.lean), and so does the model's `parseValue` — in THIS theorem the number
reader is compared with itself (a wrong `digitsVal` would cancel out); independent here are the unit
table, the 1–8 digit bound and the visibility check.  The number reader is pinned separately:
`C09_digit_reader_is_positional`, and `C09_parse_is_spec_positional` is this statement against an
oracle that shares no reader with the model. -/
theorem C09_parse_is_spec (v : Bytes) : tryParse v = Spec.Timeout.denote v := by
  rcases List.eq_nil_or_concat v with rfl | ⟨ds, ub, rfl⟩
  · rfl
  · rw [List.concat_eq_append, Spec.Timeout.denote_concat]
    unfold tryParse
    simp only [List.reverse_append, List.reverse_singleton, List.singleton_append,
      List.reverse_reverse, parseValue]
    by_cases hlen : ds.length > 8
    · have : ¬ ds.length ≤ 8 := by omega
      simp [hlen, this]
    · have hle : ds.length ≤ 8 := by omega
      by_cases hemp : ds = []
      · subst hemp; simp
      · have h1 : 1 ≤ ds.length := List.length_pos_iff.2 hemp
        by_cases hdig : ds.all Ascii.isDigit = true
        · have hvis : ds.all Ascii.isVisible = true :=
            List.all_eq_true.2 fun x hx => visible_of_digit x (List.all_eq_true.1 hdig x hx)
          simp only [hlen, hle, h1, hdig, hemp, List.isEmpty_iff, List.all_append, hvis, Bool.true_and]
          rw [← ofByte_nanos]
          cases hu : U.ofByte ub with
          | none => simp
          | some un => simp [visible_of_unit ub un hu, Nat.mul_comm]
        · simp [hdig, hemp]

/-- The number reader shared by oracle and model, pinned against a reading that mentions neither
`digitsVal` nor `Ascii.isDigit`: `Spec.Timeout.positional` takes each digit's value from a ten-row
table and weighs it by its power of ten (most significant first), `none` if a byte is not in the
table.  For every byte string: the bytes `Ascii.isDigit` accepts are exactly the table's, and on
them `digitsVal` is the positional value. -/
theorem C09_digit_reader_is_positional (ds : Bytes) :
    (if ds.all Ascii.isDigit then some (digitsVal ds) else none) = Spec.Timeout.positional ds :=
  (Spec.Timeout.positional_eq ds).symm

/-- `C09_parse_is_spec` against an oracle that shares no number reader with the model: for all byte
strings the parser's result is the duration the value denotes when its digits are read positionally
(`Spec.Timeout.denotePositional`: last byte a unit of the table, before it 1–8 table digits), `none`
otherwise. -/
theorem C09_parse_is_spec_positional (v : Bytes) : tryParse v = Spec.Timeout.denotePositional v := by
  rw [C09_parse_is_spec, Spec.Timeout.denote_eq_positional]

/-- Parsing what tonic itself wrote gives back exactly the denoted duration. -/
theorem C09_parse_enc (d : Nat) (vu : Nat × U) (h : encodeVU d = some vu) :
    tryParse (render vu) = some (vu.1 * vu.2.nanos) := by
  rw [C09_parse_is_spec]; exact C09_encode_conformant d vu h

/-- The effective timeout is the shorter of those present. -/
theorem C09_min_rule (c s : Option Nat) :
    (effective c s = none ↔ c = none ∧ s = none) ∧
    (∀ t, effective c s = some t →
      (c = some t ∨ s = some t) ∧ (∀ x, c = some x → t ≤ x) ∧ (∀ x, s = some x → t ≤ x)) := by
  cases c <;> cases s <;> simp [effective] <;> omega

/-- Cut-off: the call yields the inner result iff it finishes no later than the effective
timeout, and `Timeout expired` otherwise; it is never left pending. (Transcription lemma: it holds
by unfolding the model's definition, so it pins the model's shape for the correspondence run — its
assurance about tonic is the tie, not this proof.) -/
theorem C09_cutoff (latency : Nat) (T : Option Nat) :
    run latency T = (match T with
      | some t => if t < latency then Outcome.timeout else Outcome.inner
      | none => Outcome.inner) := by
  cases T with
  | none => simp [run, pollAt]
  | some t =>
    simp only [run, pollAt]
    by_cases h : t < latency
    · have h1 : ¬ latency ≤ min latency t := by omega
      have h2 : t ≤ min latency t := by omega
      simp [h, h1, h2]
    · have h1 : latency ≤ min latency t := by omega
      simp [h, h1]

/-! ### Which side enforces: the two stacks against the spec's independent statement -/

/-- The status of a cut-off call is the one the property names: CANCELLED, "Timeout expired". -/
theorem C09_status_is_cancelled_timeout_expired :
    expiredStatus = (Spec.Timeout.cancelledCode, Spec.Timeout.expiredText) := by decide +kernel

/-- Two timers around the same future act as one timer at the shorter deadline (this is why the
client stack and the server stack compose into "the shortest of all deadlines present"). -/
theorem C09_timers_compose (a b : Option Nat) (d : Done) :
    cutAt a (cutAt b d) = cutAt (effective a b) d :=
  cutAt_cutAt a b d

/-- One `GrpcTimeout` (either side) around anything that answers after `l` or never: the call is
cut with the timeout status at the shorter of the header's and the configured deadline iff it
has not finished by then (never answering included), otherwise it finishes when the wrapped
service does; with no deadline it is pending exactly when the wrapped service never answers. -/
theorem C09_stage_meets_spec (h c l : Option Nat) :
    asExpect (stage h c (answer l)) = Spec.Timeout.expected [h, c] l := by
  rw [stage, cut_spec, Spec.Timeout.expected, shortest_pair]

/-- The future of the middleware (`run`, polled at its wake-up) against the spec: the same
decision, stated on the spec side by the naive fold over the deadlines present. -/
theorem C09_run_meets_spec (c s : Option Nat) (l : Nat) :
    run l (effective c s) =
      (match Spec.Timeout.expected [c, s] (some l) with
       | .cancelled _ => Outcome.timeout
       | .finishes _ => Outcome.inner
       | .pending => Outcome.pending) := by
  rw [C09_cutoff, Spec.Timeout.expected, shortest_pair]
  cases effective c s with
  | none => rfl
  | some t => by_cases h : t < l <;> simp [Spec.Timeout.expected', h]

/-- Server side: `transport::Server` with or without `Server::timeout`, whatever the client
does about its own deadline: the handler is cut at the shorter of the grpc-timeout header and
`Server::timeout`. -/
theorem C09_server_cutoff (header configured handler : Option Nat) :
    asExpect (serverStack header configured handler) =
      Spec.Timeout.expected [header, configured] handler :=
  C09_stage_meets_spec header configured handler

/-- TARGET (false of the code as it is, see `_fails`): whatever the peer's reply looks like, the
client cuts the call at the shorter deadline unless the reply is complete by then. -/
def ClientCutoffAnyReply : Prop :=
  ∀ (caller endpoint : Option Nat) (r : Reply), r.cancelled = false →
    asExpect (clientCall caller endpoint r) = Spec.Timeout.expected [caller, endpoint] r.done

/-- What holds: replies whose head arrives together with their end (unary replies of a tonic
server, trailers-only replies, a peer that never answers). -/
theorem C09_client_cutoff_any_reply_partial (caller endpoint : Option Nat) (r : Reply)
    (hc : r.cancelled = false) (hd : r.head = r.done) :
    asExpect (clientCall caller endpoint r) = Spec.Timeout.expected [caller, endpoint] r.done := by
  rw [clientCall_eq_stage hd, headDone_eq_answer hc hd]
  exact C09_stage_meets_spec caller endpoint r.done

/-- Client side against a peer that does NOT enforce deadlines and sends its whole response at
once after `l`, or never: the client stack alone cuts the call at the shorter of the caller's
timeout and `Endpoint::timeout`. -/
theorem C09_client_cutoff_plain_peer (caller endpoint l : Option Nat) :
    asExpect (clientCall caller endpoint (plainPeer l)) =
      Spec.Timeout.expected [caller, endpoint] l :=
  C09_client_cutoff_any_reply_partial caller endpoint (plainPeer l) rfl rfl

/-- For every caller timeout `T` and `Endpoint::timeout` `C` (either may be absent, not both)
and a peer that never answers, the client-side outcome is CANCELLED "Timeout expired" at
`min(T, C)` — the client does not rely on the peer honouring grpc-timeout. -/
theorem C09_client_enforces_without_peer (T C : Option Nat) (h : T ≠ none ∨ C ≠ none) :
    ∃ m, clientCall T C (plainPeer none) = Done.timeout m ∧
      (T = some m ∨ C = some m) ∧ (∀ x, T = some x → m ≤ x) ∧ (∀ x, C = some x → m ≤ x) := by
  rw [clientCall_eq_stage rfl]
  cases he : effective T C with
  | none =>
    obtain ⟨rfl, rfl⟩ := (C09_min_rule T C).1.1 he
    simp at h
  | some m => exact ⟨m, by rw [stage, he]; rfl, (C09_min_rule T C).2 m he⟩

/-- The symmetric statement for the server stack and a handler that never answers. -/
theorem C09_server_enforces_without_client (H S : Option Nat) (h : H ≠ none ∨ S ≠ none) :
    ∃ m, serverStack H S none = Done.timeout m ∧
      (H = some m ∨ S = some m) ∧ (∀ x, H = some x → m ≤ x) ∧ (∀ x, S = some x → m ≤ x) := by
  -- both sides are `stage H S` around something that never answers: `serverStack H S none` and
  -- `stage H S (plainPeer none).headDone` unfold to `stage H S .pending`
  have := C09_client_enforces_without_peer H S h
  rwa [clientCall_eq_stage rfl] at this

/-- Client stack then server stack (tonic on both ends): the caller sees the cut at the
shortest of the three deadlines present, or the handler's answer when it comes. -/
theorem C09_end_to_end (caller server endpoint handler : Option Nat) :
    asExpect (endToEnd caller server endpoint handler) =
      Spec.Timeout.expected [caller, server, endpoint] handler := by
  rw [endToEnd, clientCall_eq_stage (tonicPeer_head _ _ _), tonicPeer_headDone, stage, serverStack,
    stage, C09_timers_compose, cut_spec, Spec.Timeout.expected, shortest_triple]

/-- FINDING (C09-F1): the client's timer stops when the response head arrives; a peer that sends
the head and then stalls keeps the call open past the deadline (forever, if it never finishes).
Witness: caller timeout 300 ms, no `Endpoint::timeout`, head at once, body never finished. -/
theorem C09_client_cutoff_any_reply_fails : ¬ ClientCutoffAnyReply := by
  intro h
  have := h (some 300000000) none (stallPeer none) rfl
  revert this
  decide +kernel

/-! ### A caller that polls late: the deadline counts from dispatch -/

/-- The `GrpcTimeout` future, created at dispatch and first polled at ANY later time `b`, around
anything that answers after `latency` or never, for every timeout (or none): what the caller
observes is one of the observations the spec accepts — the call's own result at `max latency b`
if it finished by the deadline; CANCELLED "Timeout expired" at `max T b` if it is still running
then; either of the two, at `b`, if it finished after the deadline while nobody was polling
(`T < latency ≤ b`: the caller cannot tell, the property does not say). -/
theorem C09_late_poll_meets_spec (T latency : Option Nat) (b : Nat) :
    asExpect (latePoll T latency b) ∈ Spec.Timeout.lateExpected' T latency b := by
  have := lateCut_cut_spec none T latency b
  rwa [effective_none_right] at this

/-- The same with the min rule in front (header and configured timeout, either possibly absent),
against the spec's own fold over the deadlines present. -/
theorem C09_late_stage_meets_spec (h c l : Option Nat) (b : Nat) :
    asExpect (lateStage h c (answer l) b) ∈ Spec.Timeout.lateExpected [h, c] l b := by
  rw [lateStage, Spec.Timeout.lateExpected, shortest_pair]
  exact C09_late_poll_meets_spec _ l b

/-- A caller that polls at once (`b = 0`) is the case the earlier theorems are about: the model
is the plain race and the spec accepts exactly the one observation `expected'` names. -/
theorem C09_late_poll_prompt (T latency : Option Nat) :
    latePoll T latency 0 = cutAt T (answer latency) ∧
    Spec.Timeout.lateExpected' T latency 0 = [Spec.Timeout.expected' T latency] := by
  have hs : Spec.Timeout.lateExpected' T latency 0 = [Spec.Timeout.expected' T latency] := by
    cases T <;> cases latency <;>
      simp only [Spec.Timeout.lateExpected', Spec.Timeout.expected', Spec.Timeout.later_eq,
        Nat.max_zero] <;>
      (repeat' split) <;> first | rfl | omega
  -- the oracle leaves one observation, so the model's is that one
  refine ⟨asExpect_inj ?_, hs⟩
  have := C09_late_poll_meets_spec T latency 0
  rwa [hs, List.mem_singleton, ← cut_spec] at this

/-- The deadline counts from DISPATCH: a call that is still running when the deadline has passed
and the caller is looking (`latency > max T b`, or it never answers) is cut at `max T b` — at `T`
for a caller already waiting, at its first poll `b` for one that comes later — and that is
strictly earlier than `b + T` (where a timer started at the first poll would fire) whenever both
are positive; it is also the only observation the spec accepts there. -/
theorem C09_deadline_counts_from_dispatch (T b : Nat) (latency : Option Nat)
    (h : ∀ l, latency = some l → max T b < l) :
    latePoll (some T) latency b = Done.timeout (max T b) ∧
    Spec.Timeout.lateExpected' (some T) latency b = [Spec.Timeout.Expect.cancelled (max T b)] ∧
    (0 < T → 0 < b → max T b < b + T) := by
  have hs : Spec.Timeout.lateExpected' (some T) latency b =
      [Spec.Timeout.Expect.cancelled (max T b)] := by
    cases latency with
    | none => simp only [Spec.Timeout.lateExpected', Spec.Timeout.later_eq]
    | some l =>
      have hl := h l rfl
      simp only [Spec.Timeout.lateExpected', Spec.Timeout.later_eq, if_neg (show ¬ l ≤ T by omega),
        if_pos hl]
  refine ⟨asExpect_inj ?_, hs, by omega⟩
  have := C09_late_poll_meets_spec (some T) latency b
  rwa [hs, List.mem_singleton] at this

/-- Nothing is observed before the caller looks: every completion time is at least `b`. -/
theorem C09_late_poll_not_before_first_poll (T latency : Option Nat) (b t : Nat)
    (h : latePoll T latency b = Done.inner t ∨ latePoll T latency b = Done.timeout t) : b ≤ t := by
  rw [latePoll, lateCut_eq] at h
  generalize (if (answer latency).readyBy b then answer latency else cutAt T (answer latency)) = x at h
  cases x <;> rcases h with h | h <;> cases h <;> exact Nat.le_max_right ..

/-- Client stack (a `Channel` used through `poll_ready` / `call`, the response future first
polled at `b`) against a peer that enforces nothing and answers at once after `l`, or never. -/
theorem C09_late_client_cutoff_plain_peer (caller endpoint l : Option Nat) (b : Nat) :
    asExpect (clientCallLate caller endpoint (plainPeer l) b) ∈
      Spec.Timeout.lateExpected [caller, endpoint] l b := by
  rw [clientCallLate_eq_lateStage rfl, headDone_eq_answer rfl rfl]
  exact C09_late_stage_meets_spec caller endpoint l b

/-- tonic on both ends, the caller first polling at `b`: the server's timer (shorter of header and
`Server::timeout`, running from the request's arrival) and the client's (shorter of header and
`Endpoint::timeout`, running from dispatch) together give one of the observations the spec
accepts for the shortest of the three deadlines. -/
theorem C09_late_end_to_end (caller server endpoint handler : Option Nat) (b : Nat) :
    asExpect (endToEndLate caller server endpoint handler b) ∈
      Spec.Timeout.lateExpected [caller, server, endpoint] handler b := by
  rw [endToEndLate, clientCallLate_eq_lateStage (tonicPeer_head _ _ _), tonicPeer_headDone, lateStage,
    serverStack, stage, Spec.Timeout.lateExpected, shortest_triple]
  exact lateCut_cut_spec _ _ handler b

/-- NOT the code (what seed C09d turns it into): were the timer created at the caller's first
poll, the spec would be violated. -/
def TimerFromFirstPollMeetsSpec : Prop :=
  ∀ (T latency : Option Nat) (b : Nat),
    asExpect (lateCutLazy T (answer latency) b) ∈ Spec.Timeout.lateExpected' T latency b

/-- Witness: timeout 100, the peer answers after 350, the caller first polls at 300 — a timer
armed at 300 fires at 400, the answer at 350 wins and the call completes although its deadline
passed 250 earlier; the spec demands CANCELLED at 300. -/
theorem C09_timer_from_first_poll_fails : ¬ TimerFromFirstPollMeetsSpec := by
  intro h
  have := h (some 100) (some 350) 300
  revert this
  decide +kernel

/-! ### Several calls through one middleware: calls are independent -/

/-- Transcription lemma (definitional, `⟨rfl, rfl⟩`): it pins the model's shape for the `mw` / `chan` /
`conn` correspondence runs, which carry the assurance.
`GrpcTimeout::call` leaves the middleware as it found it, and the sleep it picks is a function
of the configured timeout and THIS request's header only. -/
theorem C09_middleware_is_stateless (m : Mw) (header : Option Nat) :
    (m.call header).1 = m ∧ (m.call header).2 = effective header m.configured := ⟨rfl, rfl⟩

private theorem clientCall_eq (c e : Option Nat) (r : Reply) :
    clientCall c e r = clientCallWith (effective c e) r := rfl

/-- Transcription lemma (definitional): `Mw.call` is written to return the middleware unchanged
(`(m.call h).1 = m` by `rfl`, `C09_middleware_is_stateless`), and that alone gives this equation — so
it unfolds the model's shape and carries no assurance of its own about tonic; its use is as the step
to `C09_channel_calls_each_meet_spec` and as the statement the counter-model fails
(`C09_sticky_first_header_fails`); that the real `GrpcTimeout::call` keeps nothing between calls is
established by the `mw` / `chan` / `chano` / `conn` / `conno` correspondence cases (several calls on ONE value).
For EVERY sequence of calls on one `Channel` (any length, any caller deadlines, any peer
replies, with or without `Endpoint::timeout`) each call's outcome and completion time is the
single-call model's — what a fresh channel would give — whatever calls came before it. -/
theorem C09_calls_are_independent (endpoint : Option Nat) (calls : List (Option Nat × Reply)) :
    channelCalls ⟨endpoint⟩ calls = calls.map fun c => clientCall c.1 endpoint c.2 :=
  eq_map_of_cons _ _ rfl (fun _ _ => rfl) calls

/-- Transcription lemma (definitional): `C09_calls_are_independent` (which holds because `Mw.call`
returns the middleware unchanged) read for the last call of a history; assurance: the `chan` cases.
The same said for one call after an arbitrary history: the calls before it change nothing
about it, and it changes nothing about them. -/
theorem C09_call_after_any_history (endpoint : Option Nat) (before : List (Option Nat × Reply))
    (caller : Option Nat) (r : Reply) :
    channelCalls ⟨endpoint⟩ (before ++ [(caller, r)]) =
      channelCalls ⟨endpoint⟩ before ++ [clientCall caller endpoint r] := by
  simp [C09_calls_are_independent]

/-- Transcription lemma (definitional): by `C09_calls_are_independent` the outcomes are a `map` over
the calls, and a `map` commutes with every permutation (`List.Perm.map`) — true of any per-call
function; the assurance that the real `Buffer` + `GrpcTimeout` behave so is the `chano` cases
(overlapping calls from `Channel` clones in separate tasks).
Overlapping calls reach `GrpcTimeout::call` in SOME order (the `Buffer` worker's queue): the
outcomes do not depend on it — reordering the dispatches reorders the outcomes and nothing else. -/
theorem C09_dispatch_order_is_irrelevant (endpoint : Option Nat)
    (calls calls' : List (Option Nat × Reply)) (h : calls.Perm calls') :
    (channelCalls ⟨endpoint⟩ calls).Perm (channelCalls ⟨endpoint⟩ calls') := by
  rw [C09_calls_are_independent, C09_calls_are_independent]
  exact h.map _

/-- Against the independent oracle: calls on one `Channel` to a peer that enforces nothing and
answers call `i` after `lᵢ` (or never) are each cut, or not, exactly as `Spec.Timeout.expectedEach`
demands: by the call's OWN deadline and `Endpoint::timeout`, nothing else. -/
theorem C09_channel_calls_each_meet_spec (endpoint : Option Nat)
    (calls : List (Option Nat × Option Nat)) :
    (channelCalls ⟨endpoint⟩ (calls.map fun c => (c.1, plainPeer c.2))).map asExpect =
      Spec.Timeout.expectedEach endpoint calls := by
  rw [C09_calls_are_independent]
  simp [Spec.Timeout.expectedEach, C09_client_cutoff_plain_peer]

/-- The middleware alone (one `GrpcTimeout` value called again and again) around something that
answers call `i` after `lᵢ`, or never. -/
theorem C09_middleware_calls_each_meet_spec (configured : Option Nat)
    (calls : List (Option Nat × Option Nat)) :
    (mwCalls ⟨configured⟩ (calls.map fun c => (c.1, answer c.2))).map asExpect =
      Spec.Timeout.expectedEach configured calls := by
  rw [eq_map_of_cons (mwCalls ⟨configured⟩) (fun c => stage c.1 configured c.2) rfl
    fun _ _ => rfl]
  simp [Spec.Timeout.expectedEach, C09_stage_meets_spec]

/-- Server side, any number of requests with any grpc-timeout headers on ONE long-lived connection
of `transport::Server` (with or without `Server::timeout`): each handler is cut by its own
request's header and `Server::timeout`, nothing else. -/
theorem C09_connection_requests_each_meet_spec (configured : Option Nat)
    (reqs : List (Option Nat × Option Nat)) :
    (connCalls ⟨configured⟩ reqs).map asExpect = Spec.Timeout.expectedEach configured reqs := by
  simp only [connCalls, connCallsBy, Mw.call, Spec.Timeout.expectedEach, List.map_map]
  apply List.map_congr_left
  intro q _
  exact C09_stage_meets_spec q.1 configured q.2

/-- NOT the code (what seed C09e turns it into): a middleware that keeps the first header it saw
as its configured timeout.  TARGET statement for it: -/
def StickyCallsMeetSpec : Prop :=
  ∀ (endpoint : Option Nat) (calls : List (Option Nat × Option Nat)),
    (channelCallsBy Mw.callSticky ⟨endpoint⟩ (calls.map fun c => (c.1, plainPeer c.2))).map asExpect =
      Spec.Timeout.expectedEach endpoint calls

/-- Witness (ms; the harness corpus has it in ns): no `Endpoint::timeout`; a first call with a
100 ms deadline that is answered after 50 ms; then a call with NO deadline answered after 350 ms —
the sticky middleware cuts it at 100 although nothing says so. -/
theorem C09_sticky_first_header_fails : ¬ StickyCallsMeetSpec := by
  intro h
  have := h none [(some 100, some 50), (none, some 350)]
  revert this
  decide +kernel

/-- Why no single-call case can see the difference: for ONE call the sticky middleware picks the
same sleep as the code, for every header and configuration. -/
theorem C09_sticky_single_call_agrees (m : Mw) (header : Option Nat) :
    (m.callSticky header).2 = (m.call header).2 := by
  obtain ⟨c⟩ := m
  cases header <;> cases c <;> simp [Mw.callSticky, Mw.call, effective]

/-- Why it cannot be seen on the server either: every request runs on a throw-away clone of the
connection's stack, so what `call` wrote is never read. -/
theorem C09_sticky_invisible_per_request_clone (m : Mw) (reqs : List (Option Nat × Option Nat)) :
    connCallsBy Mw.callSticky m reqs = connCalls m reqs := by
  simp [connCalls, connCallsBy, C09_sticky_single_call_agrees]

/-! ### What travels -/

/-- encode → parse → min, composed: for every caller timeout `c` up to 99 999 999 h and every
configured timeout, the header `Request::set_timeout c` writes is read back by the receiving
`GrpcTimeout` as `w` = `c` rounded down to the most precise unit that fits 8 digits (the spec's
`onWire`), with `w ≤ c < w + unit`, and the deadline enforced is `min(w, configured)`. -/
theorem C09_wire_deadline (c : Nat) (hc : c ≤ Spec.Timeout.maxDuration) (s : Option Nat) :
    ∃ w unit, wire c = some w ∧ Spec.Timeout.onWire c = some w ∧
      Spec.Timeout.chosenUnit c = some unit ∧ w ≤ c ∧ c < w + unit ∧
      effective (wire c) s = some (match s with | none => w | some x => min w x) := by
  obtain ⟨vu, hvu⟩ := C09_encode_defined c hc
  have hu : Spec.Timeout.chosenUnit c = some vu.2.nanos := by rw [chosenUnit_eq, hvu]; rfl
  have hw : wire c = some (vu.1 * vu.2.nanos) := by
    simp [wire, setTimeouts, setTimeout, encode, hvu, headerTimeout, C09_parse_enc c vu hvu]
  refine ⟨vu.1 * vu.2.nanos, vu.2.nanos, hw, ?_, hu, C09_never_longer c vu hvu,
    C09_loss_lt_unit c vu hvu, ?_⟩
  · rw [Spec.Timeout.onWire, hu, (encodeVU_eq_some hvu).1]; rfl
  · rw [hw]; cases s <;> rfl

/-- "Malformed values are ignored", at the level of the call: a request whose (first)
grpc-timeout value is not spec-conformant is treated exactly like a request without the
header, whatever else the header carries — only the configured timeout applies, and with none
configured the wrapped service's result passes through untouched. -/
theorem C09_malformed_header_ignored (v : Bytes) (rest : List Bytes)
    (hbad : Spec.Timeout.denote v = none) (configured : Option Nat) (below : Done) :
    headerTimeout (v :: rest) = none ∧
    stage (headerTimeout (v :: rest)) configured below = stage none configured below ∧
    stage (headerTimeout (v :: rest)) none below = below := by
  have h : headerTimeout (v :: rest) = none := by
    simp [headerTimeout, C09_parse_is_spec, hbad]
  refine ⟨h, by rw [h], ?_⟩
  rw [h]; cases below <;> rfl

/-- A conformant (first) value is what is enforced, whatever follows it in the header. -/
theorem C09_conformant_header_enforced (v : Bytes) (rest : List Bytes) (d : Nat)
    (hv : Spec.Timeout.denote v = some d) : headerTimeout (v :: rest) = some d := by
  simp [headerTimeout, C09_parse_is_spec, hv]

private theorem setTimeouts_none (ds : List Nat) : ds.foldl setTimeout none = none := by
  induction ds with
  | nil => rfl
  | cons d ds ih => simpa [List.foldl, setTimeout] using ih

private theorem setTimeouts_snoc (ds : List Nat) (d : Nat) (hdr : Option (List Bytes)) :
    (ds ++ [d]).foldl setTimeout hdr = setTimeout (ds.foldl setTimeout hdr) d := by
  simp [List.foldl_append]

/-- `set_timeout` called any number of times: if no call panicked, the header carries exactly
one value, the one of the LAST call (earlier values are replaced, never accumulated). -/
theorem C09_last_set_timeout_wins (ds : List Nat) (d : Nat)
    (hall : ∀ x ∈ ds, x ≤ Spec.Timeout.maxDuration) (hd : d ≤ Spec.Timeout.maxDuration) :
    ∃ v, encode d = some v ∧ setTimeouts (ds ++ [d]) = some [v] ∧
      headerTimeout [v] = wire d := by
  obtain ⟨vu, hvu⟩ := C09_encode_defined d hd
  have he : encode d = some (render vu) := by rw [encode, hvu]; rfl
  have hsome : ∀ hdr : List Bytes, ∃ vals, ds.foldl setTimeout (some hdr) = some vals := by
    induction ds with
    | nil => exact fun hdr => ⟨hdr, rfl⟩
    | cons x xs ih =>
      intro hdr
      obtain ⟨vx, hvx⟩ := C09_encode_defined x (hall x (by simp))
      simp only [List.foldl, setTimeout, encode, hvx, Option.map_some]
      exact ih (fun y hy => hall y (by simp [hy])) _
  obtain ⟨vals, hvals⟩ := hsome []
  refine ⟨render vu, he, ?_, ?_⟩
  · simp only [setTimeouts, setTimeouts_snoc, hvals, setTimeout, he]
  · simp only [wire, setTimeouts, List.foldl, setTimeout, he]

private theorem builder_fold (ops : List BOp) (b : Builder) :
    (ops.foldl Builder.apply b).timeout =
      (match Spec.Timeout.lastSet (ops.map fun | .timeout t => some t | _ => none) with
       | some t => some t
       | none => b.timeout) := by
  induction ops generalizing b with
  | nil => rfl
  | cons op ops ih =>
    simp only [List.foldl, List.map, Spec.Timeout.lastSet]
    rw [ih]
    cases hl : Spec.Timeout.lastSet (ops.map fun | .timeout t => some t | _ => none) with
    | some t => rfl
    | none => cases op <;> simp [Builder.apply] <;> cases b.timeout <;> rfl

/-- Builder call sequences (`transport::Server`, `Endpoint`), of any length and in any order:
the timeout the stack is built with is the one of the most recent `.timeout(..)` call; `.layer`,
`connect_timeout` and every other builder method neither drop nor change it. -/
theorem C09_builder_last_timeout_wins (ops : List BOp) :
    configured ops = Spec.Timeout.lastSet (ops.map fun | .timeout t => some t | _ => none) := by
  rw [configured, builder_fold]
  cases Spec.Timeout.lastSet (ops.map fun | .timeout t => some t | _ => none) <;> rfl

example : encodeVU 100000000000 = some (100000, .m) ∧ (100000000000 : Nat) ≤ Spec.Timeout.maxDuration := by decide +kernel
example : Spec.Timeout.denote [49, 50, 83] = some 12000000000 := by decide +kernel
example : tryParse [43, 53, 83] = none := by decide +kernel   -- "+5S" is not spec-conformant
example : clientCall (some 300000000) none (plainPeer none) = Done.timeout 300000000 := by decide +kernel
example : clientCall (some 300000000) none (stallPeer none) = Done.pending := by decide +kernel
example : endToEnd (some 50) (some 20) (some 30) (some 25) = Done.timeout 20 := by decide +kernel
example : wire 1000000500 = some 1000000000 := by decide +kernel
example : Spec.Timeout.denote [43, 53, 83] = none ∧
    stage (headerTimeout [[43, 53, 83]]) (some 7) (answer (some 5)) = Done.inner 5 := by decide +kernel
example : configured [.timeout 5, .layer, .other, .connectTimeout 1] = some 5 := by decide +kernel
example : setTimeouts [10000000000, 5] = some [[53, 110]] := by decide +kernel
example : latePoll (some 100) (some 350) 300 = Done.timeout 300 :=
  (C09_deadline_counts_from_dispatch 100 300 (some 350) (by intro l h; cases h; decide)).1
example : latePoll (some 100) (some 250) 300 = Done.inner 300 := by decide +kernel   -- the window: either is acceptable
example : lateCutLazy (some 100) (answer (some 350)) 300 = Done.inner 350 := by decide +kernel
example : endToEndLate none (some 100) none (some 350) 300 = Done.timeout 300 := by decide +kernel
example : channelCalls ⟨none⟩ [(some 100, plainPeer (some 50)), (none, plainPeer (some 350))] =
    [Done.inner 50, Done.inner 350] := by decide +kernel
example : channelCallsBy Mw.callSticky ⟨none⟩ [(some 100, plainPeer (some 50)), (none, plainPeer (some 350))] =
    [Done.inner 50, Done.timeout 100] := by decide +kernel
example : [(some 100, plainPeer (some 50)), (none, plainPeer none)].Perm
    [(none, plainPeer none), (some 100, plainPeer (some 50))] := List.Perm.swap _ _ _

/-! ### Dimensions that must be invisible: the call's own status, several connections, a future that changes hands -/

private theorem seen_eq_report (own : Nat × Bytes) (d : Done) :
    seen own d = Spec.Timeout.report own (asExpect d) := by
  cases d <;> simp [seen, asExpect, Spec.Timeout.report, C09_status_is_cancelled_timeout_expired]

/-- "Unaffected if it finishes before that": one `GrpcTimeout` (either side) around something that
ends with its own status `own` (OK or an error status) after `l`, or never — the caller has in hand
exactly what the oracle's `report` says: `own` at `l` if the call finished by the shorter deadline,
CANCELLED "Timeout expired" at that deadline otherwise.
What the quantifier over `own` is worth: NOTHING beyond `C09_stage_meets_spec` +
`C09_status_is_cancelled_timeout_expired`.  The call's own status never enters the model
(`Done.inner t` carries no status; `seen own` pastes `own` back onto it, as `Spec.Timeout.report`
does on the oracle's side), so the statement is parametric in `own` by construction — transcription
of "the middleware hands the wrapped future's output on as it is".  That a real handler's error status
(and OK) comes through unchanged when the call finishes in time is established by the correspondence
run (`cx` / `sx` cases, token `own` = ok / e1 / e4 / e5 / e14: peers and handlers that end the call
with a status of their own, before and after the deadline), not here. -/
theorem C09_own_status_unaffected (own : Nat × Bytes) (h c l : Option Nat) :
    seen own (stage h c (answer l)) =
      Spec.Timeout.report own (Spec.Timeout.expected [h, c] l) := by
  rw [seen_eq_report, C09_stage_meets_spec]

/-- The same through the client stack against a peer that enforces nothing (same caveat: parametric
in `own` by construction of `seen`; this is `C09_client_cutoff_plain_peer` +
`C09_status_is_cancelled_timeout_expired`). -/
theorem C09_own_status_unaffected_client (own : Nat × Bytes) (caller endpoint l : Option Nat) :
    seen own (clientCall caller endpoint (plainPeer l)) =
      Spec.Timeout.report own (Spec.Timeout.expected [caller, endpoint] l) := by
  rw [seen_eq_report, C09_client_cutoff_plain_peer]

/-- Transcription lemma (definitional, `⟨rfl, rfl⟩`): `Srv.accept` is written to return the `MakeSvc`
unchanged and to copy its timeout; it pins the model's shape for the `sx` correspondence cases
(one real server, 1-3 connections), which carry the assurance.  Twin of `C09_middleware_is_stateless`.
`MakeSvc::call` leaves the `MakeSvc` as it was: accepting a connection changes nothing for the
connections accepted later. -/
theorem C09_accept_is_stateless (s : Srv) : (s.accept).1 = s ∧ (s.accept).2 = ⟨s.timeout⟩ :=
  ⟨rfl, rfl⟩

/-- One `transport::Server` (with or without `Server::timeout`), ANY number of connections in any
accept order, any requests on each: every request is cut by its own header and `Server::timeout`,
on the first connection and on every later one alike. -/
theorem C09_server_connections_each_meet_spec (configured : Option Nat)
    (conns : List (List (Option Nat × Option Nat))) :
    (serverConns ⟨configured⟩ conns).map (·.map asExpect) =
      Spec.Timeout.expectedConns configured conns := by
  rw [eq_map_of_cons (serverConns ⟨configured⟩) (connCalls ⟨configured⟩) rfl
    fun _ _ => rfl]
  simp [Spec.Timeout.expectedConns, C09_connection_requests_each_meet_spec]

/-- NOT the code: a `MakeSvc::call` that moves the timeout out (`self.timeout.take()`).  TARGET: -/
def TakeConnsMeetSpec : Prop :=
  ∀ (configured : Option Nat) (conns : List (List (Option Nat × Option Nat))),
    (serverConnsBy Srv.acceptTake ⟨configured⟩ conns).map (·.map asExpect) =
      Spec.Timeout.expectedConns configured conns

/-- Witness: `Server::timeout(100)`, two connections, on each a request without grpc-timeout — the
first answered after 50, the second after 350: the second connection has no timeout at all. -/
theorem C09_take_on_accept_fails : ¬ TakeConnsMeetSpec := by
  intro h
  have := h (some 100) [[(none, some 50)], [(none, some 350)]]
  revert this
  decide +kernel

/-- Why no single-connection case can see it. -/
theorem C09_take_single_connection_agrees (s : Srv) (reqs : List (Option Nat × Option Nat)) :
    serverConnsBy Srv.acceptTake s [reqs] = serverConns s [reqs] := rfl

/-- Transcription lemma (definitional): `handoverBy true` is `lateCut` written out a second time
(with `rearm = true` its last branch is `lateCut`'s, the others are the same), so this compares two
copies of one definition; what it is FOR is `C09_handover_meets_spec` (against the independent
oracle) and the contrast with the counter-model `handoverBy false` (`C09_stale_timer_waker_fails`);
that a real `ResponseFuture` re-registers its timer's waker on every poll is established by the
`runw` / `cliw` correspondence cases.
A response future that changes hands (polled while pending by one task, then first polled by
its new owner at `p`): for the new owner it is a future first polled at `p` — the hand-over is
invisible. -/
theorem C09_handover_is_late_poll (T l : Option Nat) (p : Nat) :
    handoverBy true T l p = latePoll T l p := by
  cases T <;> rfl

/-- … and so meets the late-poll oracle: cut at `max T p` if still running then, its own result if
it finished by the deadline. -/
theorem C09_handover_meets_spec (h c l : Option Nat) (p : Nat) :
    asExpect (handoverBy true (effective h c) l p) ∈ Spec.Timeout.lateExpected [h, c] l p := by
  rw [C09_handover_is_late_poll]
  exact C09_late_stage_meets_spec h c l p

/-- NOT the code: a timer whose waker is registered by the first poll only.  Witness: deadline 100,
the wrapped service never answers, the new owner polls at once — it is never woken. -/
theorem C09_stale_timer_waker_fails :
    ¬ ∀ (T l : Option Nat) (p : Nat),
      asExpect (handoverBy false T l p) ∈ Spec.Timeout.lateExpected' T l p := by
  intro h
  have := h (some 100) none 0
  revert this
  decide +kernel

example : seen (5, [110, 111]) (stage (some 100) none (answer (some 50))) = some (5, [110, 111], 50) := by decide +kernel
example : serverConns ⟨some 100⟩ [[(none, some 50)], [(none, some 350)]] =
    [[Done.inner 50], [Done.timeout 100]] := by decide +kernel
example : serverConnsBy Srv.acceptTake ⟨some 100⟩ [[(none, some 50)], [(none, some 350)]] =
    [[Done.inner 50], [Done.inner 350]] := by decide +kernel
example : handoverBy true (some 100) none 0 = Done.timeout 100 ∧
    handoverBy false (some 100) none 0 = Done.pending := by decide +kernel

end C09

