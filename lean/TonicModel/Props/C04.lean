import TonicModel.Model.Status
import TonicModel.Spec.Status
import TonicModel.Lemmas.Status
import TonicModel.Lemmas.FramingHttp
import TonicModel.Model.FramingAsFound
import TonicModel.Model.StatusClient
/-
C04 — Status survives the header encoding; reading any headers is total.
`Variant.fixed` is the tree with the `fix:` commits 77562b77 (details base64 panic), 03f4f846
(FRAME_SIZE_ERROR) and 55843a47 (details among the metadata) of /repo applied, which the
correspondence run drives; `Variant.orig` is the pinned tree, for which the `_fails` witnesses are proved.
-/
namespace C04
open Status

/-! ## writing -/

/-- Writing a status into headers never fails, whatever the code, message bytes, details,
metadata and the block written into: `add_header` returns `Ok` (its `Err` branch — a value that
is not a legal header value — is unreachable). (Transcription lemma: it holds by unfolding the model's definition, so it pins the model's shape for the correspondence run — its assurance about tonic is the tie, not this proof.) -/
theorem C04_write_never_fails (v : Variant) (st : St) (h0 : HMap) : ∃ h, addHeader v st h0 = .ok h :=
  ⟨wire v st h0, addHeader_eq v st h0⟩

/-- The header block `add_header` makes out of `h0` (`h0 = []`: trailers; `h0 = [content-type]`:
a trailers-only response), name by name: `grpc-status` is the code's decimal; a non-empty message
is written as its percent-encoding under `grpc-message`, non-empty details as their unpadded
base64 under `grpc-status-details-bin`; every custom name (not reserved, not the details header)
that the metadata has carries exactly the metadata's values for it, in order; everything else
is left as it was in `h0` — in particular nothing from the metadata appears under a reserved name. -/
theorem C04_wire_form (st : St) (h0 h : HMap) (hw : addHeader .fixed st h0 = .ok h) (k : Bytes) :
    HMap.getAll k h =
      if k = GRPC_STATUS then [st.code.headerValue]
      else if k = GRPC_MESSAGE ∧ st.message ≠ [] then [Pct.encode st.message]
      else if k = GRPC_STATUS_DETAILS ∧ st.details ≠ [] then [B64.encode false st.details]
      else if isCustom k = true ∧ HMap.getAll k st.metadata ≠ [] then HMap.getAll k st.metadata
      else HMap.getAll k h0 := by
  rw [addHeader_eq] at hw
  cases hw
  exact getAll_wire st h0 k

/-- Every header value in the block is a legal HTTP header value (HTAB, SP–~, obs-text), given
that the metadata's own values and those already in `h0` are (which `HeaderValue` guarantees);
a `grpc-message` value written for a non-empty message is moreover visible ASCII without space
(a spec-conformant `Percent-Encoded` string). -/
theorem C04_values_legal (st : St) (h0 h : HMap) (hw : addHeader .fixed st h0 = .ok h)
    (hmd : ∀ e ∈ st.metadata, Spec.Status.legalHeaderValue e.2 = true)
    (h0l : ∀ e ∈ h0, Spec.Status.legalHeaderValue e.2 = true) :
    (∀ e ∈ h, Spec.Status.legalHeaderValue e.2 = true) ∧
    (st.message ≠ [] → ∀ v ∈ HMap.getAll GRPC_MESSAGE h, ∀ b ∈ v, 33 ≤ b.toNat ∧ b.toNat ≤ 126) := by
  constructor
  · rintro ⟨k, v⟩ he
    show Spec.Status.legalHeaderValue v = true
    have hv := HMap.mem_getAll.mpr he
    rw [C04_wire_form st h0 h hw k] at hv
    -- `v` is one of the three values written, or comes from the metadata, or was in `h0`
    split at hv
    · rw [List.mem_singleton.mp hv]; cases st.code <;> decide
    split at hv
    · rw [List.mem_singleton.mp hv]; exact legalHeaderValue_of_legalValue (pct_encode_legal _)
    split at hv
    · rw [List.mem_singleton.mp hv]; exact legalHeaderValue_of_legalValue (b64_encode_legal _ _)
    split at hv
    · exact hmd _ (HMap.mem_getAll.mp hv)
    · exact h0l _ (HMap.mem_getAll.mp hv)
  · intro hm v hv b hb
    rw [C04_wire_form st h0 h hw, if_neg names_ne.1.symm, if_pos ⟨rfl, hm⟩, List.mem_singleton] at hv
    rw [hv] at hb
    exact Pct.encode_visible _ b hb

/-! ## round trip -/

/-- **Round trip.** For every status — any of the 17 codes, any valid-UTF-8 message (controls,
`%`, non-ASCII, empty), any details byte string, any metadata — written into any block `h0`
that does not already hold a message or details header (`[]` for trailers, `[content-type]`
for a trailers-only response), reading the block back yields exactly the same code, message
and details; and its metadata has, under every custom name the status' metadata had, exactly
those values in that order, nothing under the status names, and otherwise what `h0` had. -/
theorem C04_status_roundtrip (st : St) (h0 : HMap) (hutf : Utf8.valid st.message = true)
    (hm0 : HMap.getAll GRPC_MESSAGE h0 = []) (hd0 : HMap.getAll GRPC_STATUS_DETAILS h0 = []) :
    ∃ h, addHeader .fixed st h0 = .ok h ∧
      fromHeaderMap .fixed h = some (.status
        { code := st.code, message := st.message, details := st.details, metadata := stripStatus h }) ∧
      ∀ k, HMap.getAll k (stripStatus h) =
        if k = GRPC_STATUS ∨ k = GRPC_MESSAGE ∨ k = GRPC_STATUS_DETAILS then []
        else if isCustom k = true ∧ HMap.getAll k st.metadata ≠ [] then HMap.getAll k st.metadata
        else HMap.getAll k h0 := by
  obtain ⟨gS, gM, gD⟩ := get_wire st h0 hm0 hd0
  refine ⟨_, addHeader_eq .fixed st h0, ?_, fun k => ?_⟩
  · rw [fromHeaderMap_fixed_of_carries gS hutf (carries_optional gM (by rw [Pct.decode_encode]))
      (carries_optional gD (B64.decode_encode _ _)), fromBytes_headerValue]
  · rw [getAll_stripStatus]
    by_cases hk : k = GRPC_STATUS ∨ k = GRPC_MESSAGE ∨ k = GRPC_STATUS_DETAILS
    · rw [if_pos hk, if_pos hk]
    · rw [if_neg hk, if_neg hk, getAll_wire, if_neg (fun e => hk (.inl e)),
        if_neg (fun e => hk (.inr (.inl e.1))), if_neg (fun e => hk (.inr (.inr e.1)))]

/-- The same with the message given as text: for **every list of Unicode scalar values** (Lean
`Char`s — controls, `%`, non-ASCII, astral planes, empty), its UTF-8 encoding is a message that
survives, with no validity hypothesis left. -/
theorem C04_status_roundtrip_unicode (code : Code) (text : List Char) (details : Bytes) (md h0 : HMap)
    (hm0 : HMap.getAll GRPC_MESSAGE h0 = []) (hd0 : HMap.getAll GRPC_STATUS_DETAILS h0 = []) :
    ∃ h, addHeader .fixed
        { code := code, message := Utf8.encodeString (text.map Char.toNat), details := details, metadata := md } h0 = .ok h ∧
      fromHeaderMap .fixed h = some (.status
        { code := code, message := Utf8.encodeString (text.map Char.toNat), details := details,
          metadata := stripStatus h }) := by
  obtain ⟨h, h1, h2, _⟩ := C04_status_roundtrip
    { code := code, message := Utf8.encodeString (text.map Char.toNat), details := details, metadata := md }
    h0 (Utf8.valid_encodeChars text) hm0 hd0
  exact ⟨h, h1, h2⟩

private def detailsInMetadata : St :=
  { code := .invalidArgument, message := [], details := [],
    metadata := [(GRPC_STATUS_DETAILS, [81, 85, 74, 68])] }

/-- On the pinned tree as found the round trip fails for a status whose metadata carries a
`grpc-status-details-bin` entry while its details are empty: the entry is written to the wire
and the peer reads it as the details.  Witness: `details = ""`, metadata
`grpc-status-details-bin: QUJD` reads back with details `ABC`.  (The reader here is the repaired
one; the one as found reads this block in the same way, `C04_read_total_partial`.) -/
theorem C04_status_roundtrip_unfixed_fails :
    ¬ ∀ st : St, Utf8.valid st.message = true →
      ∃ h st', addHeader .orig st [] = .ok h ∧ fromHeaderMap .fixed h = some (.status st') ∧
        st'.details = st.details := by
  intro hall
  obtain ⟨h, st', h1, h2, h3⟩ := hall detailsInMetadata (by decide)
  have hr : fromHeaderMap .fixed (wire .orig detailsInMetadata []) = some (.status
      { code := .invalidArgument, message := [], details := [65, 66, 67], metadata := [] }) := by
    decide +kernel
  rw [addHeader_eq, Except.ok.injEq] at h1
  rw [← h1, hr, Option.some.injEq, Outcome.status.injEq] at h2
  rw [← h2] at h3
  cases h3

/-! ## reading arbitrary peer headers -/

/-- **Totality.** Reading a status from *any* header block never panics (repaired tree). -/
theorem C04_read_total (h : HMap) : fromHeaderMap .fixed h ≠ some .panic := by
  unfold fromHeaderMap
  split
  · simp
  · dsimp only
    split <;> simp

/-- On the pinned tree as found the reader is not total: a `grpc-status-details-bin` value that
is not base64 panics (`expect`).  Witness: `grpc-status: 3`, `grpc-status-details-bin: !!!`. -/
theorem C04_read_total_unfixed_fails : ¬ ∀ h, fromHeaderMap .orig h ≠ some .panic := by
  intro hall
  exact hall [(GRPC_STATUS, [51]), (GRPC_STATUS_DETAILS, [33, 33, 33])] (by decide +kernel)

/-- … and that is the only way it panics: on the pinned tree every block whose details header
(if any) is valid base64 is read without panic, and both trees agree on it. -/
theorem C04_read_total_partial (h : HMap)
    (hd : ∀ dv, HMap.get GRPC_STATUS_DETAILS h = some dv → (B64.decode dv).isSome = true) :
    fromHeaderMap .orig h ≠ some .panic ∧ fromHeaderMap .orig h = fromHeaderMap .fixed h := by
  unfold fromHeaderMap
  split
  · simp
  · dsimp only
    cases hg : HMap.get GRPC_STATUS_DETAILS h with
    | none => simp
    | some dv =>
      have := hd dv hg
      cases hdec : B64.decode dv with
      | none => rw [hdec] at this; cases this
      | some d => simp [hdec]

/-- **The reader computes the spec's reading**, for every header block: no status iff there is
no `grpc-status`; otherwise a status whose metadata is the block minus the three status headers
and whose fields are: the code the spec's table gives (UNKNOWN for every unknown or malformed
code string), the percent-decoded message and the base64-decoded details when both are
decodable; and an error status (UNKNOWN, never OK) as soon as one of them is not. -/
theorem C04_read_is_spec (h : HMap) :
    match Spec.Status.read h, fromHeaderMap .fixed h with
    | none, none => True
    | some r, some (.status st) =>
        st.metadata = stripStatus h ∧
        (∀ m d, r.message = some m → r.details = some d →
          st.code.num = r.code ∧ st.message = m ∧ st.details = d) ∧
        ((r.message = none ∨ r.details = none) → st.code = .unknown)
    | _, _ => False := by
  have e1 : Spec.Status.statusName = GRPC_STATUS := rfl
  have e2 : Spec.Status.messageName = GRPC_MESSAGE := rfl
  have e3 : Spec.Status.detailsName = GRPC_STATUS_DETAILS := rfl
  unfold Spec.Status.read fromHeaderMap decodeMessage stripStatus
  rw [e1, e2, e3]
  cases hs : HMap.get GRPC_STATUS h with
  | none => simp
  | some cv =>
    cases hm : HMap.get GRPC_MESSAGE h with
    | none =>
      cases hd : HMap.get GRPC_STATUS_DETAILS h with
      | none => simp [fromBytes_is_spec]
      | some dv =>
        cases hdec : B64.decode dv with
        | none => simp [hdec]
        | some d => simp [hdec, fromBytes_is_spec]
    | some mv =>
      cases hv : Utf8.validate (Pct.decode mv) with
      | none =>
        cases hd : HMap.get GRPC_STATUS_DETAILS h with
        | none => simp [fromBytes_is_spec, Utf8.valid, hv]
        | some dv =>
          cases hdec : B64.decode dv with
          | none => simp [hdec]
          | some d => simp [hdec, fromBytes_is_spec, Utf8.valid, hv]
      | some e =>
        cases hd : HMap.get GRPC_STATUS_DETAILS h with
        | none => simp [Utf8.valid, hv]
        | some dv =>
          cases hdec : B64.decode dv with
          | none => simp [hdec]
          | some d => simp [hdec, Utf8.valid, hv]

/-- **Reading what any conformant peer wrote.** Take any header block whose `grpc-status` is the
decimal of a code, whose `grpc-message` is *some* percent-encoding of a valid-UTF-8 message (any
set of escaped bytes that includes `%`, upper- or lower-case hex — not necessarily tonic's own
choice) and whose `grpc-status-details-bin` is the base64 of the details *with or without
padding*, plus arbitrary other headers: the reader returns exactly that code, message and
details, and the other headers as metadata. -/
theorem C04_reads_any_conformant_peer (c : Code) (msg det : Bytes) (others : HMap)
    (esc : UInt8 → Bool) (lower pad : Bool) (hesc : esc Pct.PCT = true)
    (hutf : Utf8.valid msg = true)
    (ho : HMap.getAll GRPC_STATUS others = [] ∧ HMap.getAll GRPC_MESSAGE others = [] ∧
          HMap.getAll GRPC_STATUS_DETAILS others = []) :
    fromHeaderMap .fixed
        (others ++ [(GRPC_STATUS, c.headerValue), (GRPC_MESSAGE, Pct.encodeWith esc lower msg),
                    (GRPC_STATUS_DETAILS, B64.encode pad det)]) =
      some (.status { code := c, message := msg, details := det,
                      metadata := stripStatus (others ++ [(GRPC_STATUS, c.headerValue),
                        (GRPC_MESSAGE, Pct.encodeWith esc lower msg), (GRPC_STATUS_DETAILS, B64.encode pad det)]) }) := by
  obtain ⟨gS, gM, gD⟩ := get_status_block c.headerValue (Pct.encodeWith esc lower msg) (B64.encode pad det) ho
  rw [fromHeaderMap_fixed_of_carries gS hutf
      (carries_some gM (by rw [Pct.decode_encodeWith esc lower hesc]))
      (carries_some gD (B64.decode_encode _ _)), fromBytes_headerValue]

/-- The `grpc-status` value is parsed by the exact table: each code's decimal gives that code
and every other byte string (empty, sign, leading zero, space, three digits, 17…) gives UNKNOWN. -/
theorem C04_code_parse_is_spec (bs : Bytes) : (Code.fromBytes bs).num = Spec.Status.readCode bs :=
  fromBytes_is_spec bs

/-- Every code's header value is its decimal number and parses back to the code. -/
theorem C04_code_roundtrip (c : Code) :
    c.headerValue = decimal c.num ∧ Code.fromBytes c.headerValue = c ∧ Code.ofInt (Int.ofNat c.num) = c :=
  ⟨(headerValue_eq_decimal c).1, fromBytes_headerValue c, by cases c <;> rfl⟩

/-! ## classification when no grpc-status is available -/

/-- the HTTP-status table of the stream model (`Framing.inferStatus`) is the spec's table -/
theorem C04_stream_http_table (http : Nat) : Framing.httpCode http = Spec.Status.httpToCode http := by
  unfold Spec.Status.httpToCode
  split
  -- the spec's default arm comes with the eight disequalities; the other arms are closed rows
  case h_9 h400 h401 h403 h404 h429 h502 h503 h504 =>
    rw [Framing.httpCode, if_neg h400, if_neg h401, if_neg h403, if_neg h404, if_neg]
    · rfl
    · exact fun h => h.elim h429 (·.elim h502 (·.elim h503 h504))
  all_goals rfl

/-- HTTP status table, all status codes: the model's table is the spec's table (and 200 is the
one status that ends the stream without an error). -/
theorem C04_http_table (http : Nat) :
    (http = 200 → httpToCode http = none) ∧
    (http ≠ 200 → ∃ c, httpToCode http = some c ∧ c.num = Spec.Status.httpToCode http) := by
  refine ⟨fun h => by subst h; rfl, fun h200 => ?_⟩
  -- the test for 200 aside, the model's table is `Framing.httpCode`'s chain of tests with codes at
  -- the leaves; `num` pushed to the leaves makes them the same
  have : (httpToCode http).map Code.num = some (Framing.httpCode http) := by
    simp only [httpToCode, Framing.httpCode, if_neg h200, apply_ite (Option.map Code.num), apply_ite some,
      Option.map_some, Code.num]
  rw [← C04_stream_http_table]
  exact Option.map_eq_some_iff.mp this

/-- With no trailers, or trailers without `grpc-status`, a non-200 response is an error whose
code is the spec's HTTP mapping; with a `grpc-status` in the trailers the trailers decide
(OK ends the stream cleanly, anything else is that error), whatever the HTTP status. -/
theorem C04_infer (trailers : Option HMap) (http : Nat) :
    ((trailers.bind Spec.Status.read = none) → http ≠ 200 →
      ∃ st, inferGrpcStatus .fixed trailers http = .err st ∧ st.code.num = Spec.Status.httpToCode http) ∧
    (∀ t st, trailers = some t → fromHeaderMap .fixed t = some (.status st) →
      inferGrpcStatus .fixed trailers http = if st.code = .ok then .done else .err st) := by
  constructor
  · intro hnone hne
    obtain ⟨c, hc, hnum⟩ := (C04_http_table http).2 hne
    refine ⟨{ code := c, message := inferMessage http, details := [], metadata := [] }, ?_, hnum⟩
    unfold inferGrpcStatus
    cases trailers with
    | none => simp only [hc]
    | some t =>
      -- the spec finds no status in `t`, so the reader finds none either
      have hs := C04_read_is_spec t
      rw [show Spec.Status.read t = none from hnone] at hs
      dsimp only
      generalize fromHeaderMap .fixed t = o at hs ⊢
      match o, hs with
      | none, _ => simp only [hc]
  · intro t st ht hst
    subst ht
    unfold inferGrpcStatus
    simp only [hst]

/-! ## a non-200 response WITH a body

The theorems above classify the end of a body that carried no DATA.  `Streaming` (model:
`Framing.Dec`, `codec/decode.rs`) is what meets a real body.  On the pinned tree it parsed the
DATA of every response as gRPC frames before it saw the end of the body; on the repaired tree the
DATA of a response whose HTTP status is not 200 is dropped unread. -/

/-- **HTTP-status table, any body.**  Take a response whose HTTP status is not 200 and ANY body:
any list of DATA chunks (an HTML page, bytes that look like a gRPC frame, a truncated frame, empty
chunks — any bytes in any chunking), `Pending`s, and trailers frames without a `grpc-status` (or
none), with any message codec, negotiated encoding and size limit.  Polled more often than there
are events, the stream yields, `Pending`s aside, exactly one error whose code is the spec's HTTP
mapping (400 INTERNAL, 401 UNAUTHENTICATED, 403 PERMISSION_DENIED, 404 UNIMPLEMENTED,
429/502/503/504 UNAVAILABLE, anything else UNKNOWN), then `None` for ever — and no message. -/
theorem C04_http_table_any_body {α : Type} (cd : Framing.Codec α) (enc : Option Framing.Enc)
    (maxSize : Option Nat) (http : Nat) (h200 : http ≠ 200)
    (evs : List Framing.BodyEv) (hevs : Framing.NoStatusEvs evs = true) (n : Nat) (hn : evs.length < n) :
    ∃ k, Framing.nonPending
        (Framing.Dec.run cd { enc := enc, maxSize := maxSize, dir := .response http } n Framing.Dec.init evs) =
      .err ⟨Spec.Status.httpToCode http, .http⟩ :: List.replicate k .none := by
  obtain ⟨hne, htr⟩ := Framing.of_noStatus evs hevs
  obtain ⟨tl, h, ht⟩ := Framing.run_non200 cd { enc := enc, maxSize := maxSize, dir := .response http } http rfl
    h200 n Framing.Dec.init evs Framing.idle_init hne hn
  rw [Framing.inferStatus_noStatus _ http htr h200, C04_stream_http_table] at h ht
  obtain ⟨k, rfl⟩ := ht (by simp)
  exact ⟨k, h⟩

/-- **No message from a non-200 response, ever** — for every event list whatsoever (body errors
and trailers with a status included), any number of polls. -/
theorem C04_non200_no_message {α : Type} (cd : Framing.Codec α) (enc : Option Framing.Enc)
    (maxSize : Option Nat) (http : Nat) (h200 : http ≠ 200) (evs : List Framing.BodyEv) (n : Nat) :
    Framing.msgsOf
      (Framing.Dec.run cd { enc := enc, maxSize := maxSize, dir := .response http } n Framing.Dec.init evs) = [] :=
  Framing.run_non200_no_message cd _ (Framing.skips_of_non200 rfl h200) n evs

/-- **A `grpc-status` in the trailers wins, any body.**  If the first trailers frame of a non-200
response carries `grpc-status: c`, then whatever DATA and `Pending`s precede it the first ready
result of the stream is the clean end for `c = 0` and the error with code `c` otherwise. -/
theorem C04_trailers_status_wins_any_body {α : Type} (cd : Framing.Codec α) (enc : Option Framing.Enc)
    (maxSize : Option Nat) (http : Nat) (h200 : http ≠ 200) (c : Nat)
    (evs : List Framing.BodyEv) (hevs : Framing.NoErrEvs evs = true)
    (hfirst : Framing.firstTr evs = some (some c)) (n : Nat) (hn : evs.length < n) :
    Framing.firstReady
        (Framing.Dec.run cd { enc := enc, maxSize := maxSize, dir := .response http } n Framing.Dec.init evs) =
      some (if c = 0 then .none else .err ⟨c, .user⟩) := by
  obtain ⟨tl, h, _⟩ := Framing.run_non200 cd { enc := enc, maxSize := maxSize, dir := .response http } http rfl
    h200 n Framing.Dec.init evs Framing.idle_init hevs hn
  rw [Framing.firstReady, h, hfirst]
  by_cases hc : c = 0 <;> simp [Framing.inferStatus, hc]

/-- the codec of the witnesses below: messages are byte strings, every payload decodes -/
def rawCodec : Framing.Codec Bytes :=
  { ser := id, de := some, deErr := 13, cz := fun _ b => b, dz := fun _ _ => none }

/-- On the pinned tree as found the HTTP-status classification fails as soon as the response has a
body.  Witnesses (both replayed on the real code, `inferb` corpus cases): HTTP 503 with an HTML
body (`<html>`) ends with INTERNAL ("invalid compression flag: 60") instead of UNAVAILABLE. -/
theorem C04_http_status_with_body_asis_fails :
    ¬ ∀ (http : Nat), http ≠ 200 → ∀ (evs : List Framing.BodyEv), Framing.NoStatusEvs evs = true →
      ∀ n, evs.length < n →
      ∃ k, Framing.nonPending
          (Framing.Dec.runAsFound rawCodec { enc := none, maxSize := none, dir := .response http } n Framing.Dec.init evs) =
        .err ⟨Spec.Status.httpToCode http, .http⟩ :: List.replicate k .none := by
  intro hall
  obtain ⟨k, hk⟩ := hall 503 (by decide) [.data [60, 104, 116, 109, 108, 62]] (by decide) 2 (by decide)
  -- already the first item differs: INTERNAL for the bad flag byte `<`, not UNAVAILABLE
  have := congrArg List.head? hk
  rw [List.head?_cons] at this
  revert this
  decide +kernel

/-- … and a 401 whose body happens to look like a frame (`00 00 00 00 02 6e 6f`) DELIVERS A
MESSAGE on the pinned tree as found. -/
theorem C04_non200_no_message_asis_fails :
    ¬ ∀ (http : Nat), http ≠ 200 → ∀ (evs : List Framing.BodyEv) (n : Nat),
      Framing.msgsOf
        (Framing.Dec.runAsFound rawCodec { enc := none, maxSize := none, dir := .response http } n Framing.Dec.init evs) = [] := by
  intro hall
  have := hall 401 (by decide) [.data [0, 0, 0, 0, 2, 110, 111]] 3
  revert this
  decide

/-- HTTP/2 error-code table (repaired tree): every error code for which gRPC's table gives a
mapping — CANCEL, REFUSED_STREAM, ENHANCE_YOUR_CALM, INADEQUATE_SECURITY and the eight
protocol-level codes — is mapped to exactly that code; for all error codes, known or unknown. -/
theorem C04_h2_table (reason c : Nat) (h : Spec.Status.h2ToCode reason = some c) :
    (codeFromH2 .fixed reason).num = c := by
  unfold Spec.Status.h2ToCode at h
  split at h <;> cases h <;> rfl

/-- On the pinned tree as found the table has one wrong row: FRAME_SIZE_ERROR (6), a
protocol-level code, gives UNKNOWN instead of INTERNAL. -/
theorem C04_h2_table_unfixed_fails :
    ¬ ∀ reason c, Spec.Status.h2ToCode reason = some c → (codeFromH2 .orig reason).num = c := by
  intro hall
  have := hall 6 13 (by decide)
  revert this; decide

/-- … and it is the only wrong row. -/
theorem C04_h2_table_partial (reason c : Nat) (hne : reason ≠ 6)
    (h : Spec.Status.h2ToCode reason = some c) : (codeFromH2 .orig reason).num = c := by
  rw [← C04_h2_table reason c h]
  unfold codeFromH2
  simp [hne]

/-- A status is reset with CANCEL exactly when it is CANCELLED, and the peer maps that reset
back to CANCELLED. -/
theorem C04_cancel_reset (c : Code) :
    (toH2 c = 8 ↔ c = .cancelled) ∧ codeFromH2 .fixed (toH2 .cancelled) = .cancelled := by
  cases c <;> decide

/-! ## the layers around the codec (audit aC04): the client's first look at a response, the
server's two ways of writing a failure, a finished stream polled again -/

/-- **A client reads the status of a trailers-only response out of the response headers, and
exactly as the spec reads that block.** For every HTTP status and every header block:
no `grpc-status` in the headers — the body becomes the response stream that is classified at its
end (by its trailers, else by the HTTP status: `C04_infer`, `C04_http_table_any_body`); a
`grpc-status` there that reads as a non-OK status — the call fails at once with the spec's
reading of the block (code, message, details), whatever the HTTP status; an undecodable field —
it fails with a non-OK status; and only a well-formed OK lets the call go on. -/
theorem C04_client_header_status (http : Nat) (h : HMap) :
    match Spec.Status.read h, createResponse .fixed http h with
    | none, .stream d => d = .response http
    | some r, .fail st =>
        st.code ≠ .ok ∧ st.metadata = stripStatus h ∧
        (∀ m d, r.message = some m → r.details = some d →
          st.code.num = r.code ∧ st.message = m ∧ st.details = d)
    | some r, .stream d => d = .empty ∧ r.code = Spec.Status.OK ∧ r.message.isSome ∧ r.details.isSome
    | _, _ => False := by
  have hs := C04_read_is_spec h
  unfold createResponse
  generalize Spec.Status.read h = r at hs ⊢
  generalize fromHeaderMap .fixed h = o at hs ⊢
  match r, o, hs with
  | none, none, _ => rfl
  | some r, some (.status st), ⟨hmd, hdec, hund⟩ =>
    by_cases hok : st.code = .ok
    · simp only [hok, if_true]
      -- an OK code means that both fields decoded: otherwise the code is UNKNOWN
      cases hm : r.message with
      | none => have := hund (.inl hm); rw [hok] at this; cases this
      | some m =>
        cases hd : r.details with
        | none => have := hund (.inr hd); rw [hok] at this; cases this
        | some d =>
          have := (hdec m d hm hd).1
          rw [hok] at this
          exact ⟨trivial, this.symm, rfl, rfl⟩
    · simp only [hok, if_false]
      exact ⟨hok, hmd, hdec⟩

private theorem contentType_block :
    HMap.getAll GRPC_MESSAGE [(CONTENT_TYPE, HMap.name "application/grpc")] = [] ∧
    HMap.getAll GRPC_STATUS_DETAILS [(CONTENT_TYPE, HMap.name "application/grpc")] = [] :=
  ⟨HMap.getAll_singleton_ne contentType_ne.2.1.symm _, HMap.getAll_singleton_ne contentType_ne.2.2.symm _⟩

/-- **Both ways a server writes a failed call are read back by a client as the same status.**
For every status with a code other than OK (any valid-UTF-8 message, any details, any metadata):
written by `Status::into_http` into a trailers-only response, the client's `create_response`
fails the call with exactly that code, message and details, whatever the HTTP status; and written
by `Status::to_header_map` into the trailers of a response body (`EncodeBody`), the end of the
response stream (`infer_grpc_status`) is exactly that error, whatever the HTTP status. -/
theorem C04_server_failure_reaches_client (st : St) (http : Nat) (hutf : Utf8.valid st.message = true)
    (hne : st.code ≠ .ok) :
    (∃ h, addHeader .fixed st [(CONTENT_TYPE, HMap.name "application/grpc")] = .ok h ∧
      createResponse .fixed http h = .fail
        { code := st.code, message := st.message, details := st.details, metadata := stripStatus h }) ∧
    (∃ t, toHeaderMap .fixed st = .ok t ∧
      inferGrpcStatus .fixed (some t) http = .err
        { code := st.code, message := st.message, details := st.details, metadata := stripStatus t }) := by
  constructor
  · obtain ⟨h, hw, hr, _⟩ := C04_status_roundtrip st [(CONTENT_TYPE, HMap.name "application/grpc")] hutf
      contentType_block.1 contentType_block.2
    refine ⟨h, hw, ?_⟩
    unfold createResponse
    rw [hr]
    simp [hne]
  · obtain ⟨t, hw, hr, _⟩ := C04_status_roundtrip st [] hutf rfl rfl
    refine ⟨t, hw, ?_⟩
    have := (C04_infer (some t) http).2 t _ rfl hr
    rw [this]
    simp [hne]

/-- Target: *a stream that has ended stays ended* — polled again after `message()` said `None`
and `trailers()` handed out the trailers, it says `None` again (the documentation of
`Streaming::message` promises it).  **False of the code as it is** (finding C04-F2): a response
whose HTTP status is not 200 and whose trailers carry `grpc-status: 0` ends cleanly, but once
`trailers()` has taken the trailers the next poll classifies the response by its HTTP status
alone and fails, e.g. with UNAVAILABLE for a 503. -/
theorem C04_ended_stream_stays_ended_fails :
    ¬ ∀ dir, repollAfterTrailersTaken dir = none := by
  intro h
  have := h (.response 503)
  revert this
  decide

/-- … and it holds exactly when the response's HTTP status is 200 (and for request streams and
the `new_empty` streams of trailers-only responses). -/
theorem C04_ended_stream_stays_ended_partial (dir : Framing.Dir) :
    repollAfterTrailersTaken dir = none ↔ dir ≠ .response 200 → ∀ http, dir ≠ .response http := by
  cases dir with
  | request => simp [repollAfterTrailersTaken, Framing.Dec.response]
  | empty => simp [repollAfterTrailersTaken, Framing.Dec.response]
  | response http =>
    simp only [repollAfterTrailersTaken, Framing.Dec.response]
    by_cases h200 : http = 200
    · subst h200; simp [Framing.inferStatus]
    · rw [Framing.inferStatus_noStatus none http (.inl rfl) h200]
      constructor
      · intro h; cases h
      · intro h
        exact absurd rfl (h (by simpa using h200) http)

/-! ## non-vacuity -/

/- a status with controls, `%`, non-ASCII text, details of length 2 (mod 3) and repeated and
reserved metadata satisfies the round-trip hypotheses … -/
private def exSt : St :=
  { code := .dataLoss, message := [37, 10, 195, 169, 32], details := [0, 255],
    metadata := [(HMap.name "x-a", [49]), (HMap.name "te", [120]), (HMap.name "x-a", [50])] }

example : Utf8.valid exSt.message = true := by decide +kernel

/- … the hypotheses of `C04_server_failure_reaches_client` are met by it, and the three outcomes of
`create_response` all occur: a 503 whose headers carry a status fails with that status, OK in the
headers gives the unclassified `new_empty` stream, no status gives the stream classified at its end -/
example : exSt.code ≠ .ok := by decide +kernel
example : createResponse .fixed 503 [(GRPC_STATUS, [55]), (GRPC_STATUS_DETAILS, HMap.name "QUI=")] =
    .fail { code := .permissionDenied, message := [], details := [65, 66], metadata := [] } := by decide +kernel
example : createResponse .fixed 200 [(GRPC_STATUS, [48])] = .stream .empty ∧
    createResponse .fixed 404 [(CONTENT_TYPE, HMap.name "text/html")] = .stream (.response 404) := by decide +kernel
example : repollAfterTrailersTaken (.response 503) = some ⟨14, .http⟩ ∧
    repollAfterTrailersTaken (.response 200) = none := by decide +kernel
/- … and its wire form is what the theorems say -/
example : (toHeaderMap .fixed exSt).toOption = some
    [(HMap.name "x-a", [49]), (HMap.name "x-a", [50]), (GRPC_STATUS, [49, 53]),
     (GRPC_MESSAGE, HMap.name "%25%0A%C3%A9%20"), (GRPC_STATUS_DETAILS, HMap.name "AP8")] := by
  repeat rw [HMap.name_lit]
  decide +kernel
/- the block a trailers-only response starts from satisfies the `h0` hypotheses -/
example : HMap.getAll GRPC_MESSAGE [(CONTENT_TYPE, HMap.name "application/grpc")] = [] ∧
    HMap.getAll GRPC_STATUS_DETAILS [(CONTENT_TYPE, HMap.name "application/grpc")] = [] := contentType_block
/- a peer that escapes only `%`, in lower-case hex, and pads its base64, meets the hypotheses of
`C04_reads_any_conformant_peer`; so does a block with other headers around -/
example : (fun b : UInt8 => b == 37) Pct.PCT = true ∧
    Pct.encodeWith (fun b => b == 37) true [49, 48, 48, 37] = HMap.name "100%25" ∧
    B64.encode true [255] = HMap.name "/w==" ∧
    (HMap.getAll GRPC_STATUS [(HMap.name "x-a", [49])] = [] ∧ HMap.getAll GRPC_MESSAGE [(HMap.name "x-a", [49])] = [] ∧
      HMap.getAll GRPC_STATUS_DETAILS [(HMap.name "x-a", [49])] = []) := by
  repeat rw [HMap.name_lit]
  decide +kernel
/- malformed inputs exist on both sides of `C04_read_is_spec` -/
example : Spec.Status.read [(GRPC_STATUS, HMap.name "016")] = some { code := 2, message := some [], details := some [] } := by decide +kernel
example : (Spec.Status.read [(GRPC_STATUS, [48]), (GRPC_STATUS_DETAILS, HMap.name "QR")]).map (·.details) = some none := by decide +kernel
/- an HTML page cut in two with a `Pending` and a status-less trailers frame satisfies the
hypotheses of `C04_http_table_any_body`; on the repaired tree the 401 look-alike frame yields no message -/
example : Framing.NoStatusEvs [.data [60, 104], .pending, .data [116, 109, 108, 62], .trailers none] = true := by decide +kernel
example : Framing.nonPending
    (Framing.Dec.run rawCodec { enc := none, maxSize := none, dir := .response 401 } 2 Framing.Dec.init
      [.data [0, 0, 0, 0, 2, 110, 111]]) = [.err ⟨16, .http⟩, .none] := by decide +kernel
example : Spec.Status.h2ToCode 6 = some 13 ∧ Spec.Status.h2ToCode 5 = none ∧ Spec.Status.httpToCode 429 = 14 := by decide +kernel

end C04
