import TonicModel.Model.Reflection
import TonicModel.Spec.Reflection
import TonicModel.Lemmas.Reflection
import TonicModel.Lemmas.ReflectionWire
/-
C19 — Reflection resolves every registered symbol and file, and nothing else.
The lemmas about the model live in `Lemmas/Reflection`.

Reading guide.  `c : Config` is the builder after arbitrary `register_*`, `with_service_name`
and `include_reflection_service` calls; `c.files` are all registered descriptors (any number of
sets and files, any nesting depth, packages present/absent/empty, duplicates);  `build c = .ok st`
is a successfully built service;  `assoc n st.symbols` / `assoc nm st.files` are what
`file_containing_symbol` / `file_by_filename` look up, `respond` is one step of the request loop
and `runStream` a whole call.  `Declares f n` is the oracle (`Spec/Reflection`): file `f`
declares the fully-qualified name `n`.

Duplicate file names: registering the *identical* file again is harmless; if two registered
files with one name differ, tonic serves the one it examines first (`C19_first_registration_wins`).
The order-free theorems therefore speak about `Unconflicted` files (every registered file of
that name is that very file) where they promise that a particular file is served, and about
*some* registered file otherwise.
-/
namespace C19
open Refl Reflection Spec.Reflection

/-- The service builds whenever every registered byte string decodes and every name the indexer
reads is present: no other input can make `build_v1`/`build_v1alpha` fail.  (One direction only:
the converse is false, see `C19_build_iff` for the exact condition and
`C19_build_succeeds_converse_fails`.) -/
theorem C19_build_succeeds (c : Config) (hd : c.decodable = true)
    (hw : ∀ f ∈ c.files, File.wellNamed f = true) : ∃ st, build c = .ok st :=
  (build_isOk_iff c).mpr ⟨hd, fun f hf => hw f (mem_procFiles.mp (served_subset hf))⟩

/-- **When exactly the service builds.**  `build_v1`/`build_v1alpha` succeed iff every registered
byte string decodes and every registered file that is the FIRST of its file name in the order the
builder examines them (`served c.procFiles`: decoded registrations before encoded ones, each in
call order, the own descriptor last) has all the names the indexer reads.  A file whose file name
is already taken is skipped (`continue`) and never examined, so missing names in it do not matter. -/
theorem C19_build_iff (c : Config) :
    (∃ st, build c = .ok st) ↔
      (c.decodable = true ∧ ∀ f ∈ served c.procFiles, File.wellNamed f = true) :=
  build_isOk_iff c

private def bn (cs : List Char) : Name := cs.map (fun c => UInt8.ofNat c.toNat)

/-- `a.p`, package `pk`, `message M { f }`, `service S { rpc G }` -/
def shadowing : File :=
  { name := some (bn ['a', '.', 'p']), package := some (bn ['p', 'k']), extra := 0
    messages := .cons (.mk (some (bn ['M'])) .nil [] [some (bn ['f'])] []) .nil
    enums := [], services := [{ name := some (bn ['S']), methods := [some (bn ['G'])] }] }

/-- the same file name, with a message WITHOUT a name: `process_file` would fail on it -/
def shadowed : File := { shadowing with messages := .cons (.mk none .nil [] [] []) .nil }

/-- both registered in one set, the well-named one first -/
def shadowCfg : Config := { regs := [.decoded [shadowing, shadowed]], chosen := none, own := none }

/-- The converse of `C19_build_succeeds` is false: `shadowCfg` decodes and builds although a
registered file (`shadowed`, behind a file of the same name) lacks a message name — so "builds
iff nothing is undecodable or unnamed" does not hold; `C19_build_iff` is the exact statement. -/
theorem C19_build_succeeds_converse_fails :
    shadowCfg.decodable = true ∧ isOk (build shadowCfg) = true ∧
    shadowed ∈ shadowCfg.files ∧ File.wellNamed shadowed = false ∧
    ¬ (∀ c : Config, (∃ st, build c = .ok st) →
        (c.decodable = true ∧ ∀ f ∈ c.files, File.wellNamed f = true)) := by
  refine ⟨by decide +kernel, by decide +kernel, by decide +kernel, by decide +kernel, fun h => ?_⟩
  have := (h shadowCfg (isOk_iff.mp (by decide +kernel))).2 shadowed (by decide +kernel)
  revert this; decide +kernel

/-- Soundness of symbol resolution ("… and nothing else"): whatever file a symbol resolves to is
a registered file that declares that symbol, and is itself the file served under its name. -/
theorem C19_symbol_sound (c : Config) (st : State) (h : build c = .ok st) (n : Name) (f : File)
    (hl : assoc n st.symbols = some f) :
    f ∈ c.files ∧ Declares f n ∧ ∃ nm, f.name = some nm ∧ assoc nm st.files = some f := by
  have hb := (build_ok h).2
  rw [hb.symbols_eq] at hl
  have hs : f ∈ served c.procFiles := List.mem_reverse.mp (List.mem_of_find?_eq_some hl)
  exact ⟨mem_procFiles.mp (served_subset hs), declares_iff.mp (List.find?_some (p := fun f => declares f n) hl),
    hb.mem_served.mp hs⟩

/-- File retrieval, soundness: a name only ever retrieves a registered file of that name. -/
theorem C19_file_sound (c : Config) (st : State) (h : build c = .ok st) (nm : Name) (g : File)
    (hl : assoc nm st.files = some g) : g ∈ c.files ∧ g.name = some nm := by
  rw [(build_ok h).2.files_eq] at hl
  exact ⟨mem_procFiles.mp (List.mem_of_find?_eq_some hl), of_decide_eq_true (List.find?_some (p := fun g : File => decide (g.name = some nm)) hl)⟩

/-- Completeness of symbol resolution: every fully-qualified name declared by a served file —
message, nested message (any depth), field, oneof, enum, enum value, service, method — resolves,
and (by soundness) to a registered file declaring it. -/
theorem C19_symbol_complete_served (c : Config) (st : State) (h : build c = .ok st) (nm : Name)
    (f : File) (hs : assoc nm st.files = some f) (n : Name) (hd : Declares f n) :
    ∃ g, assoc n st.symbols = some g ∧ g ∈ c.files ∧ Declares g n := by
  have hb := (build_ok h).2
  have hf : f ∈ served c.procFiles :=
    hb.mem_served.mpr ⟨nm, (C19_file_sound c st h nm f hs).2, hs⟩
  obtain ⟨g, hg⟩ := find?_of_mem (p := fun g => declares g n) (List.mem_reverse.mpr hf)
    (declares_iff.mpr hd)
  rw [← hb.symbols_eq] at hg
  obtain ⟨h1, h2, -⟩ := C19_symbol_sound c st h n g hg
  exact ⟨g, hg, h1, h2⟩

/-- File retrieval, completeness: every registered file's name retrieves a registered file of
that name — the file itself unless a *different* file was registered under the same name. -/
theorem C19_file_complete (c : Config) (st : State) (h : build c = .ok st) (f : File)
    (hf : f ∈ c.files) (nm : Name) (hn : f.name = some nm) :
    ∃ g, assoc nm st.files = some g ∧ g ∈ c.files ∧ g.name = some nm ∧
      (Unconflicted c.files f → g = f) := by
  obtain ⟨g, hg⟩ := find?_of_mem (p := fun g => decide (g.name = some nm)) (mem_procFiles.mpr hf)
    (decide_eq_true hn)
  have ha : assoc nm st.files = some g := by rw [(build_ok h).2.files_eq]; exact hg
  obtain ⟨h1, h2⟩ := C19_file_sound c st h nm g ha
  exact ⟨g, ha, h1, h2, fun hu => hu g h1 (h2.trans hn.symm)⟩

/-- Which of several same-named files is served: the first one the builder examines (decoded
registrations before encoded ones, each in call order). -/
theorem C19_first_registration_wins (c : Config) (st : State) (h : build c = .ok st) (nm : Name) :
    assoc nm st.files = c.procFiles.find? (fun g => decide (g.name = some nm)) :=
  (build_ok h).2.files_eq nm

/-- Completeness, order-free form: every name declared by a registered file whose file name is
not contested resolves to a registered file declaring it. -/
theorem C19_symbol_complete (c : Config) (st : State) (h : build c = .ok st) (f : File)
    (hf : f ∈ c.files) (hu : Unconflicted c.files f) (n : Name) (hd : Declares f n) :
    ∃ g, assoc n st.symbols = some g ∧ g ∈ c.files ∧ Declares g n := by
  obtain ⟨nm, hn⟩ := Option.isSome_iff_exists.mp ((build_ok h).2.named f (mem_procFiles.mpr hf))
  obtain ⟨g, ha, -, -, hgf⟩ := C19_file_complete c st h f hf nm hn
  rw [hgf hu] at ha
  exact C19_symbol_complete_served c st h nm f ha n hd

/-- The answer to `file_containing_symbol n`: either a descriptor of a registered file declaring
`n`, or the status NOT_FOUND — and NOT_FOUND only if no uncontested registered file declares `n`. -/
theorem C19_symbol_answer (c : Config) (st : State) (h : build c = .ok st) (n : Name) :
    (∀ a, respond st (.fileContainingSymbol n) = .ok a →
      ∃ f, a = .fileDescriptor f ∧ f ∈ c.files ∧ Declares f n) ∧
    (∀ e, respond st (.fileContainingSymbol n) = .error e →
      e = Code.notFound ∧ ∀ f ∈ c.files, Unconflicted c.files f → ¬ Declares f n) := by
  simp only [respond]
  cases hl : assoc n st.symbols with
  | some f =>
    obtain ⟨h1, h2, -⟩ := C19_symbol_sound c st h n f hl
    exact ⟨fun a ha => ⟨f, by simpa using ha.symm, h1, h2⟩, fun e he => by simp at he⟩
  | none =>
    refine ⟨fun a ha => by simp at ha, fun e he => ⟨by simp at he; rw [← he], ?_⟩⟩
    intro f hf hu hd
    obtain ⟨g, hg, -⟩ := C19_symbol_complete c st h f hf hu n hd
    rw [hl] at hg
    exact absurd hg (by simp)

/-- The answer to `file_by_filename nm`: either the descriptor of a registered file named `nm`
(the registered one itself when uncontested), or NOT_FOUND — and NOT_FOUND only if no registered
file has that name. -/
theorem C19_file_answer (c : Config) (st : State) (h : build c = .ok st) (nm : Name) :
    (∀ a, respond st (.fileByFilename nm) = .ok a →
      ∃ g, a = .fileDescriptor g ∧ g ∈ c.files ∧ g.name = some nm ∧
        ∀ f ∈ c.files, f.name = some nm → Unconflicted c.files f → g = f) ∧
    (∀ e, respond st (.fileByFilename nm) = .error e →
      e = Code.notFound ∧ ∀ f ∈ c.files, f.name ≠ some nm) := by
  simp only [respond]
  cases hl : assoc nm st.files with
  | some g =>
    obtain ⟨h1, h2⟩ := C19_file_sound c st h nm g hl
    refine ⟨fun a ha => ⟨g, by simpa using ha.symm, h1, h2, ?_⟩, fun e he => by simp at he⟩
    intro f hf hn hu
    obtain ⟨g', hg', -, -, hgf⟩ := C19_file_complete c st h f hf nm hn
    rw [hl] at hg'
    rw [Option.some.inj hg', hgf hu]
  | none =>
    refine ⟨fun a ha => by simp at ha, fun e he => ⟨by simp at he; rw [← he], ?_⟩⟩
    intro f hf hn
    obtain ⟨g, hg, -⟩ := C19_file_complete c st h f hf nm hn
    rw [hl] at hg
    exact absurd hg (by simp)

/-- Unknown names get NOT_FOUND: a symbol no registered file declares, and a file name no
registered file has, are answered with that status (which ends the stream). -/
theorem C19_unknown_not_found (c : Config) (st : State) (h : build c = .ok st) :
    (∀ n, (∀ f ∈ c.files, ¬ Declares f n) →
      respond st (.fileContainingSymbol n) = .error Code.notFound) ∧
    (∀ nm, (∀ f ∈ c.files, f.name ≠ some nm) →
      respond st (.fileByFilename nm) = .error Code.notFound) := by
  -- a look-up that found something would, by soundness, have found a registered file
  constructor
  · intro n hno
    cases hl : assoc n st.symbols with
    | none => rw [respond, hl]
    | some f =>
      obtain ⟨hf, hd, -⟩ := C19_symbol_sound c st h n f hl
      exact absurd hd (hno f hf)
  · intro nm hno
    cases hl : assoc nm st.files with
    | none => rw [respond, hl]
    | some g =>
      obtain ⟨hg, hn⟩ := C19_file_sound c st h nm g hl
      exact absurd hn (hno g hg)

/-- The service list when `with_service_name` was never called: exactly the services declared by
the served files — as a list, in the order they are examined, and as a set. -/
theorem C19_services_declared (c : Config) (st : State) (h : build c = .ok st)
    (hch : c.chosen = none) (s : Name) :
    respond st (.listServices s) = .ok (.services ((served c.procFiles).flatMap serviceNames)) ∧
    ∀ n, n ∈ (served c.procFiles).flatMap serviceNames ↔
      ∃ f nm, assoc nm st.files = some f ∧ DeclaresService f n := by
  have hb := (build_ok h).2
  have hs := hb.services_eq
  rw [hch] at hs
  refine ⟨by rw [respond, hs]; rfl, fun n => ?_⟩
  simp only [List.mem_flatMap, mem_serviceNames_iff, hb.mem_served]
  constructor
  · rintro ⟨f, ⟨nm, -, ha⟩, hd⟩
    exact ⟨f, nm, ha, hd⟩
  · rintro ⟨f, nm, ha, hd⟩
    exact ⟨f, ⟨nm, (C19_file_sound c st h nm f ha).2, ha⟩, hd⟩

/-- Order-free form: when no file name is contested, the service list is — up to order — the
services of one copy of every registered file (a file registered twice is listed once). -/
theorem C19_services_exactly_declared (c : Config) (st : State) (h : build c = .ok st)
    (hch : c.chosen = none) (hu : ∀ f ∈ c.files, Unconflicted c.files f) (s : Name) :
    ∃ l, respond st (.listServices s) = .ok (.services l) ∧
      l.Perm ((served c.files).flatMap serviceNames) :=
  ⟨_, (C19_services_declared c st h hch s).1,
    (served_perm (procFiles_perm c) hu).flatMap_right serviceNames⟩

/-- Why the service does not build, when it does not: a registered byte string prost rejects
(reported as `DecodeError`, before anything else — first conjunct), or a missing name in a
registered file that is the first of its file name in processing order, i.e. one the builder
really examines (second conjunct; from `C19_build_iff`, so it names an examined culprit and is
more than the contrapositive of `C19_build_succeeds`). -/
theorem C19_build_error_cause (c : Config) (e : Err) (h : build c = .error e) :
    (e = .decode ↔ c.decodable = false) ∧
    (c.decodable = false ∨
      ∃ f ∈ served c.procFiles, f ∈ c.files ∧ File.wellNamed f = false) := by
  by_cases hd : c.decodable = true
  · have hall := (build_outcome hd).isOk_eq
    rw [h] at hall
    obtain ⟨f, hf, hw⟩ := List.all_eq_false.mp hall.symm
    refine ⟨⟨fun he => ?_, fun hf => by rw [hd] at hf; cases hf⟩,
      .inr ⟨f, hf, mem_procFiles.mp (served_subset hf), Bool.eq_false_iff.mpr hw⟩⟩
    subst he
    exact absurd h (build_outcome hd).not_decode
  · have hd' : c.decodable = false := by simpa using hd
    rw [build_eq, if_neg hd] at h
    exact ⟨⟨fun _ => hd', fun _ => by cases h; rfl⟩, Or.inl hd'⟩

/-- The service list when services were chosen explicitly: exactly the chosen names, in call
order, whatever was registered. -/
theorem C19_services_chosen (c : Config) (st : State) (h : build c = .ok st) (l : List Name)
    (hch : c.chosen = some l) (s : Name) : respond st (.listServices s) = .ok (.services l) := by
  have hs := (build_ok h).2.services_eq
  rw [hch] at hs
  rw [respond, hs]
  exact congrArg (fun l => Except.ok (Answer.services l)) (List.append_nil l)

/-- One call (request stream): the answers are, in order, the answers to the first requests,
each echoing its request; the stream ends cleanly exactly when every request was answered, and
otherwise ends with the error status of the first request that failed — nothing after it is
answered. -/
theorem C19_stream_answers (st : State) (reqs : List Request) :
    (runStream st reqs).1.length ≤ reqs.length ∧
    (∀ (i : Nat) (a : Response), (runStream st reqs).1[i]? = some a →
      ∃ r, reqs[i]? = some r ∧ respond st r.messageRequest = .ok a.answer ∧
        a.validHost = r.host ∧ a.originalRequest = r) ∧
    ((runStream st reqs).2 = none → (runStream st reqs).1.length = reqs.length) ∧
    (∀ e : Code, (runStream st reqs).2 = some e →
      ∃ r : Request, reqs[(runStream st reqs).1.length]? = some r ∧
        respond st r.messageRequest = .error e) := by
  induction reqs with
  | nil =>
    rw [runStream]
    refine ⟨Nat.le_refl _, fun i a h => ?_, fun _ => rfl, nofun⟩
    rw [List.getElem?_nil] at h
    cases h
  | cons r rs ih =>
    cases hr : respond st r.messageRequest with
    | error e =>
      rw [runStream_cons_error hr]
      refine ⟨Nat.zero_le _, fun i a h => ?_, nofun, fun e' he => ⟨r, rfl, ?_⟩⟩
      · rw [List.getElem?_nil] at h
        cases h
      · cases he
        exact hr
    | ok a =>
      rw [runStream_cons_ok hr]
      obtain ⟨h1, h2, h3, h4⟩ := ih
      refine ⟨Nat.succ_le_succ h1, fun i b hb => ?_, fun hn => congrArg Nat.succ (h3 hn), h4⟩
      cases i with
      | zero =>
        cases hb
        exact ⟨r, rfl, hr, rfl, rfl⟩
      | succ i => exact h2 i b hb

/-- v1 / v1alpha: the two services are the same code over different own descriptors.  Adding an
own descriptor set `o` (whatever it is) changes no answer about a symbol that `o` does not
declare, nor about a file name that `o` does not use — so the two versions, and a service built
without its own descriptor, agree on every such name. -/
theorem C19_own_descriptor_conservative (c : Config) (o : List File) (st0 st1 : State)
    (h0 : build { c with own := none } = .ok st0) (h1 : build { c with own := some o } = .ok st1) :
    (∀ n, (∀ g ∈ o, ¬ Declares g n) →
      respond st1 (.fileContainingSymbol n) = respond st0 (.fileContainingSymbol n)) ∧
    (∀ nm, (∀ g ∈ o, g.name ≠ some nm) →
      respond st1 (.fileByFilename nm) = respond st0 (.fileByFilename nm)) := by
  have b1 := (build_ok h1).2
  rw [procFiles_with_own] at b1
  obtain ⟨hf, hs, -⟩ := (build_ok h0).2.extend b1
  exact ⟨fun n hno => by rw [respond, respond, hs n hno],
    fun nm hno => by rw [respond, respond, hf nm hno]⟩

/-- Hence the two versions agree with each other outside their own descriptors — for every
configuration both versions build, with no further condition on the registered files (a service
that builds with an own descriptor builds without it: `Reflection.build_without_own`). -/
theorem C19_versions_agree (c : Config) (o1 o1a : List File) (s1 s1a : State)
    (h1 : build { c with own := some o1 } = .ok s1) (h1a : build { c with own := some o1a } = .ok s1a) :
    (∀ n, (∀ g ∈ o1, ¬ Declares g n) → (∀ g ∈ o1a, ¬ Declares g n) →
      respond s1 (.fileContainingSymbol n) = respond s1a (.fileContainingSymbol n)) ∧
    (∀ nm, (∀ g ∈ o1, g.name ≠ some nm) → (∀ g ∈ o1a, g.name ≠ some nm) →
      respond s1 (.fileByFilename nm) = respond s1a (.fileByFilename nm)) := by
  obtain ⟨s0, h0⟩ := build_without_own c o1 s1 h1
  obtain ⟨a1, a2⟩ := C19_own_descriptor_conservative c o1 s0 s1 h0 h1
  obtain ⟨b1, b2⟩ := C19_own_descriptor_conservative c o1a s0 s1a h0 h1a
  exact ⟨fun n x y => (a1 n x).trans (b1 n y).symm, fun nm x y => (a2 nm x).trans (b2 nm y).symm⟩

/-- … and about the service list: adding an own descriptor set `o` only *appends* to it, and
only services that a file of `o` declares (nothing at all when service names were chosen). -/
theorem C19_own_descriptor_conservative_services (c : Config) (o : List File) (st0 st1 : State)
    (h0 : build { c with own := none } = .ok st0) (h1 : build { c with own := some o } = .ok st1) :
    ∃ x, st1.serviceNames = st0.serviceNames ++ x ∧ (c.chosen.isSome = true → x = []) ∧
      ∀ n ∈ x, ∃ g ∈ o, DeclaresService g n := by
  have b1 := (build_ok h1).2
  rw [procFiles_with_own] at b1
  obtain ⟨-, -, hs⟩ := (build_ok h0).2.extend b1
  refine ⟨_, hs, fun hsome => ?_, fun n hn => ?_⟩
  · have : c.chosen.isNone = false := by rw [Option.isNone_eq_false_iff]; exact hsome
    exact if_neg (by rw [this]; nofun)
  · split at hn
    · obtain ⟨g, hg, hd⟩ := List.mem_flatMap.mp hn
      exact ⟨g, List.mem_of_find?_eq_some (mem_servedFrom.mp hg).2, mem_serviceNames_iff.mp hd⟩
    · cases hn

/-- Requests whose answer must not depend on the version: every kind of request — the absent
request, extension look-ups, extension-number listings, symbol and file look-ups, ListServices —
except a symbol that an own descriptor declares, a file name an own descriptor has, and
ListServices when no service names were chosen (then the own services are listed too, see
`C19_versions_agree_services`). -/
def OutsideOwn (chosen : Option (List Name)) (o1 o1a : List File) : Req → Prop
  | .fileContainingSymbol n => (∀ g ∈ o1, ¬ Declares g n) ∧ (∀ g ∈ o1a, ¬ Declares g n)
  | .fileByFilename nm => (∀ g ∈ o1, g.name ≠ some nm) ∧ (∀ g ∈ o1a, g.name ≠ some nm)
  | .listServices _ => chosen.isSome = true
  | _ => True

/-- The two versions agree on *every request kind* outside their own descriptors
(`file_containing_extension` and the absent request fail alike, `all_extension_numbers_of_type`
is answered alike — as the code has them — and symbol / file look-ups and the chosen service list
are the same answers). -/
theorem C19_versions_agree_every_request (c : Config) (o1 o1a : List File) (s1 s1a : State)
    (h1 : build { c with own := some o1 } = .ok s1) (h1a : build { c with own := some o1a } = .ok s1a)
    (r : Req) (hr : OutsideOwn c.chosen o1 o1a r) : respond s1 r = respond s1a r := by
  obtain ⟨s0, h0⟩ := build_without_own c o1 s1 h1
  obtain ⟨a1, a2⟩ := C19_versions_agree c o1 o1a s1 s1a h1 h1a
  cases r with
  | none => rfl
  | fileContainingExtension t k => rfl
  | allExtensionNumbersOfType t => rfl
  | fileContainingSymbol n => exact a1 n hr.1 hr.2
  | fileByFilename nm => exact a2 nm hr.1 hr.2
  | listServices t =>
    obtain ⟨x, hx, hx0, -⟩ := C19_own_descriptor_conservative_services c o1 s0 s1 h0 h1
    obtain ⟨y, hy, hy0, -⟩ := C19_own_descriptor_conservative_services c o1a s0 s1a h0 h1a
    simp only [respond, hx, hy, hx0 hr, hy0 hr]

/-- ListServices in general: the two versions list a common part (what the service lists
without any own descriptor) followed by services that their own descriptor declares. -/
theorem C19_versions_agree_services (c : Config) (o1 o1a : List File) (s1 s1a : State)
    (h1 : build { c with own := some o1 } = .ok s1) (h1a : build { c with own := some o1a } = .ok s1a)
    (t : Name) :
    ∃ base x1 x1a, respond s1 (.listServices t) = .ok (.services (base ++ x1)) ∧
      respond s1a (.listServices t) = .ok (.services (base ++ x1a)) ∧
      (∀ n ∈ x1, ∃ g ∈ o1, DeclaresService g n) ∧ (∀ n ∈ x1a, ∃ g ∈ o1a, DeclaresService g n) := by
  obtain ⟨s0, h0⟩ := build_without_own c o1 s1 h1
  obtain ⟨x, hx, -, hxd⟩ := C19_own_descriptor_conservative_services c o1 s0 s1 h0 h1
  obtain ⟨y, hy, -, hyd⟩ := C19_own_descriptor_conservative_services c o1a s0 s1a h0 h1a
  exact ⟨s0.serviceNames, x, y, by simp only [respond, hx], by simp only [respond, hy], hxd, hyd⟩

/-- Whole calls: a request stream that stays outside the own descriptors gets the same answers,
and the same final status, from both versions. -/
theorem C19_versions_agree_streams (c : Config) (o1 o1a : List File) (s1 s1a : State)
    (h1 : build { c with own := some o1 } = .ok s1) (h1a : build { c with own := some o1a } = .ok s1a)
    (reqs : List Request) (hr : ∀ r ∈ reqs, OutsideOwn c.chosen o1 o1a r.messageRequest) :
    runStream s1 reqs = runStream s1a reqs := by
  induction reqs with
  | nil => rfl
  | cons r rs ih =>
    have e := C19_versions_agree_every_request c o1 o1a s1 s1a h1 h1a r.messageRequest
      (hr r List.mem_cons_self)
    simp only [runStream, e, ih (fun r' h' => hr r' (List.mem_cons_of_mem _ h'))]

/-- … and what a call answers to a prefix of its requests does not depend on what follows: the
answers to `pre ++ rest` start with the answers to `pre`, and if `pre` already failed, that is
the whole call.  (So the previous theorem applies to every stream up to the first request that
touches an own descriptor — which is what the correspondence run compares.) -/
theorem C19_stream_prefix (st : State) (pre rest : List Request) :
    (∀ e, (runStream st pre).2 = some e → runStream st (pre ++ rest) = runStream st pre) ∧
    ((runStream st pre).2 = none →
      runStream st (pre ++ rest) = ((runStream st pre).1 ++ (runStream st rest).1, (runStream st rest).2)) := by
  induction pre with
  | nil => exact ⟨nofun, fun _ => rfl⟩
  | cons r rs ih =>
    rw [List.cons_append]
    cases hr : respond st r.messageRequest with
    | error e =>
      rw [runStream_cons_error hr, runStream_cons_error hr]
      exact ⟨fun _ _ => rfl, nofun⟩
    | ok a =>
      rw [runStream_cons_ok hr, runStream_cons_ok hr]
      exact ⟨fun e he => by rw [ih.1 e he], fun hn => by rw [ih.2 hn]; rfl⟩

/-- "… retrievable as a descriptor that decodes to what was registered", at the level of bytes:
the bytes answered for a skeleton descriptor `f` (one that carries nothing beyond the names the
model records, `extra = 0`; `ReflWire.encFile` is tied to prost's encoder by the correspondence
run) are read back, by the oracle's own protobuf wire reader, as exactly `f` — for any nesting
depth, given a recursion limit that covers it (prost's is 100). -/
theorem C19_answer_bytes_decode (f : File) (hx : f.extra = 0) (limit : Nat)
    (hd : Spec.ReflWire.MsgList.depth f.messages ≤ limit) :
    Spec.ReflWire.decFile limit (ReflWire.encFile f) = some f :=
  ReflWire.decFile_encFile f hx limit hd

/-- The decision procedure the check evaluates on the observed answers decides the oracle
relation (so a `fail:symbol-resolves-to-declaring-file` verdict is a genuine `¬ Declares`). -/
theorem C19_verdict_decides (f : File) (n : Name) :
    (declares f n = true ↔ Declares f n) ∧ (declaresService f n = true ↔ DeclaresService f n) :=
  ⟨declares_iff, declaresService_iff⟩

/-! ### The builder as a program of calls

The theorems above speak about a `Config`.  A `Config` is what a *program* of builder calls
leaves behind; the next theorems say that nothing about the program matters except the
registrations in call order, the chosen names in call order, and the LAST
`include_reflection_service` call (on when there is none): calls of different kinds commute,
earlier `include_reflection_service` calls are forgotten, the default is "include". -/

/-- the registrations of a program, in call order -/
def regsOfOps : List BuilderOp → List Reg
  | [] => []
  | .register r :: ops => r :: regsOfOps ops
  | _ :: ops => regsOfOps ops

/-- the `with_service_name` arguments of a program, in call order -/
def namesOfOps : List BuilderOp → List Name
  | [] => []
  | .withServiceName n :: ops => n :: namesOfOps ops
  | _ :: ops => namesOfOps ops

/-- the argument of the last `include_reflection_service` call, `dflt` when there is none -/
def lastInclude (dflt : Bool) : List BuilderOp → Bool
  | [] => dflt
  | .includeReflectionService b :: ops => lastInclude b ops
  | _ :: ops => lastInclude dflt ops

theorem foldl_step (ops : List BuilderOp) (b : Builder) :
    ops.foldl Builder.step b =
      { regs := b.regs ++ regsOfOps ops
        serviceNames := b.serviceNames ++ namesOfOps ops
        useAllServiceNames := b.useAllServiceNames && (namesOfOps ops).isEmpty
        includeReflectionService := lastInclude b.includeReflectionService ops } := by
  induction ops generalizing b with
  | nil => simp [regsOfOps, namesOfOps, lastInclude]
  | cons op ops ih =>
    cases op <;> simp [ih, Builder.step, regsOfOps, namesOfOps, lastInclude]

theorem lastInclude_of_not_mem (d : Bool) {ops : List BuilderOp}
    (h : ∀ b, BuilderOp.includeReflectionService b ∉ ops) : lastInclude d ops = d := by
  induction ops with
  | nil => rfl
  | cons op l ih =>
    have ih := ih fun b hb => h b (List.mem_cons_of_mem _ hb)
    cases op with
    | includeReflectionService b => exact absurd List.mem_cons_self (h b)
    | register r => exact ih
    | withServiceName n => exact ih

/-- What ANY program of builder calls configures: every registration in call order; the chosen
names in call order iff `with_service_name` was called at all; the own descriptor iff the last
`include_reflection_service` call said so — and iff nothing said otherwise (the default). -/
theorem C19_builder_program (ops : List BuilderOp) (own : List File) :
    (Builder.run ops).config own =
      { regs := regsOfOps ops
        chosen := if (namesOfOps ops).isEmpty then none else some (namesOfOps ops)
        own := if lastInclude true ops then some own else none } := by
  simp only [Builder.run, foldl_step, Builder.config, Builder.configure, List.nil_append,
    Bool.true_and]

/-- Hence the order of calls of different kinds, repeated `include_reflection_service` calls and
relying on the default are all invisible: two programs with the same registrations, the same
names and the same final include setting build the same service (or fail with the same error),
for v1 and for v1alpha alike (`own` is the version's descriptor). -/
theorem C19_builder_order_invisible (ops ops' : List BuilderOp) (own : List File)
    (hr : regsOfOps ops = regsOfOps ops') (hn : namesOfOps ops = namesOfOps ops')
    (hi : lastInclude true ops = lastInclude true ops') :
    build ((Builder.run ops).config own) = build ((Builder.run ops').config own) := by
  rw [C19_builder_program, C19_builder_program, hr, hn, hi]

/-- The default: a program that never calls `include_reflection_service` serves the own
descriptor, exactly like one that ends with `include_reflection_service(true)`. -/
theorem C19_builder_default_includes (ops : List BuilderOp) (own : List File)
    (h : ∀ b, BuilderOp.includeReflectionService b ∉ ops) :
    (Builder.run ops).config own = (Builder.run (ops ++ [.includeReflectionService true])).config own := by
  simp only [Builder.run, List.foldl_append, foldl_step, List.foldl, Builder.step, Builder.config,
    Builder.configure, lastInclude_of_not_mem true h, if_true]

section Examples

private def b (cs : List Char) : Name := cs.map (fun c => UInt8.ofNat c.toNat)

/-- `a.proto`: `package pk; message Ou { message In { enum E { V = 0; } string f = 1; } oneof o {} }
    enum To { T = 0; } service Sv { rpc Get(..) }` -/
private def exFile : File :=
  { name := some (b ['a', '.', 'p']), package := some (b ['p', 'k']), extra := 0
    messages := .cons (.mk (some (b ['O', 'u']))
        (.cons (.mk (some (b ['I', 'n'])) .nil [{ name := some (b ['E']), values := [some (b ['V'])] }]
          [some (b ['f'])] []) .nil)
        [] [] [some (b ['o'])]) .nil
    enums := [{ name := some (b ['T', 'o']), values := [some (b ['T'])] }]
    services := [{ name := some (b ['S', 'v']), methods := [some (b ['G', 'e', 't'])] }] }

private def exFile' : File := { exFile with package := some (b ['o', 't']) }

private def exFile'' : File :=
  { name := some (b ['z', '.', 'p']), package := some (b ['z', 'z']), extra := 0
    messages := .cons (.mk (some (b ['Q'])) .nil [] [] []) .nil, enums := [], services := [] }

private def exCfg : Config :=
  { regs := [.encoded (some [exFile]), .decoded [exFile', exFile']], chosen := none, own := none }

-- a builder program: names before registrations, include toggled off and on again
private def exOps : List BuilderOp :=
  [.withServiceName (b ['p', 'k', '.', 'S', 'v']), .includeReflectionService false,
   .register (.encoded (some [exFile])), .includeReflectionService true, .register (.decoded [exFile''])]
private def exOps' : List BuilderOp :=
  [.register (.encoded (some [exFile])), .register (.decoded [exFile'']),
   .withServiceName (b ['p', 'k', '.', 'S', 'v'])]
example : regsOfOps exOps = regsOfOps exOps' ∧ namesOfOps exOps = namesOfOps exOps'
    ∧ lastInclude true exOps = lastInclude true exOps' := ⟨rfl, rfl, rfl⟩
example : isOk (build ((Builder.run exOps).config [exFile'])) = true := by decide +kernel
example : ∀ x, BuilderOp.includeReflectionService x ∉ exOps' := by
  intro x h; simp [exOps'] at h

-- the hypotheses of the theorems are satisfiable by a non-trivial configuration
example : exCfg.decodable = true ∧ (∀ f ∈ exCfg.files, File.wellNamed f = true) := by decide +kernel
example : isOk (build exCfg) = true := by decide +kernel
-- a depth-2 enum value is declared (tonic's `Enum.VALUE` naming) …
example : Declares exFile (b ['p', 'k', '.', 'O', 'u', '.', 'I', 'n', '.', 'E', '.', 'V']) :=
  declares_iff.mp (by decide +kernel)
-- … and the sibling-scoped spelling is not
example : ¬ Declares exFile (b ['p', 'k', '.', 'O', 'u', '.', 'I', 'n', '.', 'V']) := fun h => by
  have := declares_iff.mpr h; revert this; decide +kernel
-- the decoded registration is examined first, so the *later registered* `exFile'` wins the name
example : (match build exCfg with
    | .ok st => decide (assoc (b ['a', '.', 'p']) st.files = some exFile')
    | .error _ => false) = true := by decide +kernel
-- `exFile` is contested, `exFile'` (registered twice, identically) is too; an uncontested file:
example : Unconflicted [exFile, exFile] exFile := by decide +kernel
-- … and the hypotheses `Unconflicted c.files f` (`C19_symbol_complete`) resp. `∀ f ∈ c.files, …`
-- (`C19_services_exactly_declared`) on a BUILT configuration: an identical duplicate registration,
-- an encoded set and an own descriptor; every registered file is uncontested, a field name is declared
private def exCfgU : Config :=
  { regs := [.decoded [exFile, exFile], .encoded (some [exFile''])], chosen := none,
    own := some [{ exFile'' with name := some (b ['r', '1']), package := some (b ['r', '1']) }] }
example : isOk (build exCfgU) = true ∧ (∀ f ∈ exCfgU.files, Unconflicted exCfgU.files f)
    ∧ declares exFile (b ['p', 'k', '.', 'O', 'u', '.', 'I', 'n', '.', 'f']) = true := by decide +kernel
-- a skeleton descriptor of depth 2: the hypotheses of `C19_answer_bytes_decode` hold
example : exFile.extra = 0 ∧ Spec.ReflWire.MsgList.depth exFile.messages ≤ 100 := by decide +kernel
example : ¬ Unconflicted exCfg.files exFile := by decide +kernel

-- hypotheses of `C19_versions_agree_every_request` / `_streams`: two different own descriptor
-- sets (`exFile`, `exFile'` in that role), a registered file, both services build; a symbol that
-- neither own set declares and a file name neither has are `OutsideOwn`, and so is every
-- extension request
private def exCfgOwn (o : File) : Config := { regs := [.decoded [exFile'']], chosen := none, own := some [o] }
example : isOk (build (exCfgOwn exFile)) = true ∧ isOk (build (exCfgOwn exFile')) = true := by decide +kernel
-- the versions-agree family also covers configurations with an ill-named file shadowed by an
-- earlier file of the same name (both versions build)
example : isOk (build { shadowCfg with own := some [exFile''] }) = true ∧
    isOk (build { shadowCfg with own := some [exFile] }) = true ∧
    ¬ (∀ f ∈ ({ shadowCfg with own := none } : Config).files, File.wellNamed f = true) := by decide +kernel
example : OutsideOwn none [exFile] [exFile'] (.fileContainingSymbol (b ['z', 'z', '.', 'Q'])) :=
  ⟨fun g hg hd => by
      have : g = exFile := by simpa using hg
      subst this; have := declares_iff.mpr hd; revert this; decide +kernel,
   fun g hg hd => by
      have : g = exFile' := by simpa using hg
      subst this; have := declares_iff.mpr hd; revert this; decide +kernel⟩
example : OutsideOwn none [exFile] [exFile'] (.fileByFilename (b ['z', '.', 'p'])) := by
  constructor <;> intro g hg <;> simp at hg <;> subst hg <;> decide +kernel
example : OutsideOwn none [exFile] [exFile'] (.fileContainingExtension (b ['x']) 3) := trivial

end Examples

end C19
