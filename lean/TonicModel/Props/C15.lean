import TonicModel.Model.Tls
import TonicModel.Spec.Tls
import TonicModel.Lemmas.Tls
import TonicModel.Lemmas.TlsProc
import TonicModel.Basic.TlsTestPki
/-
C15 — TLS channels and servers authenticate the peer and insist on HTTP/2.
The lemmas about the model live in `Lemmas/Tls` and `Lemmas/TlsProc`.

PARTIAL by construction: certificate-path validation and the handshake are rustls/webpki,
which enter as the parameters `verifies`, `verifiesClient`, `hs` under the contract
`Spec.Tls.RustlsLaws`.  What is proved is that tonic's own decision logic — for EVERY sequence
of builder calls on either side, every URI, every handshake outcome — hands rustls exactly the
configured roots / name / client-auth mode and has no other path to "connected" or "served".
-/
namespace C15
open Tls Spec.Tls

variable {Root Chain : Type}

/-! ### the builders read back what the caller said, for every call sequence -/

/-- For every sequence of `ClientTlsConfig` builder calls: the domain is the last
`domain_name`, `assume_http2` the last value given (default false), the identity the last one
given, and the roots are exactly the CA certificates / trust anchors ever added (plus the
platform / webpki stores only if asked for and compiled in) — nothing is lost, nothing added. -/
theorem C15_client_config_reads_back (sys : Sys Root) (ops : List (ClientOp Root Chain)) :
    (ClientTlsConfig.build ops).domain = configuredDomain ops ∧
    (ClientTlsConfig.build ops).assumeHttp2 = assumes ops ∧
    (ClientTlsConfig.build ops).identity = configuredIdentity ops ∧
    ∀ r, cfgRoots sys (ClientTlsConfig.build ops) r ↔ r ∈ configuredRoots sys ops :=
  ⟨build_domain ops, build_assume ops, build_identity ops, cfgRoots_build sys ops⟩

/-- On the unchanged 0.13.0 tree the previous statement is FALSE: `with_enabled_roots` starts
from a fresh config, so `domain_name("bad.test")` followed by `with_enabled_roots()` forgets
the configured name (and the URI host is used instead). Replayed on the real code by the
corpus case `tls https good dom:bad roots ca:ca1 ; s1good h2 - tcp`. -/
theorem C15_client_config_reads_back_asis_fails :
    ¬ ∀ ops : List (ClientOp Unit Unit),
        (ClientTlsConfig.buildAsIs ops).domain = configuredDomain ops := by
  intro h
  exact absurd (h [.domainName "bad.test", .withEnabledRoots]) (by decide +kernel)

/-- For every sequence of `ServerTlsConfig` builder calls that yields an acceptor: ALPN is
exactly `h2`, and the client-auth mode handed to rustls is `off` iff no client CA was
configured, else `required` / `optional` over exactly the (non-empty) roots of the LAST
`client_ca_root`, optional iff the last `client_auth_optional` said so. In particular
`client_auth_optional(true)` without a CA does not enable anything. -/
theorem C15_server_config_reads_back (ops : List (ServerOp Root Chain)) (s : ServerHello Root Chain)
    (h : (ServerTlsConfig.build ops).tlsAcceptor = .ok s) :
    s.alpn = [alpnH2] ∧
    match clientCa ops with
    | none => s.clientAuth = .off
    | some pem => pemRoots pem ≠ [] ∧
        s.clientAuth = if authOptional ops then .optional (pemRoots pem) else .required (pemRoots pem) := by
  obtain ⟨ha, hm, _⟩ := acceptor_ok _ _ h
  rw [sbuild_ca, sbuild_optional] at hm
  exact ⟨ha, clientAuthMode_ok _ _ _ hm⟩

/-! ### client half -/

/-- What `Endpoint::tls_config` hands to rustls, for every builder sequence and URI: the name
is the configured domain or else the URI host, the root store holds exactly the configured
roots, ALPN offers exactly `h2`, and the opt-out / identity are the configured ones. -/
theorem C15_connector_uses_configuration (sys : Sys Root) (uri : Uri)
    (ops : List (ClientOp Root Chain)) (ep : Endpoint Root Chain)
    (h : (Endpoint.fromShared uri).tlsConfig sys (ClientTlsConfig.build ops) = .ok ep) :
    ep.uri = uri ∧ ∃ t, ep.tls = some t ∧
      expectedName ops uri = some t.domain ∧ sys.validServerName t.domain = true ∧
      SameRoots t.hello.roots (configuredRoots sys ops) ∧
      t.hello.alpn = [alpnH2] ∧ t.assumeHttp2 = assumes ops ∧
      loadOptIdentity (configuredIdentity ops) = .ok t.hello.identity := by
  obtain ⟨t, hep, hname, hv, hr, ha, hi⟩ := tlsConfig_ok sys _ _ ep h
  subst hep
  refine ⟨rfl, t, rfl, ?_, hv, fun r => (hr r).trans (cfgRoots_build sys ops r), rfl, ha.trans (build_assume ops), ?_⟩
  · rw [build_domain] at hname
    unfold expectedName
    revert hname
    cases configuredDomain ops <;> exact id
  · rw [← build_identity]; exact hi

/-- **No other path to "connected"**: the exact condition under which `Connector::call`
succeeds over https. -/
theorem C15_connect_iff (ep : Endpoint Root Chain) (dialOk : Bool)
    (hs : ClientHello Root Chain → ClientView) (h : ep.uri.scheme = some .https) (io : Io) :
    Connector.call ep dialOk hs = .ok io ↔
      dialOk = true ∧ ∃ t a, ep.tls = some t ∧ hs t.hello = .done a ∧
        (a = some alpnH2 ∨ t.assumeHttp2 = true) ∧ io = .tls a := by
  simp only [call_ok_iff, if_pos h, connect_ok_iff, exists_and_left]

/-- **Client admission.** Over an https endpoint configured by ANY sequence of builder calls,
`Connector::call` yields an IO to write the call on only if it is a TLS session whose server
chain verifies against exactly the configured roots for the configured (or URI) name, with h2
negotiated unless the caller opted out — whatever the dial result and the handshake do. -/
theorem C15_client_connects_only_if
    (verifies : List Root → Chain → String → Bool) (verifiesClient : List Root → Chain → Bool)
    (hs : Handshake Root Chain) (laws : RustlsLaws verifies verifiesClient hs)
    (sys : Sys Root) (uri : Uri) (ops : List (ClientOp Root Chain)) (ep : Endpoint Root Chain)
    (srv : ServerHello Root Chain) (dialOk : Bool) (io : Io)
    (hcfg : (Endpoint.fromShared uri).tlsConfig sys (ClientTlsConfig.build ops) = .ok ep)
    (hhttps : uri.scheme = some .https)
    (hconn : Connector.call ep dialOk (fun c => (hs c srv).client) = .ok io) :
    ∃ a, io = .tls a ∧ MayTransmit verifies sys ops uri srv.chain a := by
  obtain ⟨hu, t, ht, hname, _, hroots, _, hassume, _⟩ := C15_connector_uses_configuration sys uri ops ep hcfg
  obtain ⟨_, t', a, ht', hv, hok, hio⟩ := (C15_connect_iff ep dialOk _ (hu ▸ hhttps) io).1 hconn
  cases ht.symm.trans ht'
  exact ⟨a, hio, ⟨t.domain, t.hello.roots, hname, hroots, laws.client_done t.hello srv a hv⟩, hassume ▸ hok⟩

/-- … and when h2 was required (no opt-out) the server really offered it. -/
theorem C15_h2_negotiated_unless_opted_out
    (verifies : List Root → Chain → String → Bool) (verifiesClient : List Root → Chain → Bool)
    (hs : Handshake Root Chain) (laws : RustlsLaws verifies verifiesClient hs)
    (ep : Endpoint Root Chain) (t : TlsConnector Root Chain) (srv : ServerHello Root Chain)
    (dialOk : Bool) (a : Option String)
    (ht : ep.tls = some t) (hno : t.assumeHttp2 = false)
    (hconn : Connector.call ep dialOk (fun c => (hs c srv).client) = .ok (.tls a)) :
    a = some alpnH2 ∧ alpnH2 ∈ srv.alpn := by
  obtain ⟨_, hcall⟩ := (call_ok_iff ep dialOk _ _).1 hconn
  split at hcall
  · obtain ⟨t', ht', hc⟩ := hcall
    cases ht.symm.trans ht'
    obtain ⟨a', hv, hok, hio⟩ := (connect_ok_iff t _ _).1 hc
    cases hio
    cases hok.resolve_right (by rw [hno]; decide)
    exact ⟨rfl, (laws.alpn_mutual t.hello srv alpnH2 hv).2⟩
  · cases hcall

open Tls.TestPki in
/-- The consequence of `C15_client_config_reads_back_asis_fails` for the property itself, in
the test world (`sys` is the harness build `Tls.TestPki.sys`, both root-store features off): on the
unchanged tree an https endpoint configured with
`domain_name("bad.test")`, then `with_enabled_roots()`, then CA 1, connects (h2 negotiated) to a
server whose chain does NOT verify for the configured name — `C15_client_connects_only_if`
is false of the 0.13.0 code. Same case as the first corpus line of the harness. -/
theorem C15_client_connects_only_if_asis_fails :
    ∃ (ops : List (ClientOp Cert (List Cert))) (uri : Uri) (ep : Endpoint Cert (List Cert))
      (srv : ServerHello Cert (List Cert)),
      (Endpoint.fromShared uri).tlsConfig sys (ClientTlsConfig.buildAsIs ops) = .ok ep ∧
      uri.scheme = some .https ∧
      Connector.call ep true (fun c => (handshake c srv).client) = .ok (.tls (some alpnH2)) ∧
      expectedName ops uri = some "bad.test" ∧
      verifies (configuredRoots sys ops) srv.chain "bad.test" = false :=
  ⟨[.domainName "bad.test", .withEnabledRoots, .caCertificate (some [.ca1])],
   { scheme := some .https, host := some "good.test" }, _,
   { chain := [.s1good], clientAuth := .off, alpn := [alpnH2] },
   rfl, rfl, rfl, by decide, by decide⟩

/-- **No plaintext fallback.** Over an https URI `Connector::call` never yields a plaintext
IO, whatever the TLS configuration, the dial result and the handshake do. -/
theorem C15_no_plaintext_fallback (ep : Endpoint Root Chain) (dialOk : Bool)
    (hs : ClientHello Root Chain → ClientView) (h : ep.uri.scheme = some .https) :
    Connector.call ep dialOk hs ≠ .ok .plain := by
  intro hc
  obtain ⟨_, _, _, _, _, _, hio⟩ := (C15_connect_iff ep dialOk hs h _).1 hc
  cases hio

/-- An https endpoint that was never given a TLS configuration cannot connect at all. -/
theorem C15_https_without_tls_config_fails (uri : Uri) (dialOk : Bool)
    (hs : ClientHello Root Chain → ClientView) (h : uri.scheme = some .https) :
    ∃ e, Connector.call (Endpoint.fromShared (Root := Root) (Chain := Chain) uri) dialOk hs = .error e := by
  unfold Connector.call
  cases dialOk <;> simp [h, Endpoint.fromShared]

/-! ### server half -/

/-- **Server admission.** For every sequence of `ServerTlsConfig` calls: the acceptor built
from it completes a handshake only with a client the property allows — one that presented a
chain verifying against the configured client CA, or none at all if (and only if) client auth
was made optional; without a client CA nobody is asked. The chain the session then holds is
the chain the client presented. -/
theorem C15_server_admits_only_if
    (verifies : List Root → Chain → String → Bool) (verifiesClient : List Root → Chain → Bool)
    (hs : Handshake Root Chain) (laws : RustlsLaws verifies verifiesClient hs)
    (ops : List (ServerOp Root Chain)) (s : ServerHello Root Chain)
    (hacc : (ServerTlsConfig.build ops).tlsAcceptor = .ok s)
    (c : ClientHello Root Chain) (peer : Option Chain) (hdone : (hs c s).server = some peer) :
    MayServe verifiesClient ops c.identity peer ∧ (clientCa ops = none → peer = none) := by
  have hmode := (C15_server_config_reads_back ops s hacc).2
  have hl := laws.server_done c s peer hdone
  unfold MayServe
  cases hca : clientCa ops with
  | none =>
    simp only [hca] at hmode
    rw [hmode] at hl
    exact ⟨trivial, fun _ => hl⟩
  | some pem =>
    simp only [hca] at hmode
    rw [hmode.2] at hl
    refine ⟨?_, fun e => nomatch e⟩
    cases ho : authOptional ops with
    | false => rw [ho] at hl; exact .inl hl
    | true => rw [ho] at hl; exact hl.symm.imp_right fun h => ⟨rfl, h⟩

/-- **Peer certificates are exposed.** A handler of a connection accepted by tonic's acceptor
finds, in the `TlsConnectInfo` request extension, exactly the chain the TLS session holds; and
`Request::peer_certs()` returns the same over TCP (and only ever that chain or nothing).
(Transcription lemma: it holds by unfolding the model's definition, so it pins the model's shape for
the correspondence run — its assurance about tonic is the tie, not this proof.) -/
theorem C15_peer_certs_exposed (inner : InnerInfo) (sessionPeer : Option Chain) :
    let e := extensionsTlsIo (tlsStreamConnectInfo inner sessionPeer)
    Request.tlsInfoCerts e = some sessionPeer ∧
    (inner = .tcp → Request.peerCerts e = sessionPeer) ∧
    (Request.peerCerts e = sessionPeer ∨ Request.peerCerts e = none) := by
  cases inner <;> simp [extensionsTlsIo, tlsStreamConnectInfo, Request.tlsInfoCerts, Request.peerCerts]

/-- The same when the application accepted TLS itself and hands `TlsStream<T>`s to a tonic
server without `tls_config` (`impl Connected for TlsStream<T>`): the handler still finds the
session's chain, and `Request::peer_certs()` agrees over TCP.
(Transcription lemma: it holds by unfolding the model's definition, so it pins the model's shape for
the correspondence run — its assurance about tonic is the tie, not this proof.) -/
theorem C15_peer_certs_exposed_user_accepted (inner : InnerInfo) (sessionPeer : Option Chain) :
    let e := extensionsUserTls (tlsStreamConnectInfo inner sessionPeer)
    Request.tlsInfoCerts e = some sessionPeer ∧
    (inner = .tcp → Request.peerCerts e = sessionPeer) ∧
    (Request.peerCerts e = sessionPeer ∨ Request.peerCerts e = none) := by
  cases inner <;> simp [extensionsUserTls, tlsStreamConnectInfo, Request.tlsInfoCerts, Request.peerCerts]

/-- Without TLS on the connection there is nothing to expose: `peer_certs()` is `None`.
(Transcription lemma: it holds by unfolding the model's definition, so it pins the model's shape for
the correspondence run — its assurance about tonic is the tie, not this proof.) -/
theorem C15_no_peer_certs_without_tls (inner : InnerInfo) :
    Request.peerCerts (extensionsPlain (Chain := Chain) inner) = none ∧
    Request.tlsInfoCerts (extensionsPlain (Chain := Chain) inner) = none := by
  simp [extensionsPlain, Request.peerCerts, Request.tlsInfoCerts]

/-! ### end to end: one call -/

/-- **A handler runs only for an authenticated, h2, TLS-protected call.** For every builder
sequence on both sides, every URI with scheme https, every transport and every handshake
behaviour within the rustls contract: if the handler of a tonic TLS server ran (or the call
succeeded), then the client was allowed to transmit (`MayTransmit`), the server was allowed to
serve that client (`MayServe`), nothing went over the wire in the clear, and the handler saw
exactly the client's verified chain (or none). -/
theorem C15_handler_runs_only_if
    (verifies : List Root → Chain → String → Bool) (verifiesClient : List Root → Chain → Bool)
    (hs : Handshake Root Chain) (laws : RustlsLaws verifies verifiesClient hs)
    (sys : Sys Root) (uri : Uri) (cops : List (ClientOp Root Chain)) (ep : Endpoint Root Chain)
    (sops : List (ServerOp Root Chain)) (s : ServerHello Root Chain) (inner : InnerInfo)
    (hcfg : (Endpoint.fromShared uri).tlsConfig sys (ClientTlsConfig.build cops) = .ok ep)
    (hacc : (ServerTlsConfig.build sops).tlsAcceptor = .ok s)
    (hhttps : uri.scheme = some .https)
    (hran : (scenario ep (.tonicTls s) inner hs).handlers > 0 ∨ (scenario ep (.tonicTls s) inner hs).ok = true) :
    let o := scenario ep (.tonicTls s) inner hs
    ∃ a t peer, ep.tls = some t ∧
      MayTransmit verifies sys cops uri s.chain a ∧
      MayServe verifiesClient sops t.hello.identity peer ∧
      o.plaintext = false ∧ o.handlers = 1 ∧ o.ok = true ∧
      o.ext = some (some peer) ∧ (inner = .tcp → o.peer = some peer) := by
  dsimp only
  have hok : (scenario ep (.tonicTls s) inner hs).ok = true := by
    obtain ⟨w, p, h⟩ | ⟨e, p, h⟩ := scenario_failed_or_served ep inner hs (.tonicTls s)
    · rw [h] at hran ⊢; exact hran.elim (fun h => nomatch h) id
    · rw [h]; rfl
  obtain ⟨a, t, peer, hc, ht, hsv, ho⟩ := scenario_tonicTls_ok ep inner hs s hok
  obtain ⟨a', hio, hmay⟩ :=
    C15_client_connects_only_if verifies verifiesClient hs laws sys uri cops ep s true _ hcfg hhttps hc
  cases hio
  have hexp := C15_peer_certs_exposed inner peer
  rw [ho]
  exact ⟨a, t, peer, ht, hmay, (C15_server_admits_only_if verifies verifiesClient hs laws sops s hacc t.hello peer hsv).1,
    rfl, rfl, rfl, congrArg some hexp.1, fun htcp => congrArg some (hexp.2.1 htcp)⟩

/-- **Otherwise the call fails and no handler runs**: in every scenario (any server kind), a
failed call ran no handler, and over https nothing was written in the clear.
The FIRST conjunct is a transcription lemma: every branch of `Tls.scenario` returns
`Outcome.failed …` (`ok := false, handlers := 0`) or `Outcome.served …` (`ok := true,
handlers := 1`), so `ok = false → handlers = 0` holds of anything built from those two
constructors, whatever the branches' conditions are — it pins the model's bookkeeping; that a
rejected connection reaches no handler in tonic is carried by the correspondence run (the handler
counter of the `tls` cases).  The second conjunct has content (`C15_no_plaintext_fallback`). -/
theorem C15_failure_runs_no_handler (ep : Endpoint Root Chain) (srv : ServerKind Root Chain)
    (inner : InnerInfo) (hs : Handshake Root Chain) :
    let o := scenario ep srv inner hs
    (o.ok = false → o.handlers = 0) ∧ (ep.uri.scheme = some .https → o.plaintext = false) := by
  refine ⟨?_, fun hh => scenario_plaintext ep inner hs srv fun cv => C15_no_plaintext_fallback ep true cv hh⟩
  obtain ⟨w, p, h⟩ | ⟨e, p, h⟩ := scenario_failed_or_served ep inner hs srv
  · rw [h]; exact fun _ => rfl
  · rw [h]; exact fun hfail => nomatch hfail

/-- A plaintext server never gets to serve an https endpoint — not even one without any TLS
configuration, whatever the environment does. -/
theorem C15_https_never_served_in_clear (ep : Endpoint Root Chain) (inner : InnerInfo)
    (hs : Handshake Root Chain) (h : ep.uri.scheme = some .https) :
    (scenario ep .plain inner hs).handlers = 0 ∧ (scenario ep .plain inner hs).ok = false := by
  have hnp := C15_no_plaintext_fallback ep true (fun _ => ClientView.garbage) h
  simp only [scenario, serverHelloOf]
  split
  · exact ⟨rfl, rfl⟩
  · rename_i hplain; exact absurd hplain hnp
  · cases ep.tls <;> exact ⟨rfl, rfl⟩

/-- Generated clients go through `Endpoint::new`: for an https URI TLS is switched on without
being asked, with the compiled-in root stores only, the URI host as the name to verify, no
client identity and no ALPN opt-out. -/
theorem C15_generated_client_default (sys : Sys Root) (uri : Uri) (ep : Endpoint Root Chain)
    (h : Endpoint.new sys uri = .ok ep) (hh : uri.scheme = some .https) :
    ∃ t, ep.tls = some t ∧ uri.host = some t.domain ∧
      SameRoots t.hello.roots
        ((if sys.featNative then sys.nativeCerts else []) ++ (if sys.featWebpki then sys.webpkiRoots else [])) ∧
      t.assumeHttp2 = false ∧ t.hello.identity = none := by
  obtain ⟨_, t, ht, hn, _, hr, _, ha, hi⟩ := C15_connector_uses_configuration sys uri _ ep (by rwa [Endpoint.new, if_pos hh] at h)
  rw [configuredRoots, List.flatMap_singleton] at hr
  exact ⟨t, ht, hn, hr, ha, (Except.ok.inj hi).symm⟩

/-- **Generated clients connect only to an authenticated h2 server.** A client built the way
generated `connect` functions build it (`Endpoint::new`) over an https URI gets an IO to write
its call on only if that IO is a TLS session in which h2 WAS negotiated (there is no opt-out on
this path) and whose server chain verifies, for the URI's host, against exactly the root stores
compiled in and enabled (platform store, webpki store) — in every build (`sys`), whatever the
stores hold and whatever the handshake does. -/
theorem C15_generated_client_connects_only_if
    (verifies : List Root → Chain → String → Bool) (verifiesClient : List Root → Chain → Bool)
    (hs : Handshake Root Chain) (laws : RustlsLaws verifies verifiesClient hs)
    (sys : Sys Root) (uri : Uri) (ep : Endpoint Root Chain)
    (srv : ServerHello Root Chain) (dialOk : Bool) (io : Io)
    (hnew : Endpoint.new sys uri = .ok ep) (hhttps : uri.scheme = some .https)
    (hconn : Connector.call ep dialOk (fun c => (hs c srv).client) = .ok io) :
    io = .tls (some alpnH2) ∧
    ∃ name roots, uri.host = some name ∧
      SameRoots roots
        ((if sys.featNative then sys.nativeCerts else []) ++ (if sys.featWebpki then sys.webpkiRoots else [])) ∧
      verifies roots srv.chain name = true := by
  obtain ⟨a, hio, ⟨name, roots, hname, hroots, hver⟩, halpn⟩ :=
    C15_client_connects_only_if verifies verifiesClient hs laws sys uri _ ep srv dialOk io
      (by rwa [Endpoint.new, if_pos hhttps] at hnew) hhttps hconn
  rw [configuredRoots, List.flatMap_singleton] at hroots
  refine ⟨?_, name, roots, hname, hroots, hver⟩
  cases halpn with
  | inl h => rw [hio, h]
  | inr h => cases h

/-- **An empty platform store is an error, not an empty trust store.** In a build with
`tls-native-roots`, a configuration that asks for the platform's certificates — at any point of
any builder sequence — is refused by `Endpoint::tls_config` when the platform yields none. -/
theorem C15_empty_native_store_refused (sys : Sys Root) (uri : Uri) (ops : List (ClientOp Root Chain))
    (hfeat : sys.featNative = true) (hempty : sys.nativeCerts = []) (hask : asksNative ops = true)
    (ep : Endpoint Root Chain) :
    (Endpoint.fromShared uri).tlsConfig sys (ClientTlsConfig.build ops) ≠ .ok ep := by
  intro h
  obtain ⟨t, d, _, _, hnew⟩ := tlsConfig_new_ok sys _ _ ep h
  -- `TlsConnector::new` stops at the platform store
  unfold TlsConnector.new nativeStep at hnew
  rw [build_native, hask, hfeat, hempty] at hnew
  cases hnew

/-- … in particular a generated client over https does not come into being then. -/
theorem C15_generated_client_needs_a_store (sys : Sys Root) (uri : Uri)
    (hfeat : sys.featNative = true) (hempty : sys.nativeCerts = []) (hh : uri.scheme = some .https)
    (ep : Endpoint Root Chain) :
    Endpoint.new sys uri ≠ (.ok ep : Except CfgErr (Endpoint Root Chain)) := by
  rw [Endpoint.new, if_pos hh]
  exact C15_empty_native_store_refused sys uri [.withEnabledRoots] hfeat hempty rfl ep

/-! ### configurations are values: using one has no memory -/

/-- In every program that defines any number of `ClientTlsConfig` variables — from
`ClientTlsConfig::new()` or from a clone of an earlier variable, by any builder calls — and
uses them for any endpoints in any order, every configuration variable holds exactly what
`ClientTlsConfig::new()` followed by ITS OWN builder calls gives (the calls its ancestors were
given up to the point it was cloned from them, then its own). -/
theorem C15_configs_are_values (sys : Sys Root) (prog : List (Stmt Root Chain)) (c : Nat) :
    (Proc.run sys prog).cfgs[c]? = (ownOps prog c).map ClientTlsConfig.build := by
  rw [run_cfgs, ownOps, List.getElem?_map]

/-- **Using a configuration has no memory.** After EVERY history `hist` of statements (other
endpoints configured with this configuration variable, with clones of it, with configurations
derived from it before or after they were used; endpoints cloned, re-configured, connected),
`Endpoint::from_shared(uri)?.tls_config(c.clone())` yields exactly the endpoint that a
configuration built from scratch by `c`'s own builder sequence yields for `uri` — hence the
same configuration error, or the same `Connector::call` decision for every dial result and
every handshake behaviour; and the same as after any other history `hist2` in which a variable
`c2` was told the same. The decision for an endpoint depends on its own URI and its own builder
sequence only. -/
theorem C15_config_use_has_no_memory (sys : Sys Root) (hist : List (Stmt Root Chain)) (c : Nat)
    (ops : List (ClientOp Root Chain)) (uri : Uri) (hown : ownOps hist c = some ops) :
    let fresh := (Endpoint.fromShared uri).tlsConfig sys (ClientTlsConfig.build ops)
    ((Proc.run sys hist).useConfig sys c uri).eps.getLast? = some fresh ∧
    (∀ dialOk hs, ((Proc.run sys hist).useConfig sys c uri).lastDecision dialOk hs =
      some (match fresh with
            | .ok ep => .ok (Connector.call ep dialOk hs)
            | .error e => .error e)) ∧
    (∀ (hist2 : List (Stmt Root Chain)) (c2 : Nat), ownOps hist2 c2 = some ops →
      ((Proc.run sys hist2).useConfig sys c2 uri).eps.getLast? =
        ((Proc.run sys hist).useConfig sys c uri).eps.getLast?) := by
  intro fresh
  have key : ∀ (h : List (Stmt Root Chain)) (k : Nat), ownOps h k = some ops →
      ((Proc.run sys h).useConfig sys k uri).eps.getLast? = some fresh := by
    intro h k hk
    exact useConfig_last sys _ k uri _ (by rw [C15_configs_are_values, hk]; rfl)
  refine ⟨key hist c hown, ?_, ?_⟩
  · intro dialOk hs
    simp only [Proc.lastDecision, key hist c hown]
    cases fresh <;> rfl
  · intro hist2 c2 h2
    rw [key hist2 c2 h2, key hist c hown]

/-- **Later statements change no variable.** Whatever a program goes on to do (`more`), the
configuration and endpoint variables defined so far keep their values: a configuration that was
used, then cloned and modified, then used again, is still what it was. -/
theorem C15_later_statements_change_no_variable (sys : Sys Root) (hist more : List (Stmt Root Chain)) (k : Nat) :
    (k < (Proc.run sys hist).cfgs.length →
      (Proc.run sys (hist ++ more)).cfgs[k]? = (Proc.run sys hist).cfgs[k]?) ∧
    (k < (Proc.run sys hist).eps.length →
      (Proc.run sys (hist ++ more)).eps[k]? = (Proc.run sys hist).eps[k]?) := by
  obtain ⟨⟨a, h1⟩, ⟨b, h2⟩⟩ := foldl_extends sys (Proc.run sys hist) more
  have hrun : Proc.run sys (hist ++ more) = more.foldl (Proc.exec sys) (Proc.run sys hist) := List.foldl_append
  rw [hrun, ← h1, ← h2]
  exact ⟨fun hk => List.getElem?_append_left hk, fun hk => List.getElem?_append_left hk⟩

/-- **Endpoint values.** A clone of an endpoint is that endpoint; connecting (`&self`) changes
nothing, so the same endpoint connected twice, or a clone of it, decides the same way; and
`tls_config` on an existing endpoint (or a clone of one) gives what it gives on a fresh endpoint
for the same URI — the connector it had before plays no part (the origin override, which `tls_config`
does not read, stays).
The SECOND conjunct is a transcription lemma: `Proc.exec _ (.connect _) := p` by definition
(`Endpoint::connect` takes `&self`; the model gives a connect statement no effect on the variables),
so it is `rfl`; that connecting leaves an endpoint value usable and unchanged in tonic is carried by
the correspondence run (cases that connect the same endpoint / a clone twice).  The first and third
conjuncts compute with `Proc.exec` and `tlsConfig_replaces`. -/
theorem C15_endpoint_values (sys : Sys Root) (p : Proc Root Chain) (e c : Nat)
    (ep : Endpoint Root Chain) (cfg : ClientTlsConfig Root Chain)
    (he : p.eps[e]? = some (.ok ep)) (hc : p.cfgs[c]? = some cfg) :
    (p.exec sys (.cloneEndpoint e)).eps.getLast? = some (.ok ep) ∧
    p.exec sys (.connect e) = p ∧
    (p.exec sys (.tlsConfig e c)).eps.getLast? =
      some (((Endpoint.fromShared ep.uri).tlsConfig sys cfg).map (fun x => { x with origin := ep.origin })) := by
  refine ⟨by simp [Proc.exec, he], rfl, ?_⟩
  simp [Proc.exec, he, hc, tlsConfig_replaces sys ep cfg]

open Tls.TestPki in
/-- `C15_config_use_has_no_memory` has content: of a process in which clones of a configuration
share a cache of the connector built from it (`Tls.ProcShared`, the shape of seeded change
C15d) it is FALSE, and so is the property. In the test world (`sys` is the harness build
`Tls.TestPki.sys`, both root-store features off): one configuration `c0` trusting
CA 1, used for `https://good.test`, then used again for `https://bad.test`: the second endpoint
connects (h2) to a server whose chain does not verify for `bad.test`. Same case as the corpus
line `tls https good ca:ca1 | https bad ^0 ; s1good h2 - tcp`. -/
theorem C15_config_use_has_no_memory_fails_with_shared_cache :
    ∃ (hist : List (Stmt Cert (List Cert))) (c : Nat) (ops : List (ClientOp Cert (List Cert)))
      (uri : Uri) (ep : Endpoint Cert (List Cert)) (srv : ServerHello Cert (List Cert)),
      ownOps hist c = some ops ∧
      ((ProcShared.run sys hist).useConfig sys c uri).eps.getLast? = some (.ok ep) ∧
      uri.scheme = some .https ∧
      Connector.call ep true (fun h => (handshake h srv).client) = .ok (.tls (some alpnH2)) ∧
      expectedName ops uri = some "bad.test" ∧
      verifies (configuredRoots sys ops) srv.chain "bad.test" = false :=
  ⟨[.config none [.caCertificate (some [.ca1])],
    .endpoint { scheme := some .https, host := some "good.test" }, .tlsConfig 0 0, .connect 1],
   0, [.caCertificate (some [.ca1])],
   { scheme := some .https, host := some "bad.test" }, _,
   { chain := [.s1good], clientAuth := .off, alpn := [alpnH2] },
   rfl, rfl, rfl, rfl, by decide, by decide⟩

/-! ### generated `connect(dst)` over an endpoint value; the `Server` builder chain -/

/-- `Endpoint::new(uri)` is `Endpoint::new` of the unconfigured endpoint for that URI: the `dst`
type a generated `connect` function is called with (string, `Uri`, fresh `Endpoint`) plays no part. -/
theorem C15_endpoint_new_of_uri (sys : Sys Root) (uri : Uri) :
    Endpoint.newFrom sys (Endpoint.fromShared (Root := Root) (Chain := Chain) uri) = Endpoint.new sys uri := by
  simp only [Endpoint.newFrom, Endpoint.new, Endpoint.fromShared, Option.isNone_none, Bool.true_and]
  by_cases h : uri.scheme = some .https <;> simp [h]

/-- **`Endpoint::new` keeps the caller's TLS configuration.** An endpoint that carries a TLS
connector — any `tls_config` the caller made — comes out of `Endpoint::new` (hence out of a
generated `connect(endpoint)`) unchanged; so does every endpoint that is not https. -/
theorem C15_endpoint_new_keeps_configuration (sys : Sys Root) (ep : Endpoint Root Chain)
    (h : ep.tls.isSome = true ∨ ep.uri.scheme ≠ some .https) :
    Endpoint.newFrom sys ep = .ok ep := by
  unfold Endpoint.newFrom
  cases h with
  | inl h =>
    cases ht : ep.tls with
    | none => simp [ht] at h
    | some t => simp
  | inr h => simp [h]

/-- **A generated client over a configured endpoint connects only to the server the caller's
configuration admits.** `Endpoint::from_shared(uri)?.tls_config(cfg)?` handed to a generated
`connect(dst)` (`Endpoint::new(dst)`): the channel gets an IO only under exactly the conditions of
`C15_client_connects_only_if` for the CALLER's builder sequence — configured roots, configured (or
URI) name, h2 unless the caller opted out. -/
theorem C15_generated_client_keeps_caller_configuration
    (verifies : List Root → Chain → String → Bool) (verifiesClient : List Root → Chain → Bool)
    (hs : Handshake Root Chain) (laws : RustlsLaws verifies verifiesClient hs)
    (sys : Sys Root) (uri : Uri) (ops : List (ClientOp Root Chain)) (ep ep' : Endpoint Root Chain)
    (srv : ServerHello Root Chain) (dialOk : Bool) (io : Io)
    (hcfg : (Endpoint.fromShared uri).tlsConfig sys (ClientTlsConfig.build ops) = .ok ep)
    (hnew : Endpoint.newFrom sys ep = .ok ep')
    (hhttps : uri.scheme = some .https)
    (hconn : Connector.call ep' dialOk (fun c => (hs c srv).client) = .ok io) :
    ∃ a, io = .tls a ∧ MayTransmit verifies sys ops uri srv.chain a := by
  obtain ⟨_, t, ht, _⟩ := C15_connector_uses_configuration sys uri ops ep hcfg
  have hk := C15_endpoint_new_keeps_configuration sys ep (Or.inl (by simp [ht]))
  rw [hk] at hnew
  cases hnew
  exact C15_client_connects_only_if verifies verifiesClient hs laws sys uri ops ep srv dialOk io hcfg hhttps hconn

open Tls.TestPki in
/-- Of the tree as found (0.13.0) the previous statement is FALSE: `Endpoint::new` replaced the
TLS configuration of every https endpoint by `ClientTlsConfig::new().with_enabled_roots()`.  In
the test world, in a build with `tls-native-roots` whose platform store holds CA 2: an endpoint the
caller configured to trust CA 1 only, handed to a generated `connect`, connects (h2) to a server
certified by CA 2 — which does not verify against the configured roots.  Same case as the corpus
line `tlsf n ca2 https good ca:ca1 | https good @0 new ; s2good h2 - tcp`. -/
theorem C15_generated_client_keeps_caller_configuration_asis_fails :
    ∃ (ops : List (ClientOp Cert (List Cert))) (uri : Uri) (ep ep' : Endpoint Cert (List Cert))
      (srv : ServerHello Cert (List Cert)),
      (Endpoint.fromShared uri).tlsConfig (sysWith false [.ca2]) (ClientTlsConfig.build ops) = .ok ep ∧
      Endpoint.newFromAsIs (sysWith false [.ca2]) ep = .ok ep' ∧
      uri.scheme = some .https ∧
      Connector.call ep' true (fun c => (handshake c srv).client) = .ok (.tls (some alpnH2)) ∧
      expectedName ops uri = some "good.test" ∧
      verifies (configuredRoots (sysWith false [.ca2]) ops) srv.chain "good.test" = false :=
  ⟨[.caCertificate (some [.ca1])], { scheme := some .https, host := some "good.test" }, _, _,
   { chain := [.s2good], clientAuth := .off, alpn := [alpnH2] },
   rfl, rfl, rfl, rfl, by decide, by decide⟩

/-- **`Endpoint::origin` plays no part in authenticating the peer.**  The origin override is what `AddOrigin`
writes into requests; whether it is set before or after `tls_config`, to the endpoint's own host or to any
other one (a proxy or load balancer reached by address): `tls_config` builds the same connector — the name the
server is authenticated against is the configured `domain_name`, else the endpoint URI's host — and
`Connector::call` decides the same way.  So every admission theorem above holds verbatim of endpoints with an
origin.
The SECOND conjunct is a transcription lemma: `Connector.call` never mentions the `origin` field,
so it is `rfl`, and the third conjunct follows from the
first two; the first conjunct (`tls_config` commutes with `origin`) unfolds `Endpoint.tlsConfig`.  What
gives the statement content is the counter-model `C15_origin_plays_no_part_fails_with_origin_as_name`
(a `tls_config` that reads the origin falsifies it) and, for tonic itself, the `+o…` cases of the
correspondence run. -/
theorem C15_origin_plays_no_part (sys : Sys Root) (ep : Endpoint Root Chain) (o : Uri)
    (cfg : ClientTlsConfig Root Chain) (dialOk : Bool) (hs : ClientHello Root Chain → ClientView) :
    (ep.setOrigin o).tlsConfig sys cfg = (ep.tlsConfig sys cfg).map (·.setOrigin o) ∧
    Connector.call (ep.setOrigin o) dialOk hs = Connector.call ep dialOk hs ∧
    (∀ ep', (ep.setOrigin o).tlsConfig sys cfg = .ok ep' →
      ∃ ep'', ep.tlsConfig sys cfg = .ok ep'' ∧ ep'.tls = ep''.tls ∧ ep'.uri = ep''.uri ∧
        Connector.call ep' dialOk hs = Connector.call ep'' dialOk hs) := by
  have h1 : (ep.setOrigin o).tlsConfig sys cfg = (ep.tlsConfig sys cfg).map (·.setOrigin o) := by
    simp only [Endpoint.tlsConfig, Endpoint.setOrigin]
    cases cfg.intoTlsConnector sys ep.uri <;> rfl
  refine ⟨h1, rfl, ?_⟩
  intro ep' h
  rw [h1] at h
  cases h2 : ep.tlsConfig sys cfg with
  | error e => rw [h2] at h; cases h
  | ok ep'' => rw [h2] at h; cases h; exact ⟨ep'', rfl, rfl, rfl, rfl⟩

open Tls.TestPki in
/-- `C15_origin_plays_no_part` has content: of a `tls_config` that takes the server name from the overridden
origin (`Endpoint.tlsConfigOriginName`, the shape of seeded change C15f: "the origin plays the role of SNI") it
is FALSE, and so is the property.  In the test world: an endpoint for `https://bad.test` trusting CA 1, with
`origin("https://good.test")` set before `tls_config`, connects (h2) to a server whose certificate is valid for
`good.test` only — it does not verify for the host the caller named.  Same case as the corpus line
`tls https+oBhttps bad ca:ca1 ; s1good h2 - tcp`. -/
theorem C15_origin_plays_no_part_fails_with_origin_as_name :
    ∃ (ops : List (ClientOp Cert (List Cert))) (uri o : Uri) (ep' : Endpoint Cert (List Cert))
      (srv : ServerHello Cert (List Cert)),
      ((Endpoint.fromShared uri).setOrigin o).tlsConfigOriginName (sysWith false []) (ClientTlsConfig.build ops) = .ok ep' ∧
      uri.scheme = some .https ∧
      Connector.call ep' true (fun c => (handshake c srv).client) = .ok (.tls (some alpnH2)) ∧
      expectedName ops uri = some "bad.test" ∧
      verifies (configuredRoots (sysWith false []) ops) srv.chain "bad.test" = false ∧
      -- while the code refuses this server
      (∃ ep'', ((Endpoint.fromShared uri).setOrigin o).tlsConfig (sysWith false []) (ClientTlsConfig.build ops) = .ok ep'' ∧
        Connector.call ep'' true (fun c => (handshake c srv).client) = .error (.badCert .nameMismatch)) :=
  ⟨[.caCertificate (some [.ca1])], { scheme := some .https, host := some "bad.test" },
   { scheme := some .https, host := some "good.test" }, _,
   { chain := [.s1good], clientAuth := .off, alpn := [alpnH2] },
   rfl, rfl, rfl, by decide, by decide, ⟨_, rfl, rfl⟩⟩

/-- **The last `Server::tls_config` decides; `Server::layer` is invisible.** For every `Server`
builder chain (any number of `tls_config` calls and `layer` calls in any order) that comes
through: the acceptor the serve loop gets is the one built from the LAST `tls_config` call's
configuration — whatever earlier calls configured (e.g. a configuration without client
authentication) is gone, and layers added before or after change nothing; with no `tls_config`
call there is no TLS. -/
theorem C15_server_builder_last_tls_config_wins (steps : List (ServerStep Root Chain))
    (tls : Option (ServerHello Root Chain)) (h : ServerBuilder.run steps = .ok tls) :
    match (steps.filterMap (fun st => match st with | .tlsConfig ops => some ops | .layer => none)).getLast? with
    | none => tls = none
    | some ops => ∃ s, (ServerTlsConfig.build ops).tlsAcceptor = .ok s ∧ tls = some s :=
  runFrom_last steps none tls h

/-! ### non-vacuity -/

open Tls.TestPki in
private theorem handshake_inv (c : ClientHello Cert (List Cert)) (s : ServerHello Cert (List Cert)) :
    (∀ a, (handshake c s).client = .done a →
      negotiate c.alpn s.alpn = some a ∧ verifyServer c.roots s.chain c.domain = none) ∧
    (∀ peer, (handshake c s).server = some peer → serverSide s.clientAuth c.identity = some peer) := by
  unfold handshake
  split
  · exact ⟨fun _ h => (nomatch h), fun _ h => (nomatch h)⟩
  · rename_i a hn
    split
    · exact ⟨fun _ h => (nomatch h), fun _ h => (nomatch h)⟩
    · rename_i hv
      exact ⟨fun a' h => by cases h; exact ⟨hn, hv⟩, fun _ h => h⟩

open Tls.TestPki in
private theorem serverSide_judged (rs ch : List Cert) (peer : Option (List Cert))
    (h : (if verifiesClient rs ch then some (some ch) else none) = some peer) :
    ∃ ch', peer = some ch' ∧ some ch = some ch' ∧ verifiesClient rs ch' = true := by
  split at h
  · rename_i hv; cases h; exact ⟨ch, rfl, rfl, hv⟩
  · cases h

open Tls.TestPki in
/-- The contract assumed of rustls is satisfiable: the concrete world of the correspondence
run (committed test PKI, webpki's checks restricted to it, RFC 7301, TLS 1.3 ordering)
satisfies it. -/
theorem C15_laws_satisfiable : RustlsLaws verifies verifiesClient handshake := by
  refine ⟨fun c s a h => ?_, fun c s p h => ?_, fun c s peer h => ?_⟩
  · rw [verifies, ((handshake_inv c s).1 a h).2]; rfl
  · have hn := ((handshake_inv c s).1 _ h).1
    unfold negotiate at hn
    split at hn
    · cases hn
    · split at hn
      · rename_i p' hf
        cases hn
        exact ⟨by simpa using List.find?_some hf, List.mem_of_find?_eq_some hf⟩
      · cases hn
  · have hsrv := (handshake_inv c s).2 peer h
    generalize s.clientAuth = mode at hsrv ⊢
    generalize c.identity = ident at hsrv ⊢
    cases mode with
    | off => exact (Option.some.inj hsrv).symm
    | required rs =>
      cases ident with
      | none => cases hsrv
      | some ch => exact serverSide_judged rs ch peer hsrv
    | optional rs =>
      cases ident with
      | none => exact .inl (Option.some.inj hsrv).symm
      | some ch => exact .inr (serverSide_judged rs ch peer hsrv)

section Examples
open Tls.TestPki

private def goodOps : List (ClientOp Cert (List Cert)) :=
  [.domainName "bad.test", .caCertificate (some [.ca2]), .withEnabledRoots,
   .caCertificates [some [.ca1], some []], .domainName "good.test", .assumeHttp2 true, .assumeHttp2 false,
   .identity { cert := some [.c1], keyOk := true, accepted := true }]
private def goodUri : Uri := { scheme := some .https, host := some "other.test" }
private def goodSrvOps : List (ServerOp Cert (List Cert)) :=
  [.clientAuthOptional true, .identity { cert := some [.s1good], keyOk := true, accepted := true },
   .clientCaRoot (some [.ca2]), .clientCaRoot (some [.ca1]), .clientAuthOptional false]

/-- The hypotheses of the end-to-end theorem are met by a non-trivial configuration (mixed
builder calls on both sides, mTLS), and there the handler does run. -/
example :
    ∃ ep s, (Endpoint.fromShared goodUri).tlsConfig sys (ClientTlsConfig.build goodOps) = .ok ep ∧
      (ServerTlsConfig.build goodSrvOps).tlsAcceptor = .ok s ∧
      (scenario ep (.tonicTls s) .tcp handshake).handlers = 1 ∧
      (scenario ep (.tonicTls s) .tcp handshake).peer = some (some [.c1]) := by
  refine ⟨_, _, rfl, rfl, ?_, ?_⟩ <;> decide

/-- … and one step away (the other CA on the client) the same theorem's conclusion is
impossible, so the handler must not run — and the model agrees. -/
example :
    ∃ ep s, (Endpoint.fromShared goodUri).tlsConfig sys
        (ClientTlsConfig.build (goodOps ++ [.identity { cert := some [.c2], keyOk := true, accepted := true }])) = .ok ep ∧
      (ServerTlsConfig.build goodSrvOps).tlsAcceptor = .ok s ∧
      (scenario ep (.tonicTls s) .tcp handshake).handlers = 0 := by
  exact ⟨_, _, rfl, rfl, by decide +kernel⟩

private def genUri : Uri := { scheme := some .https, host := some "good.test" }
private def h2Server (c : Cert) (alpn : List String) : ServerHello Cert (List Cert) :=
  { chain := [c], clientAuth := .off, alpn := alpn }

/-- The hypotheses of `C15_generated_client_connects_only_if` are met in a build with both root
stores compiled in (platform store {ca1}, webpki store {ca2}): a generated client comes into
being and connects to an h2 server certified by the webpki store … -/
example :
    ∃ ep, Endpoint.new (sysWith true [.ca1]) genUri = .ok ep ∧
      Connector.call ep true (fun c => (handshake c (h2Server .s2good [alpnH2])).client) = .ok (.tls (some alpnH2)) := by
  exact ⟨_, rfl, rfl⟩

/-- … while in the build without the webpki store the same server is refused, and a server
that does not select h2 is refused although its certificate is fine (no opt-out on this path). -/
example :
    ∃ ep, Endpoint.new (sysWith false [.ca1]) genUri = .ok ep ∧
      Connector.call ep true (fun c => (handshake c (h2Server .s2good [alpnH2])).client) = .error (.badCert .unknownIssuer) ∧
      Connector.call ep true (fun c => (handshake c (h2Server .s1good [])).client) = .error .h2NotNegotiated := by
  exact ⟨_, rfl, rfl, rfl⟩

/-- The hypotheses of `C15_empty_native_store_refused` are satisfiable (the request for the
platform store buried in the middle of a builder sequence), and one certificate in the store
is enough for the same configuration to be accepted. -/
example : (sysWith false ([] : List Cert)).featNative = true ∧ (sysWith false ([] : List Cert)).nativeCerts = [] ∧
    asksNative goodOps = true ∧
    ∃ ep, (Endpoint.fromShared goodUri).tlsConfig (sysWith false [.ca2]) (ClientTlsConfig.build goodOps) = .ok ep :=
  ⟨rfl, rfl, rfl, _, rfl⟩

/-- The hypothesis of `C15_config_use_has_no_memory` is met by a non-trivial history: a base
configuration that is never used itself, a clone of it used for `good.test`, and a configuration
derived from that used clone (`domain_name`, `assume_http2`) — whose own sequence is the
concatenation, and which the process model, run operationally, gives the name `bad.test` and the
roots of the base. -/
example :
    let hist : List (Stmt Cert (List Cert)) :=
      [.config none [.caCertificate (some [.ca1])], .config (some 0) [],
       .endpoint { scheme := some .https, host := some "good.test" }, .tlsConfig 0 1, .connect 1,
       .config (some 1) [.domainName "bad.test", .assumeHttp2 true], .cloneEndpoint 1]
    ownOps hist 2 = some [.caCertificate (some [.ca1]), .domainName "bad.test", .assumeHttp2 true] ∧
    (((Proc.run sys hist).useConfig sys 2 goodUri).eps.getLast?.bind
      (fun r => match r with | .ok ep => ep.tls.map (fun t => (t.domain, t.roots, t.assumeHttp2)) | .error _ => none))
      = some ("bad.test", [.ca1], true) := by
  exact ⟨rfl, by decide +kernel⟩

/-- The hypotheses of `C15_generated_client_keeps_caller_configuration` are met: in a build whose
platform store holds CA 2, an endpoint configured to trust CA 1 (name from the URI) goes through
`Endpoint::new` and connects to the CA-1 server — and NOT to the CA-2 server the default
configuration of generated clients would have accepted. -/
example :
    ∃ ep, (Endpoint.fromShared genUri).tlsConfig (sysWith false [.ca2])
        (ClientTlsConfig.build ([.caCertificate (some [.ca1])] : List (ClientOp Cert (List Cert)))) = .ok ep ∧
      Endpoint.newFrom (sysWith false [.ca2]) ep = .ok ep ∧
      Connector.call ep true (fun c => (handshake c (h2Server .s1good [alpnH2])).client) = .ok (.tls (some alpnH2)) ∧
      Connector.call ep true (fun c => (handshake c (h2Server .s2good [alpnH2])).client) = .error (.badCert .unknownIssuer) := by
  exact ⟨_, rfl, rfl, rfl, rfl⟩

/-- The hypothesis of `C15_server_builder_last_tls_config_wins` is met by a chain with an earlier
permissive `tls_config`, layers on both sides, and the mTLS configuration last: the serve loop's
acceptor requires client certificates of CA 1. -/
example :
    ∃ s, ServerBuilder.run (Root := Cert) (Chain := List Cert)
        [.tlsConfig [.identity { cert := some [.s1good], keyOk := true, accepted := true }, .clientAuthOptional true],
         .layer, .tlsConfig goodSrvOps, .layer] = .ok (some s) ∧
      (match s.clientAuth with | .required rs => rs == [Cert.ca1] | _ => false) = true := by
  exact ⟨_, rfl, by decide +kernel⟩

end Examples

end C15
