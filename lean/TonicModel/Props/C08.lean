import TonicModel.Model.Metadata
import TonicModel.Spec.Metadata
import TonicModel.Lemmas.Metadata
import TonicModel.Lemmas.Status
import TonicModel.Model.MetadataEntry
import TonicModel.Model.MetadataApi
import TonicModel.Spec.MetadataEntry
import TonicModel.Lemmas.MetadataEntry
/-
C08 — User metadata crosses the wire intact; protocol headers cannot be forged.
The property theorems, the two views (`expectedUnder`, `viewUnder`) the end-to-end statements are
written in, and a few private lemmas that serve one family each; everything reusable is in
`Lemmas/Metadata.lean` (names, categories, carriers), `Lemmas/MetadataEntry.lean` (entry API) and
`Lemmas/Status.lean`.
`Variant.fixed` = pinned tree + the repair of the `-bin` suffix test (DESIGN §9.3, defect 9; + the
C04/C12 status repairs); `Variant.orig` = pinned tree, for which the `_fails` witness is proved.
-/

namespace C08
open Metadata
open Status (Variant St)

/-! ## binary values -/

/-- **Binary round trip.** Every byte string (every length mod 3) is stored as unpadded
standard base64 — a legal header value without `=` — and is restored to the original bytes from
that form *and* from the padded form a peer may send instead. -/
theorem C08_binary_roundtrip (b : Bytes) :
    valueFromBytes .binary b = some (B64.encode false b) ∧
    HMap.legalValue (B64.encode false b) = true ∧
    Spec.Metadata.carriesBinary (B64.encode false b) b = true ∧
    (∀ pad, valueToBytes .binary (B64.encode pad b) = some b) := by
  refine ⟨rfl, Status.b64_encode_legal false b, ?_, ?_⟩
  · simp [Spec.Metadata.carriesBinary, B64.decode_encode]
  · intro pad; simp [valueToBytes, B64.decode_encode]

/-- **Size of a stored binary value, for every length.** The text a binary value is stored and sent
as has exactly `⌈4n/3⌉` symbols (`4·⌈n/3⌉` in the padded form a peer may send) — so no raw length
is special: there is no length at which a value is refused, truncated or stored differently (what a
fixed-size encode buffer sized by the raw length gets wrong from 769 bytes on, seed C08j). -/
theorem C08_binary_stored_length (b : Bytes) :
    (∃ w, valueFromBytes .binary b = some w ∧ w.length = (4 * b.length + 2) / 3) ∧
    (B64.encode true b).length = 4 * ((b.length + 2) / 3) :=
  ⟨⟨_, rfl, B64.length_encode false b⟩, B64.length_encode true b⟩

example : (valueFromBytes .binary (List.replicate 800 7)).map List.length = some 1067 := by decide +kernel

/-- ASCII values are stored and returned verbatim, and are accepted iff they are legal header
values. -/
theorem C08_ascii_verbatim (b : Bytes) :
    (HMap.legalValue b = true → valueFromBytes .ascii b = some b ∧ valueToBytes .ascii b = some b) ∧
    (HMap.legalValue b = false → valueFromBytes .ascii b = none) := by
  constructor <;> intro h <;> simp [valueFromBytes, valueToBytes, h]

/-! ## keys and categories -/

/-- A typed key is accepted exactly when it is a header name whose (normalised, lower-case)
form has the `-bin` suffix iff the key is a binary key — however the caller spelled it. -/
theorem C08_key_category (enc : Enc) (src : Bytes) :
    keyFromBytes .fixed enc src =
      match HMap.normName src with
      | none => none
      | some n => if (enc == Enc.binary) == Spec.Metadata.isBinName n then some n else none := by
  unfold keyFromBytes
  cases h : HMap.normName src with
  | none => rfl
  | some n => simp only [validKey_of_lower .fixed enc (lower_of_normName h), ownCategory]

/-- **No miscategorisation, accessors (repaired tree).** For every map and every lookup string
(any spelling, valid header name or not), each typed accessor behaves as the spec demands: it
looks at the entries stored under the normalised name, and returns them only if the *stored*
name's category is the accessor's own — `get`/`get_all`/`remove` never yield a `-bin` entry,
`get_bin`/`get_all_bin`/`remove_bin` never yield anything else; a key of the wrong category or
one that is not a header name yields nothing and removes nothing. -/
theorem C08_accessors_by_stored_name (enc : Enc) (ks : Bytes) (m : HMap) :
    get .fixed enc ks m = (match HMap.normName ks with
      | some n => if ownCategory enc n then HMap.get n m else none
      | none => none) ∧
    getAll .fixed enc ks m = (match HMap.normName ks with
      | some n => if ownCategory enc n then HMap.getAll n m else []
      | none => []) ∧
    remove .fixed enc ks m = (match HMap.normName ks with
      | some n => if ownCategory enc n then (HMap.get n m, HMap.remove n m) else (none, m)
      | none => (none, m)) := by
  unfold Metadata.get Metadata.getAll Metadata.remove
  cases h : HMap.normName ks with
  | none => simp only [ite_self, and_self]
  | some n =>
    rw [validKey_fixed_norm enc h]
    exact ⟨rfl, rfl, rfl⟩

/-- The same for the write side: `entry(key)` / `entry_bin(key)` with a `&str` key hands out an
entry (and possibly inserts) only when the *stored* name's category is its own; otherwise, and
for strings that are not header names, it fails and the map is unchanged. -/
theorem C08_entry_by_stored_name (enc : Enc) (ks val : Bytes) (m : HMap) :
    match (entryOrInsert .fixed enc ks val m).1 with
    | .entry _ => ∃ n, HMap.normName ks = some n ∧ ownCategory enc n = true
    | _ => (entryOrInsert .fixed enc ks val m).2 = m := by
  unfold entryOrInsert
  cases h : HMap.normName ks with
  | none => by_cases hv : validKey .fixed enc ks = true <;> simp [hv]
  | some n =>
    have hown := validKey_fixed_norm enc h
    by_cases hv : validKey .fixed enc ks = true
    · simp only [hv, Bool.not_true, Bool.false_eq_true, if_false]
      cases valueFromBytes enc val with
      | none => rfl
      | some w => cases HMap.get n m <;> exact ⟨n, rfl, hown ▸ hv⟩
    · simp [hv]

/-- On the pinned tree as found this fails: `get("foo-BIN")` returns the binary entry stored
under `foo-bin`, typed as ASCII. -/
theorem C08_accessors_unfixed_fails :
    ¬ ∀ (ks : Bytes) (m : HMap) (w n : Bytes), get .orig .ascii ks m = some w →
        HMap.normName ks = some n → Spec.Metadata.isBinName n = false := by
  intro hall
  exact absurd (hall (HMap.name "foo-BIN") [(HMap.name "foo-bin", HMap.name "AAEC")] (HMap.name "AAEC")
    (HMap.name "foo-bin")) (by decide +kernel)

/-- … and only for keys not spelled in lower case: for a lower-case key the pinned tree and the
repaired tree agree. -/
theorem C08_accessors_partial (enc : Enc) (ks : Bytes) (m : HMap) (hlow : HMap.normName ks = some ks) :
    get .orig enc ks m = get .fixed enc ks m ∧ getAll .orig enc ks m = getAll .fixed enc ks m ∧
    remove .orig enc ks m = remove .fixed enc ks m := by
  have hl := lower_of_normName hlow
  unfold Metadata.get Metadata.getAll Metadata.remove
  rw [validKey_of_lower .orig enc hl, validKey_of_lower .fixed enc hl]
  exact ⟨rfl, rfl, rfl⟩

/-- **No miscategorisation, iterators.** For every map whose names are stored normalised (as
`HeaderMap` stores them), `iter()` (and `keys()`, `values()`, which use the same test) presents
each entry, with its own name and value, as `Binary` iff its name ends in `-bin`; nothing is
dropped, duplicated or reordered. -/
theorem C08_iter_by_stored_name (m : HMap) (hwf : ∀ e ∈ m, HMap.normName e.1 = some e.1) :
    iter .fixed m = m.map (fun e =>
      (if Spec.Metadata.isBinName e.1 then Enc.binary else Enc.ascii, e.1, e.2)) := by
  unfold iter
  exact List.map_congr_left fun e he =>
    congrArg (·, e.1, e.2) (iterEnc_of_lower .fixed (lower_of_normName (hwf e he)))

/-! ## preservation on the wire -/

/-- **Requests.** Every non-reserved name of the caller's metadata is on the wire with exactly
its values in order (and this is the metadata the server-side handler is given). -/
theorem C08_preserved_request (md : HMap) (k : Bytes) (hk : k ∉ Spec.Metadata.reserved) :
    HMap.getAll k (requestWire md) = HMap.getAll k md := by
  rw [getAll_requestWire, if_neg (not_reserved hk).1]

/-- **Responses.** Likewise for the handler's response metadata, both in the response headers
and in what a unary client returns to its caller (headers merged with the trailers). -/
theorem C08_preserved_response (md : HMap) (k : Bytes) (hk : k ∉ Spec.Metadata.reserved) :
    HMap.getAll k (responseWire md) = HMap.getAll k md ∧
    HMap.getAll k (clientUnaryMetadata md) = HMap.getAll k md := by
  obtain ⟨hk', _, n1, _⟩ := not_reserved hk
  have hr : HMap.getAll k (responseWire md) = HMap.getAll k md := by
    rw [getAll_responseWire, if_neg hk']
  refine ⟨hr, ?_⟩
  -- the trailers of a successful call hold `grpc-status` only
  have ht : HMap.hasKey k okTrailers = false := by
    rw [okTrailers, HMap.hasKey_cons, decide_eq_false (Ne.symm n1)]
    rfl
  rw [clientUnaryMetadata, HMap.getAll_extend, ht, hr]
  rfl

/-- **Trailers and error statuses.** For a status written as trailers (`h0 = []`) or as a
trailers-only response (`h0 = [content-type]`) — any block `h0` without custom entries of its
own — the peer reads back a status whose metadata has, under every custom name (not reserved,
not `grpc-status-details-bin`), exactly the original values in order. -/
theorem C08_preserved_status (st : St) (h0 : HMap) (k : Bytes)
    (hk : k ∉ Spec.Metadata.reserved) (hk2 : k ≠ Status.GRPC_STATUS_DETAILS)
    (h0k : HMap.getAll k h0 = []) :
    ∃ h st', Status.addHeader .fixed st h0 = .ok h ∧ Status.fromHeaderMap .fixed h = some (.status st') ∧
      HMap.getAll k h = HMap.getAll k st.metadata ∧
      HMap.getAll k st'.metadata = HMap.getAll k st.metadata := by
  obtain ⟨hk', _, n1, n2⟩ := not_reserved hk
  have hc : Status.isCustom k = true := by
    simp [Status.isCustom, hk', hk2]
  have hget : HMap.get Status.GRPC_STATUS (Status.wire .fixed st h0) = some st.code.headerValue := by
    rw [HMap.get, Status.getAll_wire, if_pos rfl]
    rfl
  obtain ⟨st', hr, hmeta⟩ := Status.fromHeaderMap_fixed_status _ _ hget
  have gk : HMap.getAll k (Status.wire .fixed st h0) = HMap.getAll k st.metadata := by
    rw [Status.getAll_wire, if_neg n1, if_neg (fun h => n2 h.1), if_neg (fun h => hk2 h.1)]
    by_cases hg : HMap.getAll k st.metadata = []
    · rw [if_neg (fun h => h.2 hg), h0k, hg]
    · rw [if_pos ⟨hc, hg⟩]
  refine ⟨_, st', Status.addHeader_eq .fixed st h0, hr, gk, ?_⟩
  rw [hmeta, Status.getAll_stripStatus, if_neg (by simp only [n1, n2, hk2, or_self, not_false_eq_true]), gk]

/-! ## reserved names cannot be forged -/

/-- **Requests and responses.** Under each of the six reserved names the wire carries exactly
what the protocol itself puts there — `te: trailers` and `content-type: application/grpc` on a
request, `content-type: application/grpc` on a response, nothing else — whatever the user
metadata contains, in any position. -/
theorem C08_reserved_never_emitted (md : HMap) (r : Bytes) (hr : r ∈ Spec.Metadata.reserved) :
    HMap.getAll r (requestWire md) =
      HMap.getAll r [(HMap.name "te", HMap.name "trailers"), (HMap.name "content-type", HMap.name "application/grpc")] ∧
    HMap.getAll r (responseWire md) =
      HMap.getAll r [(HMap.name "content-type", HMap.name "application/grpc")] := by
  have hr' : r ∈ Status.reservedHeaders := (mem_reserved_iff r).mp hr
  rw [getAll_requestWire, getAll_responseWire, if_pos hr', if_pos hr', requestWire_nil]
  exact ⟨rfl, rfl⟩

/-- **Statuses.** What a status block carries under a reserved name does not depend on the
status' metadata at all: two statuses that differ only in their metadata produce the same
values under every reserved name (the code's decimal under `grpc-status`, the encoded message
under `grpc-message`, otherwise what the block held before). -/
theorem C08_status_reserved_independent (st : St) (md' : HMap) (h0 : HMap) (r : Bytes)
    (hr : r ∈ Spec.Metadata.reserved) :
    HMap.getAll r (Status.wire .fixed st h0) = HMap.getAll r (Status.wire .fixed { st with metadata := md' } h0) := by
  have hc : Status.isCustom r = false := by
    simp [Status.isCustom, (mem_reserved_iff r).mp hr]
  simp only [Status.getAll_wire, hc, Bool.false_eq_true, false_and, if_false]

/-! ## typed entries end to end -/

/-- A map built with the typed API is exactly the accepted entries under their normalised
names, in call order: nothing is merged, reordered or re-encoded. (Transcription lemma: it holds by unfolding the model's definition, so it pins the model's shape for the correspondence run — its assurance about tonic is the tie, not this proof.) -/
theorem C08_typed_build (es : List (Enc × Bytes × Bytes)) :
    buildTyped .fixed es = es.filterMap (storedEntry .fixed) :=
  (buildTyped_from .fixed es []).trans (List.nil_append _)

/-- what a receiver's typed view must show under name `n` for the typed entries `es` a sender
attached: the accepted entries of that name in call order, each in its own category with its
original bytes (ASCII verbatim, binary restored) -/
def expectedUnder (es : List (Enc × Bytes × Bytes)) (n : Bytes) : List (Enc × Option Bytes) :=
  es.filterMap (fun e => match storedEntry .fixed e with
    | some (k, _) => if k = n then some (e.1, some e.2.2) else none
    | none => none)

/-- the rows of a typed view (`iter()` + `to_bytes()`) under name `n`, in order -/
def viewUnder (m : HMap) (n : Bytes) : List (Enc × Option Bytes) :=
  (typedView .fixed m).filterMap (fun r => if r.2.1 = n then some (r.1, r.2.2) else none)

private theorem built_rows (es : List (Enc × Bytes × Bytes)) (n : Bytes) :
    (HMap.getAll n (es.filterMap (storedEntry .fixed))).map
        (fun w => (iterEnc .fixed n, valueToBytes (iterEnc .fixed n) w)) = expectedUnder es n := by
  unfold expectedUnder
  induction es with
  | nil => rfl
  | cons e es ih =>
    rw [List.filterMap_cons, List.filterMap_cons]
    cases hs : storedEntry .fixed e with
    | none => exact ih
    | some kw =>
      simp only []
      rw [HMap.getAll_cons]
      by_cases hk : kw.1 = n
      · obtain ⟨henc, hval⟩ := storedEntry_view hs
        rw [if_pos hk, if_pos hk, List.map_cons, ih]
        simp only [← hk, henc, hval]
      · rw [if_neg hk, if_neg hk]
        exact ih

private theorem view_of_built (es : List (Enc × Bytes × Bytes)) (n : Bytes) (m : HMap)
    (hm : HMap.getAll n m = HMap.getAll n (buildTyped .fixed es)) :
    viewUnder m n = expectedUnder es n := by
  unfold viewUnder
  rw [typedView_of_name, hm, C08_typed_build]
  exact built_rows es n

/-- **End to end, request direction.** For every list of typed entries a caller attaches and
every non-reserved name `n`: what the server-side typed view (`iter()` + `to_bytes()`) shows under
`n` is exactly the accepted entries of that name in call order, in the category of the name, with
ASCII values verbatim and binary values restored to the original bytes. -/
theorem C08_request_end_to_end (es : List (Enc × Bytes × Bytes)) (n : Bytes)
    (hn : n ∉ Spec.Metadata.reserved) :
    viewUnder (requestWire (buildTyped .fixed es)) n = expectedUnder es n :=
  view_of_built es n _ (C08_preserved_request _ _ hn)

/-- **End to end, response direction.** Likewise for the entries a handler attaches to its
response, as seen by the client in the response headers and in what a unary call returns. -/
theorem C08_response_end_to_end (es : List (Enc × Bytes × Bytes)) (n : Bytes)
    (hn : n ∉ Spec.Metadata.reserved) :
    viewUnder (responseWire (buildTyped .fixed es)) n = expectedUnder es n ∧
    viewUnder (clientUnaryMetadata (buildTyped .fixed es)) n = expectedUnder es n :=
  ⟨view_of_built es n _ (C08_preserved_response _ _ hn).1, view_of_built es n _ (C08_preserved_response _ _ hn).2⟩

/-- **End to end, error statuses and trailers.** Likewise for the entries attached to a
`Status` (any code, message, details), whether it travels as trailers (`h0 = []`) or as a
trailers-only response (`h0 = [content-type]`): the status the client obtains shows them under
every custom name. -/
theorem C08_status_end_to_end (code : Status.Code) (msg det : Bytes) (es : List (Enc × Bytes × Bytes))
    (h0 : HMap) (n : Bytes) (hn : n ∉ Spec.Metadata.reserved) (hn2 : n ≠ Status.GRPC_STATUS_DETAILS)
    (h0n : HMap.getAll n h0 = []) :
    ∃ h st', Status.addHeader .fixed
        { code := code, message := msg, details := det, metadata := buildTyped .fixed es } h0 = .ok h ∧
      Status.fromHeaderMap .fixed h = some (.status st') ∧
      viewUnder st'.metadata n = expectedUnder es n := by
  obtain ⟨h, st', h1, h2, _, h4⟩ := C08_preserved_status
    { code := code, message := msg, details := det, metadata := buildTyped .fixed es } h0 n hn hn2 h0n
  exact ⟨h, st', h1, h2, view_of_built es n _ h4⟩

/-- … and when the peer pads the base64 of a binary entry, the receiver's view is the same:
decoding is indifferent to padding. -/
theorem C08_padding_indifferent (n b : Bytes) (pad : Bool) (hb : Spec.Metadata.isBinName n = true)
    (hwf : HMap.normName n = some n) :
    typedView .fixed [(n, B64.encode pad b)] = [(Enc.binary, n, some b)] := by
  have he := iterEnc_of_lower .fixed (lower_of_normName hwf)
  rw [iterEnc, hb] at he
  simp only [typedView, iter, List.map_cons, List.map_nil, he, if_true, valueToBytes, B64.decode_encode]

/-! ## the entry API (`entry`, `entry_bin`, `Entry`, `VacantEntry`, `OccupiedEntry`, `GetAll`) -/

/-- **No miscategorisation and no miscategorised storage through the entry API.** For *every*
sequence of operations (`insert`/`append`/`remove`/`get_all` and `entry`/`entry_bin` with any of
the five key forms, followed by any script of `Entry` / `VacantEntry` / `OccupiedEntry` calls,
including calls on the handle `insert_entry` returns) on *every* starting map:
(1) every key, value, iterator item and entry handle the API hands out is typed `Binary` iff the
stored name it belongs to ends in `-bin`, and every value written is written through a type of
the stored name's category and is restored by that category's `to_bytes` to the bytes it was
built from (`evOk`); (2) every entry of the resulting map either was in the starting map or was
written by such an operation — through the category of its name, decodable back to what the
caller gave.  Model of the tree with `insert_entry` repaired (`IE.fixed`). -/
theorem C08_entry_api_keeps_categories (ops : List MetaOps.Op) (m0 : HMap) :
    (∀ s ∈ run .fixed .fixed ops m0, ∀ ev ∈ s.1, Spec.Metadata.EntryApi.evOk ev = true) ∧
    (∀ e ∈ finalMap (run .fixed .fixed ops m0) m0, e ∈ m0 ∨
      ∃ s ∈ run .fixed .fixed ops m0, ∃ raw,
        MetaOps.Ev.wrote (Spec.Metadata.isBinName e.1) e.1 raw e.2 ∈ s.1 ∧
        MetaOps.decodeAs (Spec.Metadata.isBinName e.1) e.2 = some raw) := by
  obtain ⟨hok, hprov⟩ := run_sound ops m0
  refine ⟨hok, fun e he => ?_⟩
  rcases hprov e he with h | ⟨s, hs, b, raw, hw⟩
  · exact .inl h
  · -- the announcing event is itself in order: it has the category of the name and decodes
    have := hok s hs _ hw
    simp only [Spec.Metadata.EntryApi.evOk, Bool.and_eq_true, beq_iff_eq] at this
    obtain ⟨rfl, hd⟩ := this
    exact .inr ⟨s, hs, raw, hw, hd⟩

/-- the witness: `entry_bin("x-bin")` is vacant; `insert_entry(bytes 00 01 02)`; on the handle
returned: `get()`, then `append("not base64!")` -/
def insertEntryWitness : List MetaOps.Op :=
  [.entry true .str (HMap.name "x-bin")
    (.branch (.insertEntry [0, 1, 2]) [.get, .append (HMap.name "not base64!")])]

/-- **On the tree as found this fails**: `VacantEntry::<Binary>::insert_entry` returns an
`OccupiedEntry<'_, Ascii>`, so the binary entry `x-bin` is handed out typed ASCII (key and value),
and an ASCII value can be appended under the `-bin` name — the receiver's typed view then has a
binary entry that does not decode. -/
theorem C08_insert_entry_asis_fails :
    (¬ ∀ (ops : List MetaOps.Op) (m0 : HMap), ∀ s ∈ run .fixed .asis ops m0, ∀ ev ∈ s.1,
        Spec.Metadata.EntryApi.evOk ev = true) ∧
    (Enc.binary, HMap.name "x-bin", none) ∈ typedView .fixed (finalMap (run .fixed .asis insertEntryWitness []) []) :=
  ⟨fun h => absurd (h insertEntryWitness []) (by decide +kernel), by decide +kernel⟩

/-! ## every constructor and comparison of the typed API -/

/-- **Binary constructors.** `from_bytes`, `TryFrom<&[u8]>`, `TryFrom<Vec<u8>>` and
`TryFrom<Bytes>` all store the unpadded base64 of the bytes given, and `to_bytes` gives them
back; `from_static` keeps a valid base64 text as it is (and panics on anything else), and the
text decodes. -/
theorem C08_binary_constructors (c : Ctor) (src : Bytes) :
    (c ≠ .fromStatic → construct .binary c src = .ok (B64.encode false src) ∧
        valueToBytes .binary (B64.encode false src) = some src) ∧
    (c = .fromStatic → (construct .binary c src = .panic ∧ B64.decode src = none) ∨
        (construct .binary c src = .ok src ∧ (valueToBytes .binary src).isSome = true)) := by
  constructor
  · intro hc
    exact ⟨(construct_of_ne_static hc src).1, B64.decode_encode false src⟩
  · intro hc
    subst hc
    simp only [construct, valueToBytes]
    cases B64.decode src with
    | none => exact .inl ⟨rfl, rfl⟩
    | some d => exact .inr ⟨rfl, rfl⟩

/-- **ASCII constructors.** Every constructor (`TryFrom<&[u8] | Vec<u8> | Bytes | &str | String |
&String>`, `FromStr`, `from_static`) either rejects the input or stores it verbatim, `to_bytes`
returns it verbatim, and what is stored is a legal header value; the fallible ones accept exactly
the legal header values. -/
theorem C08_ascii_constructors (c : Ctor) (src w : Bytes) :
    (construct .ascii c src = .ok w → w = src ∧ HMap.legalValue src = true ∧ valueToBytes .ascii w = some src) ∧
    (c ≠ .fromStatic → (construct .ascii c src = .err ↔ HMap.legalValue src = false)) := by
  constructor
  · intro h
    by_cases hc : c = .fromStatic
    · subst hc
      simp only [construct] at h
      split at h <;> cases h
      rename_i hvis
      -- `from_static` demands visible ASCII, which is legal in a header value
      refine ⟨rfl, List.all_eq_true.2 fun b hb => ?_, rfl⟩
      have := List.all_eq_true.1 hvis b hb
      simp only [Ascii.isVisible, HMap.legalValueByte, Bool.or_eq_true, Bool.and_eq_true, decide_eq_true_eq,
        beq_iff_eq, bne_iff_ne, ne_eq] at this ⊢
      omega
    · rw [(construct_of_ne_static hc src).2] at h
      split at h <;> cases h
      exact ⟨rfl, ‹_›, rfl⟩
  · intro hc
    rw [(construct_of_ne_static hc src).2]
    by_cases hl : HMap.legalValue src = true <;> simp [hl]

/-- **Static keys.** `MetadataKey::<VE>::from_static` yields a key only for a string that is
already in stored form (no upper case) and whose `-bin` suffix matches `VE`; otherwise it
panics. -/
theorem C08_static_key_category (enc : Enc) (src n : Bytes) (h : keyFromStatic .fixed enc src = some n) :
    n = src ∧ MetaOps.staticName src = true ∧ ownCategory enc n = true := by
  unfold keyFromStatic nameFromStatic at h
  by_cases hs : MetaOps.staticName src = true
  · simp only [hs, if_true] at h
    split at h
    · rename_i hv
      cases h
      exact ⟨rfl, hs, (validKey_of_lower .fixed enc (lower_of_staticName hs)).symm.trans hv⟩
    · cases h
  · simp [hs] at h

/-- **Comparisons.** `PartialEq<str | [u8]>` of a binary value compares the *decoded* bytes;
of an ASCII value the stored bytes; and `Hash` is consistent with `Eq` for both. -/
theorem C08_comparisons (enc : Enc) (a b other : Bytes) :
    (∀ d, B64.decode a = some d → equalsBytes .binary a other = (d == other)) ∧
    equalsBytes .ascii a other = (a == other) ∧
    (valuesEqual enc a b = true → hashKey enc a = hashKey enc b) := by
  refine ⟨?_, rfl, ?_⟩
  · intro d hd; simp [equalsBytes, hd]
  · cases enc with
    | ascii => simp [valuesEqual, hashKey]
    | binary =>
      simp only [valuesEqual, hashKey]
      cases B64.decode a <;> cases B64.decode b <;> simp

/-! ## a status found in an error's `source()` chain -/

/-- **`Status::from_error` / `try_from_error` keep the metadata.** A status with any code,
message, details and metadata, passed boxed directly (`ds = []`) or as the innermost `source()`
under any number of wrapper errors, comes back with the same code, message and details and, for
every name `k`, the same values in the same order.  (All five clauses say one thing: the status
comes back as it was, `fromErrorChain (wrapN ds (.status st)) = st` — `Metadata.fromErrorChain_wrapN`.) -/
theorem C08_status_from_error_chain_keeps_metadata (st : St) (ds : List Bytes) :
    tryFromError (wrapN ds (.status st)) = some (fromErrorChain (wrapN ds (.status st))) ∧
    (fromErrorChain (wrapN ds (.status st))).code = st.code ∧
    (fromErrorChain (wrapN ds (.status st))).message = st.message ∧
    (fromErrorChain (wrapN ds (.status st))).details = st.details ∧
    ∀ k, HMap.getAll k (fromErrorChain (wrapN ds (.status st))).metadata = HMap.getAll k st.metadata := by
  rw [fromErrorChain_wrapN]
  exact ⟨tryFromError_wrapN st ds, rfl, rfl, rfl, fun _ => rfl⟩

/-- … and through `RecoverError`: when the inner service fails with such an error the
trailers-only response is the one `Status::into_http` builds for the original status, so it
carries, under every custom name, exactly the status' values in order. -/
theorem C08_recover_error_keeps_metadata (st : St) (ds : List Bytes) (k : Bytes)
    (hk : k ∉ Spec.Metadata.reserved) (hk2 : k ≠ Status.GRPC_STATUS_DETAILS) :
    ∃ h st', recoverError .fixed (wrapN ds (.status st)) = some (.ok h) ∧
      HMap.getAll k h = HMap.getAll k st.metadata ∧
      Status.fromHeaderMap .fixed h = some (.status st') ∧
      HMap.getAll k st'.metadata = HMap.getAll k st.metadata := by
  -- the trailers-only block is the response block of empty metadata
  have h0 : HMap.getAll k [(Status.CONTENT_TYPE, GRPC_CONTENT_TYPE)] = [] := (C08_preserved_response [] k hk).1
  obtain ⟨h, st', h1, h2, h3, h4⟩ := C08_preserved_status st [(Status.CONTENT_TYPE, GRPC_CONTENT_TYPE)] k hk hk2 h0
  refine ⟨h, st', ?_, h3, h2, h4⟩
  rw [recoverError, tryFromError_wrapN, Option.map_some, errorResponseWire, h1]

/-! ## `merge`, and the unary / client-streaming client: error after response headers -/

/-- The contract of `MetadataMap::merge`, wherever it is used (OK trailers into response headers,
response headers into an error status, request trailers into request headers — also for what a
peer that is not tonic sends): a name of `other` arrives with exactly `other`'s values in order,
every other name keeps its values; no name gains or loses anything else. -/
theorem C08_merge_contract (into other : HMap) (k : Bytes) :
    (HMap.hasKey k other = true → HMap.getAll k (merge into other) = HMap.getAll k other) ∧
    (HMap.hasKey k other = false → HMap.getAll k (merge into other) = HMap.getAll k into) := by
  rw [merge, HMap.getAll_extend]
  exact ⟨fun h => by rw [h]; rfl, fun h => by rw [h]; rfl⟩

/-- **Fails (finding C08-F1).** When a server sends response headers and then an error status in
the trailers, `client::Grpc::client_streaming` (unary calls too) merges the *headers over* the
status' metadata by replacement: a status entry whose name also occurs in the response headers
is lost.  Witness: headers `x-a: 1`, status metadata `x-a: 2` — the caller sees `x-a = [1]`. -/
theorem C08_unary_error_header_collision_fails :
    ¬ ∀ (respmd stmd : HMap) (k : Bytes), k ∉ Spec.Metadata.reserved →
        HMap.getAll k (clientUnaryErrorMetadata respmd stmd) = HMap.getAll k stmd := by
  intro h
  exact absurd (h [(HMap.name "x-a", [49])] [(HMap.name "x-a", [50])] (HMap.name "x-a")) (by decide +kernel)

/-- … and exactly then: under every custom name that does *not* occur in the response
metadata the caller sees the status' values unchanged (under the others, the response's). -/
theorem C08_unary_error_metadata_partial (respmd stmd : HMap) (k : Bytes) (hk : k ∉ Spec.Metadata.reserved) :
    (HMap.hasKey k respmd = false → HMap.getAll k (clientUnaryErrorMetadata respmd stmd) = HMap.getAll k stmd) ∧
    (HMap.hasKey k respmd = true → HMap.getAll k (clientUnaryErrorMetadata respmd stmd) = HMap.getAll k respmd) := by
  have hr := (C08_preserved_response respmd k hk).1
  have hm := C08_merge_contract stmd (responseWire respmd) k
  rw [hasKey_congr hr, hr] at hm
  exact ⟨hm.2, hm.1⟩

/-! ## OK trailers that carry metadata; `set_timeout` -/

/-- NOT true of the code (finding C08-F3, the success-path twin of C08-F1): a unary /
client-streaming client has ONE metadata map for the response headers and the trailers, and
`parts.merge(trailers)` replaces: a response-header entry whose name also occurs in the trailers
is lost.  Witness: headers `x-a: 1`, OK trailers `x-a: 2` — the caller sees `x-a = [2]`, not
`[1, 2]`. -/
theorem C08_unary_ok_trailer_collision_fails :
    ¬ ∀ (respmd tr : HMap) (k : Bytes), k ∉ Spec.Metadata.reserved →
        HMap.getAll k (clientUnaryOkMetadata respmd tr) = HMap.getAll k respmd ++ HMap.getAll k tr := by
  intro h
  exact absurd (h [(HMap.name "x-a", [49])] [(HMap.name "x-a", [50])] (HMap.name "x-a")) (by decide +kernel)

/-- … and exactly then: under every custom name that does not occur in the trailers the caller
sees the response's values unchanged, under every name of the trailers the trailers' values, in
order — so every trailer entry always arrives, and a response entry is lost only to a trailer
entry of the same name. -/
theorem C08_unary_ok_trailers_partial (respmd tr : HMap) (k : Bytes) (hk : k ∉ Spec.Metadata.reserved) :
    (HMap.hasKey k tr = false → HMap.getAll k (clientUnaryOkMetadata respmd tr) = HMap.getAll k respmd) ∧
    (HMap.hasKey k tr = true → HMap.getAll k (clientUnaryOkMetadata respmd tr) = HMap.getAll k tr) := by
  have hm := C08_merge_contract (responseWire respmd) tr k
  rw [(C08_preserved_response respmd k hk).1] at hm
  exact ⟨hm.2, hm.1⟩

/-- `Request::set_timeout` touches the name `grpc-timeout` only: every other name keeps its values,
whatever the duration and whatever the map (so calling it before or after attaching metadata, or
twice, loses no entry). -/
theorem C08_set_timeout_keeps_other_entries (value : Bytes) (md : HMap) (k : Bytes) (hk : k ≠ HMap.name "grpc-timeout") :
    HMap.getAll k (setTimeout value md) = HMap.getAll k md ∧
    HMap.getAll k (setTimeout value (setTimeout value md)) = HMap.getAll k md := by
  unfold setTimeout
  rw [HMap.getAll_insert_ne _ _ _ _ hk, HMap.getAll_insert_ne _ _ _ _ hk, HMap.getAll_insert_ne _ _ _ _ hk]
  exact ⟨rfl, rfl⟩

/-! ## non-vacuity -/

example : Spec.Metadata.isBinName (HMap.name "x-trace-bin") = true ∧ Spec.Metadata.isBinName (HMap.name "x-bin-x") = false ∧
    Spec.Metadata.isBinName (HMap.name "bin") = false := by
  repeat rw [HMap.name_lit]
  decide +kernel
example : HMap.normName (HMap.name "Foo-BIN") = some (HMap.name "foo-bin") ∧ HMap.normName (HMap.name "a b") = none := by
  repeat rw [HMap.name_lit]
  decide +kernel
/- a typed build with a repeated key, a binary value of length 1 (mod 3), a reserved name and a
rejected key; its request wire form -/
example :
    requestWire (buildTyped .fixed
      [(.ascii, HMap.name "X-A", [49]), (.binary, HMap.name "k-bin", [255]), (.ascii, HMap.name "te", [120]),
       (.ascii, HMap.name "x-a", [50]), (.ascii, HMap.name "k-bin", [51])]) =
    [(HMap.name "x-a", [49]), (HMap.name "k-bin", HMap.name "/w"), (HMap.name "x-a", [50]),
     (HMap.name "te", HMap.name "trailers"), (HMap.name "content-type", HMap.name "application/grpc")] := by decide +kernel
/- stored names are normalised; a custom name is absent from the blocks a status is written into -/
example : HMap.normName (HMap.name "x-a-bin") = some (HMap.name "x-a-bin") ∧
    HMap.getAll (HMap.name "x-a") [(Status.CONTENT_TYPE, GRPC_CONTENT_TYPE)] = [] ∧
    HMap.name "x-a" ≠ Status.GRPC_STATUS_DETAILS := by
  repeat rw [HMap.name_lit]
  decide +kernel
/- the pinned-tree witness, and what the repaired tree answers -/
example : get .orig .ascii (HMap.name "foo-BIN") [(HMap.name "foo-bin", HMap.name "AAEC")] = some (HMap.name "AAEC") ∧
    get .fixed .ascii (HMap.name "foo-BIN") [(HMap.name "foo-bin", HMap.name "AAEC")] = none ∧
    get .fixed .binary (HMap.name "foo-BIN") [(HMap.name "foo-bin", HMap.name "AAEC")] = some (HMap.name "AAEC") := by
  repeat rw [HMap.name_lit]
  decide +kernel
example : (HMap.name "x-a") ∉ Spec.Metadata.reserved ∧ (HMap.name "grpc-status") ∈ Spec.Metadata.reserved := by decide +kernel
/- the insert_entry witness on the repaired model: the handle is typed Binary, the raw bytes given to
`append` are base64-coded like any other binary value, and both values decode -/
example : typedView .fixed (finalMap (run .fixed .fixed insertEntryWitness []) []) =
    [(Enc.binary, HMap.name "x-bin", some [0, 1, 2]), (Enc.binary, HMap.name "x-bin", some (HMap.name "not base64!"))] := by decide +kernel
/- a status three wrappers deep -/
example : (fromErrorChain (wrapN [[97], [98], [99]] (.status
    { code := .notFound, message := [109], details := [1], metadata := [(HMap.name "x-a", [49]), (HMap.name "x-a", [50])] }))).metadata =
    [(HMap.name "x-a", [49]), (HMap.name "x-a", [50])] := by decide +kernel
/- an error without a status in its chain -/
example : tryFromError (.wrap [97] (.leaf [98])) = none ∧ (fromErrorChain (.wrap [97] (.leaf [98]))).message = [97] := by decide +kernel

end C08
