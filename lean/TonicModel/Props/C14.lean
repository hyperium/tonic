import TonicModel.Lemmas.ReconnectErr
import TonicModel.Lemmas.ReconnectStack
import TonicModel.Lemmas.ReconnectNet
import TonicModel.Lemmas.BalanceWitness
import TonicModel.Lemmas.BalanceSpec
import TonicModel.Lemmas.BalanceAcct
import TonicModel.Lemmas.ReconnectAbandon
/-
C14 — A channel always answers and recovers when the peer comes back.
Property theorems only; the lemmas are in `Lemmas/Reconnect*.lean` and `Lemmas/Balance*.lean`.

Reading guide.  `Reconnect.pollReady` / `Reconnect.call` model `Reconnect::poll_ready` / `call`;
the environment is a script `List Ans` of unbounded length (every theorem below is for all
scripts, by induction).  `serve` is one request going through the buffer worker, `session` is any
number of them (`serveX`, `sessionX` with deadlines and calls dying in flight); `ErrClass` is
`Status::from_error` over a source chain; `E2E.run` is a whole fault script over {attempt refused,
served, peer gone before the handshake, connect timeout} × {call, peer drops the connection} on a
lazy or eager channel, `Net.run` the same against a listening socket that comes and goes,
`Abandon.run` with calls the application gives up, `Balance.run` a channel over several endpoints.
`Spec.Reconnect.*`, `Spec.ReconnectAbandon.*`, `Spec.Balance.*` are the oracles written from the
property text; they never mention the state machine.
-/
namespace C14
open ConnScript Reconnect
open Spec.Reconnect (failures reported)

/-! ## never a panic -/

/-- Whenever `poll_ready` says ready, the `call` that follows does not hit the
`panic!("service not ready")` branch — from any state whatsoever and for any environment. -/
theorem C14_call_never_panics (r : R) (env : List Ans)
    (h : (pollReady r env).2.2 = .ready) : (call (pollReady r env).1).2 ≠ .panic :=
  call_of_callable (pollReady_ready h)

/-- `drive` (what the `tower` `Ready` future and the buffer worker do) is exactly "call
`poll_ready` again while it returned `Pending` and the environment still has something to say";
so everything proved about `drive`/`serve` below is about repeated `poll_ready`. -/
theorem C14_drive_is_repeated_poll_ready (r : R) (env : List Ans) :
    drive r env =
      if (pollReady r env).2.2 = .pending ∧ (pollReady r env).2.1 ≠ [] then
        drive (pollReady r env).1 (pollReady r env).2.1
      else pollReady r env := by
  unfold drive pollReady
  by_cases he : r.error.isSome = true
  · simp [he]
  · simp only [he]
    rw [driveLoop_repolls r env]
    by_cases hp : (loop r env).2.2 = .pending ∧ (loop r env).2.1 ≠ []
    · -- a poll that returned Pending stored no error
      obtain ⟨_, _, hend⟩ := loop_spec r env (Option.not_isSome_iff_eq_none.1 he)
      rw [hp.1] at hend
      simp [hp, hend.1]
    · simp [hp]

/-- Results do not depend on the readiness pattern: removing every `Pending` answer from the
script (`strip`) changes neither the result of any call of a session of any length nor the final
state — `Pending` only delays. (This is what lets the end-to-end model ignore connector and
handshake latency.) -/
theorem C14_pending_irrelevant (r : R) (env : List Ans) (n : Nat) :
    (session r (strip env) n).1 = (session r env n).1 ∧
    (session r (strip env) n).2.1 = (session r env n).2.1 := by
  induction n generalizing r env with
  | zero => exact ⟨rfl, rfl⟩
  | succ n ih =>
    unfold session
    rw [serve_strip]
    rcases serve r env with ⟨r', env', res⟩
    cases res with
    | closed e => exact ⟨rfl, rfl⟩
    | hang => exact ⟨rfl, rfl⟩
    | panic => exact ⟨rfl, rfl⟩
    | resp c => exact ⟨congrArg (Res.resp c :: ·) (ih r' env').1, (ih r' env').2⟩
    | err e => exact ⟨congrArg (Res.err e :: ·) (ih r' env').1, (ih r' env').2⟩

/-! ## every call gets a definite result -/

/-- One request through the worker, from any state the service can be in while it is still in use
(`spent` only arises after `poll_ready` returned an error, after which `tower` services must not
be used): the result is never a panic, and the request is left waiting only if the environment
itself went silent (the whole script was consumed without an answer). Otherwise it is a response,
a connect error, or the channel-closing error. -/
theorem C14_definite_result (r : R) (env : List Ans) (hs : r.st ≠ .spent) :
    (serve r env).2.2 ≠ .panic ∧ ((serve r env).2.2 = .hang → (serve r env).2.1 = []) := by
  cases he : r.error with
  | some e => rw [serve_stored_error r e env he]; exact ⟨nofun, nofun⟩
  | none =>
    obtain ⟨_, _, h⟩ := serve_spec r env he
    constructor
    · intro hp; rw [hp] at h; exact hs h
    · intro hh; rw [hh] at h; exact h

/-- Over a whole session of any length on any script, from any state in use with no stored error
(a freshly built lazy channel, an eager one that connected, or any state in between calls): no
call panics; a call is left waiting only if the script is exhausted; and the channel closes only
through a failure that happened (`poll_ready` itself failing — a connector whose own `poll_ready`
errors, outside the property's fault alphabet). -/
theorem C14_session_definite (r : R) (env : List Ans) (n : Nat) (he : r.error = none)
    (hs : r.st ≠ .spent) :
    Res.panic ∉ (session r env n).1 ∧
    (Res.hang ∈ (session r env n).1 → (session r env n).2.2 = []) ∧
    (∀ e, Res.closed e ∈ (session r env n).1 → e ∈ failures env) :=
  have h := (session_spec n r env hs).2
  ⟨h _, h _, fun _ => h _⟩

/-! ## an eager channel reports an initial failure immediately; a lazy one hands it to the first call -/

/-- Eager channel whose first attempt fails — after any number `p`, `q` of `Pending`s from the
connector and from the connect future —: building the channel returns that very error, exactly
one attempt was made (no hidden retry) and nothing after the failure was consumed. -/
theorem C14_eager_initial_failure (p q e : Nat) (rest : List Ans) :
    connectEager (List.replicate p .pending ++ .ok :: (List.replicate q .pending ++ .err e :: rest)) =
      ({ R.init false with st := .spent, made := 1 }, rest, .failed e) := by
  rw [connectEager, drive_of_none rfl, driveLoop_attempt_fails _ p q e rest rfl]
  rfl

/-- Lazy channel, same script: the first call gets that error, after one attempt, and the state
left behind is `Idle` with no stored error — the next call starts a fresh attempt. -/
theorem C14_lazy_initial_failure (p q e : Nat) (rest : List Ans) :
    serve (R.init true) (List.replicate p .pending ++ .ok :: (List.replicate q .pending ++ .err e :: rest)) =
      ({ R.init true with made := 1 }, rest, .err e) := by
  unfold serve
  rw [drive_of_none rfl, driveLoop_attempt_fails _ p q e rest rfl]
  rfl

/-! ## a failure is reported once, to the call that triggered the attempt -/

/-- `Good`: a stored error always sits in the `Idle` state. It holds initially and after any
sequence whatsoever of `poll_ready` / `call` on any script. -/
theorem C14_invariant (l : Bool) (env : List Ans) (ops : List UOp) :
    Good (runOps (R.init l) env ops).2.1 :=
  runOps_good _ env ops (good_init l)

/-- The stored error is consumed by exactly the next call: that call returns it, and afterwards
the state is `Idle` with no error, so the following `poll_ready` starts a new attempt. -/
theorem C14_error_reported_once (r : R) (e : Nat) (hg : Good r) (he : r.error = some e) :
    (call r).2 = .error e ∧ (call r).1.error = none ∧ (call r).1.st = .idle := by
  have hst : r.st = .idle := hg (by simp [he])
  simp [call, he, hst]

/-- No replay, for ANY use of the two entry points on any script (not only the disciplined one):
the connect errors handed to calls, in order, form a subsequence of the failures that happened —
each failure is handed out at most once and never out of order. -/
theorem C14_no_replay (l : Bool) (env : List Ans) (ops : List UOp) :
    (handed (runOps (R.init l) env ops).1).Sublist (failures env) :=
  runOps_handed_sublist (R.init l) env ops

/-- The same through the buffer worker, for any number of calls. -/
theorem C14_no_replay_session (l : Bool) (env : List Ans) (n : Nat) :
    (reported (session (R.init l) env n).1).Sublist (failures env) :=
  (session_spec n (R.init l) env nofun).1

/-- The error a call receives was produced while that very call was waiting for readiness: it is
one of the failures in the part of the script consumed by this `serve` (so it belongs to an
attempt this call triggered or was waiting on), and the call leaves no error behind for later
calls. -/
theorem C14_error_belongs_to_triggering_call (r : R) (env : List Ans) (he : r.error = none)
    (e : Nat) (h : (serve r env).2.2 = .err e) :
    ∃ used, env = used ++ (serve r env).2.1 ∧ e ∈ failures used ∧ (serve r env).1.error = none := by
  obtain ⟨used, h1, h2⟩ := serve_spec r env he
  rw [h] at h2
  exact ⟨used, h1, h2.1, h2.2.1⟩

/-! ## recovery without rebuilding the channel -/

/-- Once nothing fails any more (`Quiet`: every remaining answer is `Ready(Ok)` or `Pending`) and
the environment answers at least as often as the state machine needs (3 from `Idle`), the next
call is served — by the established connection if there is one, else by a new one — whatever
happened before, from any state still in use. -/
theorem C14_recovers (r : R) (env : List Ans) (he : r.error = none) (hs : r.st ≠ .spent)
    (hq : Quiet env) (hn : need r ≤ countOk env) :
    (serve r env).2.2 = .resp (target r) := by
  obtain ⟨h1, h2, h3⟩ := driveLoop_quiet env r he hs hq hn
  unfold serve
  rw [drive_of_none he]
  generalize driveLoop r env = out at h1 h2 h3
  obtain ⟨r1, env1, p⟩ := out
  dsimp only at h1 h2 h3
  subst h1
  simp [call, h3, h2]

/-- If a connect error is stored, exactly the next call gets it and the one after is served. -/
theorem C14_recovers_after_reported_error (r : R) (e : Nat) (env : List Ans) (hg : Good r)
    (he : r.error = some e) (hq : Quiet env) (hn : 3 ≤ countOk env) :
    (serve r env).2.2 = .err e ∧ (serve r env).2.1 = env ∧
    (serve (serve r env).1 env).2.2 = .resp (r.made + 1) := by
  have hst : r.st = .idle := hg (by simp [he])
  rw [serve_stored_error r e env he]
  refine ⟨rfl, rfl, ?_⟩
  have := C14_recovers { r with error := none } env rfl (by simp [hst]) hq (by simpa [need, hst] using hn)
  simpa [target, hst] using this

/-- The peer dropped the established connection (its `poll_ready` fails, after any number of
`Pending`s) and the endpoint is reachable: the call is served by a new connection; the death of
the old one is not reported to anyone. -/
theorem C14_recovers_after_peer_drop (r : R) (c x p : Nat) (env : List Ans) (he : r.error = none)
    (hst : r.st = .connected c) (hq : Quiet env) (hn : 3 ≤ countOk env) :
    (serve r (List.replicate p .pending ++ .err x :: env)).2.2 = .resp (r.made + 1) := by
  have hd : driveLoop r (List.replicate p .pending ++ .err x :: env) =
      driveLoop { r with hasBeen := true, st := .idle } env := by
    rw [driveLoop_pendings _ _ _ (by rw [hst]; nofun), driveLoop]
    simp [step, hst]
  rw [serve_congr he (r' := { r with hasBeen := true, st := .idle }) he hd]
  exact C14_recovers _ env he nofun hq hn

/-! ## deadlines and calls that die in flight

`stackCall` models the middleware `Connection::new` puts between the buffer worker and
`Reconnect` (`AddOrigin`, `UserAgent`, `GrpcTimeout`, the optional limit layers): each of them
calls its inner service unconditionally, and `GrpcTimeout`'s response future polls the inner
future before its own timer.  `serveD` / `serveX` / `sessionX` are `serve` / `session` for calls
that carry a zero effective deadline and/or are in flight when their connection dies. -/

/-- Whatever the deadline of a call — zero included — `Reconnect::call` runs exactly as for an
ordinary call: the middleware does not change what happens to the state machine, and a parked
connect error is taken by that very call and not left behind for a later one.
(Transcription lemma: it holds by unfolding the model's definition, so it pins the model's shape for
the correspondence run — its assurance about tonic is the tie, not this proof.) -/
theorem C14_deadline_call_takes_parked_error (r : R) (zero : Bool) :
    (stackCall r zero).1 = (call r).1 ∧
    ∀ e, r.error = some e → (stackCall r zero).2 = .error e ∧ (stackCall r zero).1.error = none :=
  ⟨stackCall_state r zero, fun e he => stackCall_parked r e zero he⟩

/-- One request with any deadline through the worker is the ordinary `serve` seen through the
deadline: same state afterwards, same part of the script consumed, and the only difference is
that a request that went out with a zero deadline ends as `expired` instead of answered.
(Transcription lemma: it holds by unfolding the model's definition, so it pins the model's shape for
the correspondence run — its assurance about tonic is the tie, not this proof.) -/
theorem C14_deadline_serve_is_serve (r : R) (env : List Ans) (zero : Bool) :
    serveD r env zero = ((serve r env).1, (serve r env).2.1, viewD zero (serve r env).2.2) :=
  serveD_eq r env zero

/-- `C14_definite_result` for calls of any kind (zero deadline or not, answered or dying in
flight), from any state in use: never a panic; left waiting only if the environment went silent. -/
theorem C14_definite_result_any_call (r : R) (env : List Ans) (cs : CallSpec) (hs : r.st ≠ .spent) :
    (serveX r env cs).2.2 ≠ .plain .panic ∧
    ((serveX r env cs).2.2 = .plain .hang → (serveX r env cs).2.1 = []) := by
  obtain ⟨_, h2, h3⟩ := serveX_eq r env cs
  obtain ⟨d1, d2⟩ := C14_definite_result r env hs
  refine ⟨fun h => d1 ?_, fun h => ?_⟩
  · rw [← h3, h]; rfl
  · rw [h2]; apply d2; rw [← h3, h]; rfl

/-- A session of calls of any kinds drives the state machine and consumes the script exactly like
the plain session of the same length (`toRes` forgets what became of a request once it was out):
what a call's deadline is, and whether its connection dies under it, has no influence on any
other call.
(Transcription lemma: it holds by unfolding the model's definition, so it pins the model's shape for
the correspondence run — its assurance about tonic is the tie, not this proof.) -/
theorem C14_session_any_calls_is_session (r : R) (env : List Ans) (specs : List CallSpec) :
    (sessionX r env specs).1.map XRes.toRes = (session r env specs.length).1 ∧
    (sessionX r env specs).2 = (session r env specs.length).2 :=
  sessionX_eq specs r env

/-- `C14_session_definite` for such sessions. -/
theorem C14_session_definite_any_calls (r : R) (env : List Ans) (specs : List CallSpec)
    (he : r.error = none) (hs : r.st ≠ .spent) :
    XRes.plain .panic ∉ (sessionX r env specs).1 ∧
    (XRes.plain .hang ∈ (sessionX r env specs).1 → (sessionX r env specs).2.2 = []) := by
  obtain ⟨h1, h2⟩ := sessionX_eq specs r env
  have f := (session_spec specs.length r env hs).2
  refine ⟨fun h => f .panic ?_, fun h => ?_⟩
  · rw [← h1]; exact List.mem_map.2 ⟨_, h, rfl⟩
  · rw [h2]; apply f .hang; rw [← h1]; exact List.mem_map.2 ⟨_, h, rfl⟩

/-- `C14_no_replay_session` for such sessions: the connect errors handed to calls still form a
subsequence of the failures that happened, and every in-flight error is delivered to the call it
struck and to no other (in order, a subsequence of the scripted fates) — neither kind of error is
replayed onto a later call. -/
theorem C14_no_replay_any_calls (l : Bool) (env : List Ans) (specs : List CallSpec) :
    (reportedX (sessionX (R.init l) env specs).1).Sublist (failures env) ∧
    (lostIds (sessionX (R.init l) env specs).1).Sublist (fateIds specs) := by
  refine ⟨?_, sessionX_lost_sublist specs _ _⟩
  unfold reportedX
  rw [(sessionX_eq specs (R.init l) env).1]
  exact (session_spec _ (R.init l) env nofun).1

/-- Two callers at the same moment on a channel with no connection (lazy and not yet connected,
or the connection was lost) whose next attempt fails with `e`: `tower::buffer` queues the two
requests and the worker handles each completely before the next, so the FIRST request gets `e` —
the failure of the attempt its own `poll_ready` ran — and the SECOND triggers a fresh attempt of
its own: it is served if that one succeeds, and gets that attempt's own failure `e2` (never `e`
again) if not. -/
theorem C14_concurrent_callers (r : R) (e e2 : Nat) (rest : List Ans) (he : r.error = none)
    (hst : r.st = .idle) (hl : (r.hasBeen || r.isLazy) = true) :
    (session r (.ok :: .err e :: .ok :: .ok :: .ok :: rest) 2).1 = [.err e, .resp (r.made + 2)] ∧
    (session r (.ok :: .err e :: .ok :: .err e2 :: rest) 2).1 = [.err e, .err e2] := by
  have h1 := serve_idle_fails r e (.ok :: .ok :: .ok :: rest) he hst hl
  have h1' := serve_idle_fails r e (.ok :: .err e2 :: rest) he hst hl
  have h2 := serve_idle_connects { r with st := .idle, made := r.made + 1 } rest he rfl
  have h3 := serve_idle_fails { r with st := .idle, made := r.made + 1 } e2 rest he rfl hl
  constructor
  · simp only [session, h1, h2]
  · simp only [session, h1', h3]

/-! ## the oracle holds of the model at the two lower levels too -/

/-- For every script, mode and number of calls, what the model does when driven like `Channel`
drives it (`ready_oneshot` if eager, then the buffer worker) satisfies every clause of the
flat-script oracle — the predicate the check evaluates on the real `Reconnect` behind a real
`tower::buffer::Buffer`. -/
theorem C14_session_spec (isLazy : Bool) (env : List Ans) (n : Nat) :
    (Spec.Reconnect.sessBuildClauses isLazy env (channelSession isLazy env n).1
        (channelSession isLazy env n).2.2.2.length ++
      Spec.Reconnect.sessClauses env (channelSession isLazy env n).2.1
        (channelSession isLazy env n).2.2.2.length).all (·.2) = true :=
  channelSession_spec isLazy env n

/-- For every script and every sequence of `poll_ready` / `call` (disciplined or not), what the
model does satisfies the single-operation oracle: a panic only outside `tower`'s `Service`
contract (a `call` not directly after a ready `poll_ready`, or any use after `poll_ready`
returned an error), ready means an error to hand out or a connection, a handed-out error is
cleared, and no error is replayed. -/
theorem C14_unit_spec (l : Bool) (env : List Ans) (ops : List UOp) :
    (Spec.Reconnect.unitClauses env ((runOps (R.init l) env ops).1.map toObs)).all (·.2) = true :=
  runOps_spec l env ops

/-! ## the whole property on end-to-end fault scripts -/

/-! ### the class of a connection failure: `Status::from_error` over the source chain

`ErrClass.fromError` models `Status::from_error(..).code()` on an error given as the list of nodes
that walking `source()` visits (`ErrChain.Node`: what `downcast_ref` can tell apart). -/

/-- `find_status_in_source_chain` looks through wrappers that mean nothing by themselves
(`transport::Error`, `io::Error`, TLS errors, any user error type): any number of them in front of
a chain does not change what is found. -/
theorem C14_class_wrappers_transparent (pre rest : List ErrChain.Node)
    (h : ∀ n ∈ pre, n.plain = true) :
    ErrClass.findInChain (pre ++ rest) = ErrClass.findInChain rest :=
  ErrClass.findInChain_plain_prefix pre rest h

/-- A `ConnectError` anywhere under such wrappers is classified UNAVAILABLE **whatever its cause
chain is** — any `io::ErrorKind`, a TLS error, a timeout, a boxed custom error, a nested `Status`
(of any code), `TimeoutExpired`, another `ConnectError`, a `hyper`/`h2` error: `cause` is an
arbitrary chain. -/
theorem C14_connect_error_unavailable_whatever_cause (pre cause : List ErrChain.Node)
    (h : ∀ n ∈ pre, n.plain = true) :
    ErrClass.fromError (pre ++ .connectError :: cause) = unavailable :=
  ErrClass.fromError_connect pre cause h

/-- Every error a failed connection attempt can produce on the fixed tree — `transport::Error`
around `MakeSendRequestService`'s `ConnectError` around (when the failure came from inside
`Connector::call`) that one's `ConnectError` around ANY cause — is UNAVAILABLE. -/
theorem C14_attempt_error_unavailable (inConnector : Bool) (cause : List ErrChain.Node) :
    ErrClass.fromError (ErrClass.attemptChain true inConnector cause) = unavailable :=
  ErrClass.fromError_attempt inConnector cause

/-- The other arms, for completeness of the model's reading of `from_error`: a `Status` under
plain wrappers keeps its code, `TimeoutExpired` is CANCELLED, nothing recognisable is UNKNOWN. -/
theorem C14_class_other_arms (pre rest : List ErrChain.Node) (c : Nat)
    (h : ∀ n ∈ pre, n.plain = true) :
    ErrClass.fromError (pre ++ .status c :: rest) = c ∧
    ErrClass.fromError (pre ++ .timeoutExpired :: rest) = 1 ∧
    ErrClass.fromError pre = 2 :=
  ⟨ErrClass.fromError_prefix pre _ h nofun, ErrClass.fromError_prefix pre _ h nofun,
    ErrClass.fromError_plain pre h⟩

/-- For every chain, what the model answers satisfies the oracle's class clause (the predicate
the check evaluates on the code the real `Status::from_error` returned): if the chain is that of
a connection failure (`Spec.Reconnect.isConnectFailure`), the code is UNAVAILABLE. -/
theorem C14_class_spec (chain : List ErrChain.Node) :
    (Spec.Reconnect.classClauses chain (ErrClass.fromError chain)).all (·.2) = true :=
  ErrClass.classClauses_hold chain

/-- Before fix commit 90f5808c (`attemptChain false`) the class of a failure raised
outside `Connector::call` depended on its cause: a connect timeout or a handshake failure (plain
causes) came out UNKNOWN. -/
theorem C14_attempt_error_unfixed_fails :
    ¬ (∀ (inConnector : Bool) (cause : List ErrChain.Node),
        ErrClass.fromError (ErrClass.attemptChain false inConnector cause) = unavailable) := by
  intro h
  have := h false [.io .timedOut]
  revert this
  decide +kernel

/-- Every way a connection attempt of the end-to-end scripts can fail (refused by the connector,
HTTP/2 handshake on a dead transport, connect timeout) is, through the classification above,
UNAVAILABLE (on the tree with fix commit 90f5808c). -/
theorem C14_connect_failures_are_unavailable (o : Outcome) :
    E2E.statusCode (E2E.classOf true o) = unavailable :=
  ErrClass.fromError_attempt (o = .refuse) (E2E.causeOf o)

/-- Headline: for EVERY fault script — any list of attempt outcomes, any list of calls and
peer-drops of any length, lazy or eager — what the model lets a caller observe satisfies every
clause of the oracle `Spec.Reconnect.clauses` (the same decidable predicate the check evaluates on
the real implementation's output): each call — ordinary, with a zero deadline (`callZero`), or in
flight when the peer drops the connection (`callDie`), or one of two issued at the same moment
(`pair`: explainable as two calls in queue order, so the two are never handed the failure of the
same attempt) — gets a definite result; an error is UNAVAILABLE, is
given only while no connection exists and the attempt this call triggered failed, and carries
that attempt's failure (never an older one); a call succeeds whenever a connection is up or the
endpoint is reachable again; an eager channel whose first attempt fails reports it from `connect`
after exactly one attempt. -/
theorem C14_e2e_spec (isLazy : Bool) (outs : List Outcome) (ops : List Op) :
    Spec.Reconnect.holds isLazy outs ops (E2E.run true isLazy outs ops) = true :=
  E2E.run_holds isLazy outs ops

/-- The standard entry points, `Endpoint::connect()` / `connect_lazy()`, against a real listening
socket that a script opens and closes (`NOp.up` / `NOp.down`; loopback TCP port or unix socket):
for EVERY script — any steps of the environment before the channel is built, any steps and calls
after — what the model lets a caller observe satisfies every clause of the network oracle
`Spec.Reconnect.netClauses`: each call gets a response from the server generation that is up (or
still holds the connection), or an UNAVAILABLE error only while no server listens and no
connection is left; the call after the server is back is served; and `Endpoint::connect()` with
no server listening fails at once with UNAVAILABLE instead of handing out a channel. -/
theorem C14_net_spec (isLazy : Bool) (pre post : List NOp) (hpre : ∀ op ∈ pre, op ≠ .call) :
    (Spec.Reconnect.netClauses isLazy pre post (Net.run isLazy pre post)).all (·.2) = true :=
  Net.run_holds isLazy pre post

/-- "an eagerly connected channel reports an initial failure immediately", for the standard entry
point: whatever happened before, if no server listens when `Endpoint::connect()` is called the
result is an UNAVAILABLE error and no channel (so no call can be issued on it). -/
theorem C14_net_eager_initial_failure (pre post : List NOp)
    (hdown : (pre.foldl Net.W.env { up := false, gen := 0, alive := none, aliveGen := 0 }).up = false) :
    Net.run false pre post = { build := .error unavailable, evs := [] } := by
  simp [Net.run, E2E.connectEager_answers, Net.world_connects, hdown, Net.refusedCode_eq]

/-- The tree before fix commit 90f5808c (`E2E.run false`) does NOT satisfy the property: a lazy channel whose first
attempt reaches a peer that is already gone (HTTP/2 handshake fails) hands the call an UNKNOWN
error instead of an UNAVAILABLE-class one. Same for a connect timeout. Witnesses are in the
harness corpus (`e2e L XS cc`, `e2e L TS cc`). -/
theorem C14_e2e_spec_unfixed_fails :
    ¬ (∀ (isLazy : Bool) (outs : List Outcome) (ops : List Op),
        Spec.Reconnect.holds isLazy outs ops (E2E.run false isLazy outs ops) = true) := by
  intro h
  have := h true [.deadPeer, .accept] [.call, .call]
  revert this
  decide +kernel

/-! ## calls the application abandons (harness kind `e2a`, finding C14-F1)

A caller may drop the future of a call that is still waiting for a connection attempt (its own
timeout around the call, a `select!`, a cancelled task). `tower::buffer`'s worker then forgets the
request without touching the service (`worker.rs::poll_next_msg`), so `Reconnect` stays in
`Connecting` with the attempt where it was; the NEXT request's `poll_ready` polls it on and gets
its outcome. `Abandon.run` is a whole script over {call, peer drops the connection, abandoned call};
`Spec.ReconnectAbandon` is the oracle written from the property text. -/

/-- What an abandoned call leaves behind: the worker, waiting for readiness on its behalf, has
started exactly one attempt (after noticing a dropped connection, if there was one) and is
`Pending` on it; nothing is stored, nothing panics. For every state with nothing connected. -/
theorem C14_abandoned_call_leaves_attempt_in_progress (r : R) (he : r.error = none) :
    (r.st = .idle → drive r [.ok] = ({ r with st := .connecting, made := r.made + 1 }, [], .pending)) ∧
    (∀ c x, r.st = .connected c →
      drive r [.err x, .ok] = ({ r with st := .connecting, made := r.made + 1, hasBeen := true }, [], .pending)) :=
  ⟨fun hs => drive_idle_starts r he hs, fun c x hs => drive_dead_starts r c x he hs⟩

/-- … and what the NEXT request gets when that attempt fails (the code as found; finding C14-F1):
the failure `e` of an attempt it did not make (`made` does not move) — whatever comes after in the
script, in particular although the endpoint is reachable again; the state machine is then idle with
nothing stored, so the request after that one makes a fresh attempt and is served
(`rest = ok, ok, ok, …`). For every lazy or once-connected `Reconnect` with an attempt in progress. -/
theorem C14_abandoned_attempt_failure_goes_to_next_call (r : R) (e : Nat) (rest : List Ans)
    (he : r.error = none) (hs : r.st = .connecting) (hl : (r.hasBeen || r.isLazy) = true) :
    serve r (.err e :: rest) = ({ r with st := .idle }, rest, .err e) ∧
    (serve r (.err e :: rest)).1.made = r.made ∧
    (serve (serve r (.err e :: .ok :: .ok :: .ok :: rest)).1 (serve r (.err e :: .ok :: .ok :: .ok :: rest)).2.1).2.2
      = .resp (r.made + 1) := by
  have h1 := serve_connecting_fails r e rest he hs hl
  have h2 := serve_connecting_fails r e (.ok :: .ok :: .ok :: rest) he hs hl
  refine ⟨h1, by rw [h1], ?_⟩
  rw [h2]
  have := serve_idle_connects { r with st := .idle } rest he rfl
  simp only at this
  rw [this]

/-- When the attempt of the abandoned call succeeds, the next request is served by that very
connection and no further attempt is made. -/
theorem C14_abandoned_attempt_connection_is_used (r : R) (rest : List Ans)
    (he : r.error = none) (hs : r.st = .connecting) :
    serve r (.ok :: .ok :: rest) = ({ r with st := .connected r.made, hasBeen := true }, rest, .resp r.made) :=
  serve_connecting_connects r rest he hs

/-- TARGET (the property as stated, false of the code as found — see `_fails` below): for every
script with abandoned calls the run satisfies every clause of the oracle.
PROVED INSTEAD, for EVERY script (any attempt outcomes, any sequence of calls, peer drops and
abandoned calls, lazy or eager): every clause holds except
`failure-reported-only-to-the-call-that-triggered-the-attempt` — definite results, UNAVAILABLE
class, responses only from live connections, success whenever the endpoint is reachable and no
failure of an abandoned attempt is outstanding, an abandoned call starts exactly one attempt, and
where the excepted clause fails the error handed out is exactly the abandoned attempt's own
failure, UNAVAILABLE, once (the companion clause). -/
theorem C14_abandon_spec_partial (isLazy : Bool) (outs : List Outcome) (ops : List AOp) :
    Spec.ReconnectAbandon.holdsButStrict isLazy outs ops (Abandon.run isLazy outs ops) = true :=
  Abandon.run_holdsButStrict isLazy outs ops

/-- The property as stated does NOT hold of the code as found: lazy channel, first attempt
refused, second would be accepted; the first call is abandoned while its attempt is in progress;
the second call — issued when the endpoint is reachable — is handed the first attempt's failure.
Witness in the harness corpus (`e2a L FS Ac`); known finding C14-F1. -/
theorem C14_abandon_spec_fails :
    ¬ (∀ (isLazy : Bool) (outs : List Outcome) (ops : List AOp),
        Spec.ReconnectAbandon.holdsA isLazy outs ops (Abandon.run isLazy outs ops) = true) := by
  intro h
  have := h true [.refuse, .accept] [.abandon, .call]
  revert this
  decide +kernel

/-- Scripts in which the attempt of every abandoned call succeeds are not affected: e.g. every
attempt accepted. (Instance; the general statement is the partial theorem plus the companion
clause, which ties a violation to a failed attempt.) -/
theorem C14_abandon_spec_holds_when_attempts_succeed :
    Spec.ReconnectAbandon.holdsA true [.accept, .accept, .accept] [.abandon, .die, .call, .die, .abandon, .call]
      (Abandon.run true [.accept, .accept, .accept] [.abandon, .die, .call, .die, .abandon, .call]) = true := by
  decide +kernel

/-! ## load-balanced channels (`Channel::balance_list`, `Channel::balance_channel`)

`Balance.call` is one request through the buffer worker and tower's p2c `Balance` over the
channel's endpoints, each endpoint being the lazy `Reconnect` of the sections above
(`Connection::lazy`, as `discover.rs` builds it) with its own loopback network (`Balance.EW`);
`Balance.Choice` is what the balancer's coin flips decide during that call; every theorem is for
EVERY choice.  `Balance.run` / `Balance.exec` run a whole script of calls, servers starting and
stopping, `Change::Insert` / `Change::Remove` (`BalScript.BOp`). -/

private theorem reach_lz (ops : List BalScript.BOp) (chs : List Balance.Choice) :
    (Balance.exec (Balance.B.init true) ops chs).lazyEps = true ∧
    ∀ e ∈ (Balance.exec (Balance.B.init true) ops chs).eps, Balance.Lz e :=
  Balance.exec_lz ops _ chs rfl (fun _ h => nomatch h)

private theorem reach_gd (ops : List BalScript.BOp) (chs : List Balance.Choice) :
    ∀ e ∈ (Balance.exec (Balance.B.init true) ops chs).eps, Balance.Gd e :=
  Balance.exec_gd ops _ chs (fun _ h => nomatch h)

/-- Every call on a balanced channel that has at least one endpoint completes with a result of
its own — a response, the UNAVAILABLE-class failure of one connection attempt, or (the call went
out on a connection whose peer was already gone) an error of that connection — never a hang and
never a panic: for every script of servers starting and stopping and endpoints inserted and
removed, for every sequence of choices of the balancer, and for EVERY call of the script — also
those issued after an earlier call hung on the then endpoint-less channel (`Balance.runAll` goes on
past a hang; `Balance.run`, what the harness observes, stops at the first one). -/
theorem C14_balanced_call_definite (ops : List BalScript.BOp) (chs : List Balance.Choice) :
    ∀ p ∈ Balance.runAll (Balance.B.init true) ops chs,
      (0 < p.1 → (∃ k g, p.2 = .resp k g) ∨ (∃ k x, p.2 = .err k x) ∨ (∃ k, p.2 = .lost k)) ∧
      (∀ code, p.2.obs = .error code → code = unavailable) := by
  intro p hp
  constructor
  · intro hm
    have := Balance.runAll_definite ops (Balance.B.init true) chs rfl (by intro e he; cases he) p hp hm
    cases h : p.2 with
    | resp k g => exact Or.inl ⟨k, g, rfl⟩
    | err k x => exact Or.inr (Or.inl ⟨k, x, rfl⟩)
    | lost k => exact Or.inr (Or.inr ⟨k, rfl⟩)
    | hang => rw [h] at this; cases this
    | panic => rw [h] at this; cases this
  · intro code hc
    cases h : p.2 <;> rw [h] at hc <;> simp [Balance.BRes.obs] at hc
    rw [← hc]; exact Net.refusedCode_eq

/-- `Balance.run` (the observation that ends at the first hang — what the correspondence run
compares with the real channel) is `Balance.runAll` cut there, so the statement above covers
every call `run` reports.  (Stated for `run` alone it would say nothing about the calls issued
after a hang.) -/
theorem C14_balanced_call_definite_observed_run (ops : List BalScript.BOp) (chs : List Balance.Choice) :
    Balance.run (Balance.B.init true) ops chs <+: Balance.runAll (Balance.B.init true) ops chs ∧
    ∀ p ∈ Balance.run (Balance.B.init true) ops chs,
      (0 < p.1 → (∃ k g, p.2 = .resp k g) ∨ (∃ k x, p.2 = .err k x) ∨ (∃ k, p.2 = .lost k)) ∧
      (∀ code, p.2.obs = .error code → code = unavailable) :=
  ⟨Balance.run_prefix_runAll ops _ chs,
   fun p hp => C14_balanced_call_definite ops chs p ((Balance.run_prefix_runAll ops _ chs).subset hp)⟩

/-- The same at state level: in EVERY state any script can lead to (hangs on the way included), a
call on a channel that has an endpoint gets a result of its own, whatever the balancer chooses. -/
theorem C14_balanced_call_definite_in_every_state (ops : List BalScript.BOp) (chs : List Balance.Choice)
    (ch : Balance.Choice) :
    let s := Balance.exec (Balance.B.init true) ops chs
    0 < Balance.members s.eps → (Balance.call s ch).2.definite = true := by
  intro s hm
  exact Balance.call_definite s ch (reach_lz ops chs).2 hm

/-- The one case in which a call on a balanced channel waits: the channel has NO endpoint (none
inserted yet, or all removed). `Balance::poll_ready` is then `Pending` until discovery delivers
one. (The property's "every call completes" is about channels that have an endpoint; see
`C14_balanced_call_definite`.) -/
theorem C14_balanced_no_endpoint_waits (s : Balance.B) (ch : Balance.Choice)
    (h : Balance.members s.eps = 0) : (Balance.call s ch).2 = .hang :=
  Balance.call_no_member s ch h

/-- "No fault script removes an endpoint from the set: only an explicit `Change::Remove` does."
In every state any script can lead to, a call (whatever the balancer chooses, whatever fails
during it) and a server starting or stopping leave the set of endpoints in the channel exactly
as it was; `Change::Insert(k)` / `Change::Remove(k)` put `k` in / take it out. -/
theorem C14_balanced_no_endpoint_lost (ops : List BalScript.BOp) (chs : List Balance.Choice)
    (ch : Balance.Choice) (k : Nat) :
    let s := Balance.exec (Balance.B.init true) ops chs
    Balance.memberKeys (Balance.call s ch).1.eps = Balance.memberKeys s.eps ∧
    Balance.memberKeys (Balance.env s (.up k)).eps = Balance.memberKeys s.eps ∧
    Balance.memberKeys (Balance.env s (.down k)).eps = Balance.memberKeys s.eps ∧
    k ∈ Balance.memberKeys (Balance.env s (.insert k)).eps ∧
    k ∉ Balance.memberKeys (Balance.env s (.remove k)).eps := by
  intro s
  have hl := (reach_lz ops chs).2
  exact ⟨Balance.call_memberKeys s ch hl, Balance.env_up_memberKeys s k, Balance.env_down_memberKeys s k,
    Balance.env_insert_memberKeys s k, Balance.env_remove_memberKeys s k⟩

/-- Recovery, with the exact bound. Take any state a script can lead to in which every endpoint
of the channel is reachable (its server listens), and let nothing but calls happen from then on.
Each endpoint holds at most one failure no call has been told about yet (a parked connect error,
a refused attempt still in flight, an attempt accepted by a server that has gone since);
`Balance.debt` counts them. Then, whatever the balancer chooses: every further call completes,
and the calls that end in an error instead of a response are at most `debt` many — in total, not
just in a row — and `debt` is at most the number of endpoints. So a call succeeds after at most
`debt ≤ n` further calls, and from then on every call does once the debt is used up. -/
theorem C14_balanced_recovers (ops : List BalScript.BOp) (chs more : List Balance.Choice) :
    let s := Balance.exec (Balance.B.init true) ops chs
    (∀ e ∈ s.eps, e.member = true → e.w.up = true) → 0 < Balance.members s.eps →
      (∀ r ∈ Balance.calls s more, r.definite = true) ∧
      ((Balance.calls s more).filter Balance.BRes.errored).length ≤ Balance.debt s.eps ∧
      Balance.debt s.eps ≤ Balance.members s.eps := by
  intro s hup hm
  have hl := (reach_lz ops chs).2
  have hg := reach_gd ops chs
  exact ⟨Balance.calls_definite more s hl hm,
    Balance.calls_debt more s (fun e he => ⟨hup e he, hg e he⟩), Balance.debt_le_members s.eps⟩

/-- The bound is `n - 1` at any moment after a call that was served: the endpoint that served the
last call holds no failure. For a channel over ONE endpoint that is the property as stated: once
the endpoint is reachable again, the next call succeeds. -/
theorem C14_balanced_recovers_bound (ops : List BalScript.BOp) (chs : List Balance.Choice)
    (ch : Balance.Choice) :
    let s := Balance.exec (Balance.B.init true) ops chs
    (Balance.call s ch).2 ≠ .hang →
      Balance.debt (Balance.call s ch).1.eps + 1 ≤ Balance.members (Balance.call s ch).1.eps := by
  intro s h
  exact Balance.call_slack s ch (reach_gd ops chs) h

/-- The script's own steps do not add to what an endpoint holds unless its server is stopped:
a server that starts leaves the debt as it is. (Together with `C14_balanced_recovers_bound`: one
endpoint, server back up, next call served.) -/
theorem C14_balanced_single_endpoint_recovers (ops : List BalScript.BOp) (chs : List Balance.Choice)
    (ch ch' : Balance.Choice) (k : Nat) :
    let s := Balance.exec (Balance.B.init true) ops chs
    let s' := Balance.env (Balance.call s ch).1 (.up k)
    (Balance.call s ch).2 ≠ .hang → Balance.members s.eps = 1 →
    (∀ e ∈ s'.eps, e.member = true → e.w.up = true) →
      ∃ k' g, (Balance.call s' ch').2 = .resp k' g := by
  intro s s' hh hone hup
  have hlz := (reach_lz ops chs).1
  have hl := (reach_lz ops chs).2
  have hg := reach_gd ops chs
  have hl1 := Balance.call_lz s ch hl
  have hg1 := Balance.pw_gd (Balance.call_pw s ch) hg
  have hm1 : Balance.members (Balance.call s ch).1.eps = 1 := by
    rw [Balance.pw_members (Balance.call_pw s ch) hl]; exact hone
  have hd1 : Balance.debt (Balance.call s ch).1.eps = 0 := by
    have := Balance.call_slack s ch hg hh
    omega
  have hl' : ∀ e ∈ s'.eps, Balance.Lz e :=
    Balance.env_lz _ _ (by rw [Balance.call_lazyEps]; exact hlz) hl1
  have hg' : ∀ e ∈ s'.eps, Balance.Gd e := Balance.env_gd _ _ hg1
  have hm' : Balance.members s'.eps = 1 := by
    rw [Balance.members_table, ← List.length_map (f := fun p : Nat × Bool => p.1)]
    have := Balance.env_up_memberKeys (Balance.call s ch).1 k
    rw [Balance.memberKeys_table, Balance.memberKeys_table] at this
    rw [this, List.length_map, ← Balance.members_table]; exact hm1
  have hd' : Balance.debt s'.eps = 0 := by
    have := Balance.env_up_debt (Balance.call s ch).1 k
    show Balance.debt (Balance.env (Balance.call s ch).1 (.up k)).eps = 0
    omega
  have hdef := Balance.call_definite s' ch' hl' (by omega)
  have hdebt := (Balance.call_debt s' ch' (fun e he => ⟨hup e he, hg' e he⟩)).1
  cases h : (Balance.call s' ch').2 with
  | resp k' g => exact ⟨k', g, rfl⟩
  | err k x => rw [h] at hdebt; simp [Balance.BRes.errored] at hdebt; omega
  | lost k => rw [h] at hdebt; simp [Balance.BRes.errored] at hdebt; omega
  | hang => rw [h] at hdef; cases hdef
  | panic => rw [h] at hdef; cases hdef

/-- Recovery, per endpoint — what "once the endpoint is reachable again the next call succeeds"
comes to on a balanced channel when only SOME endpoint is reachable. Take any state a script can
lead to in which endpoint `k`'s server listens, and let nothing but calls happen. Whatever the
other endpoints do (down for good, or not) and whatever the balancer draws: at most ONE further
call gets an error that came from `k` (the stale failure `k` may still hold from the time it was
down); every other call the balancer gives to `k` is served. So a call succeeds as soon as the
balancer draws `k` for the second time — how soon that is, is the balancer's coin
(`C14_balanced_recovers_one_reachable_fails`). -/
theorem C14_balanced_endpoint_recovers (ops : List BalScript.BOp) (chs more : List Balance.Choice) (k : Nat) :
    let s := Balance.exec (Balance.B.init true) ops chs
    (∀ e ∈ s.eps, e.key = k → e.member = true → e.w.up = true) →
      ((Balance.calls s more).filter (Balance.BRes.errorOf k)).length ≤ 1 := by
  intro s hup
  have hg := reach_gd ops chs
  have hn := Balance.exec_keys_nodup ops (Balance.B.init true) chs (by simp [Balance.B.init])
  exact Nat.le_trans (Balance.calls_errors_of k more s (fun e he => ⟨hup e he, hg e he⟩))
    (Balance.potK_total_le_one k s.eps hn)

/-- What does NOT hold, and why the bound above asks for every endpoint to be reachable: with only
SOME endpoint reachable there is no number of calls after which one must succeed. Three endpoints,
endpoint 0 up and connected, 1 and 2 down: each dead endpoint is back in the ready set — holding
the parked failure of its latest attempt, which the call that draws it gets — every other call, so
a balancer that keeps drawing 1 and 2 in turn fails every call for ever (`Balance.starved_step`:
two calls later the channel is where it was). tower's p2c draws at random among the ready
endpoints (`Connection::load` is constant), so in the real channel this run has probability 0 —
but every finite prefix of it has positive probability: the guarantee is per endpoint and per
choice, not a bound on calls. -/
theorem C14_balanced_recovers_one_reachable_fails :
    ¬ ∃ K : Nat, ∀ (ops : List BalScript.BOp) (chs more : List Balance.Choice), more.length = K + 1 →
        (∃ e ∈ (Balance.exec (Balance.B.init true) ops chs).eps, e.member = true ∧ e.w.up = true) →
        ∃ r ∈ Balance.calls (Balance.exec (Balance.B.init true) ops chs) more, r.errored = false := by
  rintro ⟨K, h⟩
  obtain ⟨r, hr, he⟩ := h Balance.starveOps Balance.starveChs ((Balance.alt (K + 1)).take (K + 1))
    (by rw [List.length_take, Balance.alt_length]; omega)
    (by rw [Balance.starved_reachable]; exact ⟨_, List.mem_cons_self, rfl, rfl⟩)
  rw [Balance.starved_reachable, Balance.calls_take] at hr
  have := Balance.starved_forever (K + 1) 2 r (List.mem_of_mem_take hr)
  rw [this] at he
  cases he

/-- The counter-model (seed C14e): were the endpoint connections of a balanced channel NOT lazy
(`Reconnect::new(.., is_lazy = false)`, `Balance.B.init false`), a failing first attempt would
come out of `poll_ready` as an error, tower's `Balance` would drop the endpoint, and nothing would
re-insert it: one endpoint, nothing listening — the first call hangs and the endpoint is gone
although no `Change::Remove` was sent (`C14_balanced_no_endpoint_lost` fails), and the call after
the server has started hangs as well (`C14_balanced_call_definite` and recovery fail), whatever
the balancer chooses. Witness in the harness corpus: `bal list 0 bccu0cc`. -/
theorem C14_balanced_no_endpoint_lost_eager_fails (ch ch' : Balance.Choice) :
    let s := Balance.env (Balance.B.init false) (.insert 0)
    Balance.memberKeys s.eps = [0] ∧
    (Balance.call s ch).2 = .hang ∧
    Balance.memberKeys (Balance.call s ch).1.eps = [] ∧
    (Balance.call (Balance.env (Balance.call s ch).1 (.up 0)) ch').2 = .hang := by
  intro s
  obtain ⟨h1, h2⟩ := Balance.eager_first_call ch
  refine ⟨by decide, h1, h2, ?_⟩
  apply Balance.call_no_member
  have := Balance.env_up_memberKeys (Balance.call s ch).1 0
  rw [h2] at this
  simpa [Balance.members, Balance.memberKeys] using this

/-- The model against the oracle, for balanced channels: for EVERY script of calls, servers
starting and stopping, `Change::Insert` / `Change::Remove`, and for EVERY sequence of choices of
the balancer, what the model lets the callers observe satisfies every clause of
`Spec.Balance.clauses` — each call gets a result of its own (a hang only on a channel with no
endpoint), an error is UNAVAILABLE-class and is given only while some endpoint of the channel
owes a failure (it was unreachable at the time of a call, or its server was stopped, and it has
neither answered nor been the only one owing when an error was handed out since — so a failure is
not replayed), a response comes from a listening endpoint of the channel and from its current
server generation, an error that is not a connect error only after a server of the channel was
stopped, and with every endpoint reachable and none owing the call succeeds.
First conjunct: the observation that ENDS AT THE FIRST HANG (`Balance.run` / `Spec.Balance.holds`:
the oracle evaluated on what the real channel did, case by case, by `./check C14` — the harness
cannot go on after a real hang).  Second conjunct: the observation carried on past every hang
(`Balance.runAll` / `Spec.Balance.holdsAll`, same clauses per call), so that every call of the
script is judged — model only; the calls after a hang are not tied to the real channel. -/
theorem C14_balanced_spec (ops : List BalScript.BOp) (chs : List Balance.Choice) :
    Spec.Balance.holds ops ((Balance.run (Balance.B.init true) ops chs).map fun p => p.2.obs) = true ∧
    Spec.Balance.holdsAll ops ((Balance.runAll (Balance.B.init true) ops chs).map fun p => p.2.obs) = true :=
  ⟨Balance.run_spec_init ops chs, Balance.runAll_spec_init ops chs⟩

/-- … and the counter-model with non-lazy endpoint connections (seed C14e) does not: the oracle
rejects its run on the one-endpoint witness (`definite-result`). -/
theorem C14_balanced_spec_eager_fails :
    ¬ (∀ (ops : List BalScript.BOp) (chs : List Balance.Choice),
        Spec.Balance.holds ops ((Balance.run (Balance.B.init false) ops chs).map fun p => p.2.obs) = true) := by
  intro h
  have := h [.insert 0, .call, .up 0, .call] []
  revert this
  decide +kernel

/-! ## non-vacuity -/

-- hypotheses of `C14_recovers` are satisfiable from every state in use, with Pendings interleaved
example : Quiet [.pending, .ok, .pending, .ok, .ok] ∧ need (R.init true) ≤ countOk [.pending, .ok, .pending, .ok, .ok] := by
  refine ⟨?_, by decide⟩
  simp [Quiet]
example : (serve (R.init true) [.pending, .ok, .pending, .ok, .ok]).2.2 = .resp 1 := by decide +kernel
-- a stored error while lazy, then recovery; the failure is not replayed
example : (session (R.init true) [.ok, .err 7, .ok, .ok, .ok, .ok] 3).1 = [.err 7, .resp 2, .resp 2] := by decide +kernel
-- eager channel: connection dies, reconnect fails, error goes to one call, next one recovers
example : (session { R.init false with st := .connected 1, hasBeen := true, made := 1 }
    [.err 0, .ok, .err 9, .ok, .ok, .ok, .ok] 3).1 = [.err 9, .resp 3, .resp 3] := by decide +kernel
-- the `Good` hypothesis of `C14_error_reported_once` is met by a reachable state with an error
example : (pollReady (R.init true) [.ok, .err 4]).1.error = some 4 ∧ Good (pollReady (R.init true) [.ok, .err 4]).1 := by
  refine ⟨by decide, ?_⟩
  intro _; decide
-- the oracle is not trivially true: it rejects a replayed error and a hang
example : Spec.Reconnect.holds true [.refuse, .accept] [.call, .call]
    { build := .ok, buildAttempts := 0,
      evs := [.call (.error 14 (some 1)) 1, .call (.error 14 (some 1)) 1] } = false := by decide +kernel
example : Spec.Reconnect.holds true [.accept] [.call]
    { build := .ok, buildAttempts := 0, evs := [.call .hang 0] } = false := by decide +kernel
example : Spec.Reconnect.holds false [.refuse] [.call]
    { build := .ok, buildAttempts := 1, evs := [.call (.error 14 (some 1)) 1] } = false := by decide +kernel
-- and accepts what the model does on a long mixed script
example : Spec.Reconnect.holds false [.accept, .refuse, .timeout, .deadPeer, .accept]
    [.call, .die, .call, .call, .die, .call, .call]
    (E2E.run true false [.accept, .refuse, .timeout, .deadPeer, .accept]
      [.call, .die, .call, .call, .die, .call, .call]) = true := by decide +kernel

-- the classification hypotheses are met by the chains the code really builds, with nasty causes
example : ∀ n ∈ [ErrChain.Node.transport, .custom 3, .io .other], n.plain = true := by decide +kernel
example : ErrClass.fromError [.transport, .connectError, .connectError, .io .notFound] = 14 := by decide +kernel
example : ErrClass.fromError [.transport, .connectError, .custom 1, .status 5] = 14 := by decide +kernel
example : ErrClass.fromError [.transport, .connectError, .timeoutExpired] = 14 := by decide +kernel
-- and the model does tell classes apart where the code does
example : ErrClass.fromError [.custom 1, .status 5] = 5 := by decide +kernel
example : ErrClass.fromError [.transport, .hyper ⟨false, false⟩, .h2 (some 7)] = 14 := by decide +kernel
example : ErrClass.fromError [.transport, .hyper ⟨false, false⟩, .io .brokenPipe] = 2 := by decide +kernel
example : ErrClass.fromError [.h2 (some 8)] = 1 ∧ ErrClass.fromError [.custom 0, .h2 (some 8)] = 2 := by decide +kernel
-- the oracle's class clause rejects NOT_FOUND for a connect error caused by io NotFound
example : (Spec.Reconnect.classClauses [.transport, .connectError, .io .notFound] 5).all (·.2) = false := by decide +kernel

-- a zero-deadline call on a lazy channel whose attempt fails takes the connect error itself …
example : (serveD (R.init true) [.ok, .err 7, .ok, .ok, .ok] true).2.2 = .plain (.err 7) := by decide +kernel
-- … so the next, ordinary call starts a fresh attempt and is served
example : (sessionX (R.init true) [.ok, .err 7, .ok, .ok, .ok] [⟨true, .answered⟩, ⟨false, .answered⟩]).1
    = [.plain (.err 7), .plain (.resp 2)] := by decide +kernel
-- a call dies in flight, the next one (old connection reports closed, reconnect works) is served
example : (sessionX (R.init true) [.ok, .ok, .ok, .err 0, .ok, .ok, .ok] [⟨false, .dies 5⟩, ⟨false, .answered⟩]).1
    = [.lost 1 5, .plain (.resp 2)] := by decide +kernel
-- end to end: zero deadline while the attempt fails, then the peer is back
example : Spec.Reconnect.holds true [.refuse, .accept] [.callZero, .call]
    (E2E.run true true [.refuse, .accept] [.callZero, .call]) = true := by decide +kernel
-- the oracle rejects what a fail-fast deadline check in front of `Reconnect::call` would produce:
-- the zero-deadline call reports its deadline although no connection exists, and the parked
-- error goes to the next call without any new attempt
example : Spec.Reconnect.holds true [.refuse, .accept] [.callZero, .call]
    { build := .ok, buildAttempts := 0,
      evs := [.call .expired 1, .call (.error 14 (some 1)) 1] } = false := by decide +kernel
example : Spec.Reconnect.holds true [.accept, .accept] [.callDie, .call]
    (E2E.run true true [.accept, .accept] [.callDie, .call]) = true := by decide +kernel

-- a server that is started later, stopped, and started again, seen from a lazy channel
example : Net.run true [] [.call, .up, .call, .down, .call, .up, .call] =
    { build := .ok, evs := [.error 14, .resp 1, .error 14, .resp 2] } := by decide +kernel
-- the network oracle rejects a channel handed out by an eager connect to a dead port
example : (Spec.Reconnect.netClauses false [] [.call] { build := .ok, evs := [.error 14] }).all (·.2) = false := by
  decide +kernel

-- two callers at once on a lazy channel whose first attempt fails and whose second succeeds: the
-- first gets the failure of the attempt it triggered, the second is served by its own attempt
example : E2E.run true true [.refuse, .accept] [.pair] =
    { build := .ok, buildAttempts := 0, evs := [.pair (.error 14 (some 1)) (.resp 2) 2] } := by decide +kernel
-- the oracle rejects both callers being handed the same failure
example : Spec.Reconnect.holds true [.refuse, .accept] [.pair]
    { build := .ok, buildAttempts := 0, evs := [.pair (.error 14 (some 1)) (.error 14 (some 1)) 1] } = false := by decide +kernel

-- balanced channel, one endpoint: an error per call while nothing listens, served at the first call after
example : (Balance.run (Balance.B.init true) [.insert 0, .call, .call, .up 0, .call, .call] [default, default, default, default]).map (·.2)
    = [.err 0 1, .err 0 2, .resp 0 1, .resp 0 1] := by decide +kernel
-- two endpoints, one up: the dead one's parked failure goes to the call that draws it, once; it is retried
example : (Balance.run (Balance.B.init true) [.up 0, .insert 0, .insert 1, .call, .call, .call, .call]
      [⟨[1], 1⟩, ⟨[1], 1⟩, ⟨[1], 1⟩, ⟨[1], 1⟩]).map (·.2)
    = [.err 1 1, .resp 0 1, .err 1 2, .resp 0 1] := by decide +kernel
-- a stale failure: endpoint 1 was down when last tried, is up now, and is the only one left
example : (Balance.run (Balance.B.init true)
      [.up 0, .insert 0, .insert 1, .call, .call, .up 1, .remove 0, .call, .call]
      [⟨[0], 0⟩, ⟨[0], 0⟩, default, default]).map (·.2)
    = [.resp 0 1, .resp 0 1, .err 1 1, .resp 1 1] := by decide +kernel
-- an attempt accepted by a server that is gone before the connection is first used
example : (Balance.run (Balance.B.init true)
      [.up 0, .up 1, .insert 0, .call, .insert 1, .call, .down 1, .call]
      [default, ⟨[0], 0⟩, ⟨[1], 1⟩]).map (·.2)
    = [.resp 0 1, .resp 0 1, .lost 1] := by decide +kernel
-- the hypotheses of `C14_balanced_recovers` are satisfiable with a debt to pay: two endpoints, both down
-- for two calls, then both up: one stale failure (debt 1 = n - 1), then responses
example :
    let s := Balance.exec (Balance.B.init true) [.insert 0, .insert 1, .call, .call, .up 0, .up 1] [default, default]
    (∀ e ∈ s.eps, e.member = true → e.w.up = true) ∧ Balance.members s.eps = 2 ∧ Balance.debt s.eps = 1 ∧
    Balance.calls s [default, default, default, default] = [.err 0 2, .resp 1 1, .resp 0 1, .resp 0 1] := by decide +kernel
-- the oracle accepts what the model shows and rejects a hang, a replayed failure, a wrong class
example : Spec.Balance.holds [.insert 0, .call, .up 0, .call] [.error 14, .resp 0 1] = true := by decide +kernel
example : Spec.Balance.holds [.insert 0, .call] [.hang] = false := by decide +kernel
example : Spec.Balance.holds [.insert 0, .call, .up 0, .call] [.error 14, .error 14] = false := by decide +kernel
example : Spec.Balance.holds [.insert 0, .call] [.error 2] = false := by decide +kernel
example : Spec.Balance.holds [.call] [.hang] = true := by decide +kernel

-- abandoned calls: the run, the witness of C14-F1, and an oracle that can fail otherwise too
example : Abandon.run true [.refuse, .accept] [.abandon, .call, .call] =
    { build := .ok, buildAttempts := 0, evs := [.abandoned 1, .call (.error 14 (some 1)) 1, .call (.resp 2) 2] } := by decide +kernel
example : Abandon.run false [.accept, .accept] [.die, .abandon, .die, .call] =
    { build := .ok, buildAttempts := 1, evs := [.die, .abandoned 2, .die, .call (.resp 2) 2] } := by decide +kernel
example : Spec.ReconnectAbandon.holdsButStrict true [.accept] [.abandon, .call]
    { build := .ok, buildAttempts := 0, evs := [.abandoned 1, .call (.error 14 none) 1] } = false := by decide +kernel
example : Spec.ReconnectAbandon.holdsButStrict true [.refuse] [.abandon, .call]
    { build := .ok, buildAttempts := 0, evs := [.abandoned 1, .call .hang 1] } = false := by decide +kernel
example : ∃ r : R, r.error = none ∧ r.st = .connecting ∧ (r.hasBeen || r.isLazy) = true :=
  ⟨{ R.init true with st := .connecting, made := 1 }, rfl, rfl, rfl⟩

-- a call issued after a call that hung on the endpoint-less channel is
-- judged by the run-level theorems (`runAll`), while `run` stops at the hang; the oracle carried on
-- past the hang is not trivially true (it rejects a second hang once an endpoint is there)
example : Balance.run (Balance.B.init true) [.call, .insert 0, .up 0, .call] [] = [(0, .hang)] := by decide +kernel
example : Balance.runAll (Balance.B.init true) [.call, .insert 0, .up 0, .call] [] = [(0, .hang), (1, .resp 0 1)] := by decide +kernel
example : Spec.Balance.holdsAll [.call, .insert 0, .up 0, .call] [.hang, .resp 0 1] = true := by decide +kernel
example : Spec.Balance.holdsAll [.call, .insert 0, .up 0, .call] [.hang, .hang] = false := by decide +kernel

end C14
