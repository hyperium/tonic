import TonicModel.Lemmas.FramingWire
import TonicModel.Lemmas.FramingDecLimit
import TonicModel.Lemmas.FramingOps
import TonicModel.Lemmas.FramingHttp
/-
C07 — Hostile or truncated input ends a stream with one error, never a hang or panic.
The safety theorems (every poll completes, valid prefix, first error final, drain terminates, the
consumers) quantify over *arbitrary* event lists: any bytes in any chunking, `Pending`s, body errors
and trailers at any position.  The three theorems that say exactly WHAT a malformed or truncated body
yields (`C07_plain_body_exact` and its two corollaries) are about plain bodies: no trailers and no
body error (`PlainEvs`).
-/
namespace C07
open Framing Spec.Framing
variable {α : Type}

/-- **Every poll completes with a value; the model has no panic branch.**  `Dec.pollNext` is a
total function (Lean's termination checker accepted its recursion over the events still to
come, so a poll cannot spin without consuming an event), hence `n` polls give `n` results. (Transcription lemma: it holds by unfolding the model's definition, so it pins the model's shape for the correspondence run — its assurance about tonic is the tie, not this proof.) -/
theorem C07_every_poll_completes (cd : Codec α) (cfg : DecCfg) (n : Nat) (evs : List BodyEv) :
    (Dec.run cd cfg n Dec.init evs).length = n := by
  generalize Dec.init = s
  induction n generalizing s evs with
  | zero => rfl
  | succ n ih => simp [Dec.run, ih]

/-- **Every message yielded is a correctly framed message of the input.**  Whatever the body
delivers, the messages the stream yields over any number of polls are, in order, an initial
segment of what the reference batch decoder reads from the delivered bytes — the frames that
have a legal flag, a length within the limit, a complete, decompressible and decodable payload,
up to the first frame that has not. -/
theorem C07_messages_are_valid_prefix (cd : Codec α) (cfg : DecCfg) (n : Nat) (evs : List BodyEv) :
    msgsOf (Dec.run cd cfg n Dec.init evs) <+: (batch (recvOf cd cfg) (dataOf evs)).1 := by
  cases hs : cfg.skipsBody with
  | false =>
    have := run_msgs_prefix cd cfg n Dec.init evs (phaseOk_init cfg)
    rwa [specFrom_init, accepted_keep hs] at this
  | true =>
    -- a response with a non-200 HTTP status: its body is not read
    rw [run_non200_no_message cd cfg hs n evs]; exact List.nil_prefix

/-- **The first error is final.**  After the stream has yielded an error, every later poll
yields `None`. -/
theorem C07_first_error_final (cd : Codec α) (cfg : DecCfg) (n : Nat) (evs : List BodyEv)
    (pre post : List (Item α)) (e : St)
    (h : Dec.run cd cfg n Dec.init evs = pre ++ .err e :: post) : ∀ o ∈ post, o = .none :=
  run_first_error_final cd cfg n Dec.init evs pre post e (stateOk_init cfg) h

/-- **A caller that drains the stream always terminates.**  Within `#events + #messages + 1`
polls the stream reports the end of the stream or an error. -/
theorem C07_drain_terminates (cd : Codec α) (cfg : DecCfg) (evs : List BodyEv) (n : Nat)
    (hn : evs.length + (batch (recvOf cd cfg) (dataOf evs)).1.length < n) :
    ∃ o ∈ Dec.run cd cfg n Dec.init evs, o.isTerminal = true := by
  refine run_reaches_end cd cfg n Dec.init evs (phaseOk_init cfg) ?_
  rw [specFrom_init]
  cases hs : cfg.skipsBody with
  | false => rwa [accepted_keep hs]
  | true => rw [accepted_skip hs, batch_nil]; exact Nat.lt_of_le_of_lt (Nat.le_add_right _ _) hn

/-- **Which inputs are refused, and how** (the reference decoder's verdicts are the stream's
errors): if the delivered bytes contain, after `k` valid frames, a frame with an illegal flag, a
compressed flag without a negotiated encoding, an over-limit length, undecompressible or
undecodable payload, no more than those `k` messages are ever yielded. -/
theorem C07_nothing_after_bad_frame (cd : Codec α) (cfg : DecCfg) (n : Nat) (evs : List BodyEv)
    (ms : List α) (b : Bad) (h : batch (recvOf cd cfg) (dataOf evs) = (ms, .bad b)) :
    (msgsOf (Dec.run cd cfg n Dec.init evs)).length ≤ ms.length := by
  have := C07_messages_are_valid_prefix cd cfg n evs
  rw [h] at this
  exact this.length_le

/-! ### What a malformed or truncated body yields (content, not just totality) -/

/-- **A plain body is drained to exactly the reference decoder's reading.**  If the reference
decoder reads the delivered bytes as messages `ms` and then stops as `stop`, the stream yields
exactly `ms`, in order, then: the error of the refused frame if `stop` is a refusal; `Unexpected
EOF` (INTERNAL) if the input ends inside a frame of which the receiver holds at least one byte;
otherwise the end of the stream (or, for a response, the error `infer_grpc_status` derives from
the HTTP status); then `None` for ever.  (`hk`: the stream is a gRPC message stream — a request, or a response with
HTTP status 200; the body of any other response is dropped unread, `C04_http_table_any_body`.) -/
theorem C07_plain_body_exact (cd : Codec α) (cfg : DecCfg) (hk : cfg.skipsBody = false) (evs : List BodyEv) (hplain : PlainEvs evs = true)
    (ms : List α) (stop : Stop) (h : batch (recvOf cd cfg) (dataOf evs) = (ms, stop))
    (n : Nat) (hn : evs.length + ms.length < n) :
    ∃ k, nonPending (Dec.run cd cfg n Dec.init evs) = ms.map .msg ++
      plainEnd (plainTail cd cfg none stop (held (recvOf cd cfg) (dataOf evs))) k := by
  exact run_plain cd cfg hk n Dec.init evs ms stop _ (phaseOk_init cfg) hplain
    ((specFrom_init cd cfg _).trans h) (heldFrom_init cd cfg _) hn

/-- **A malformed frame yields an error, not a clean end — for every chunking.**  If the delivered
bytes contain, after valid frames carrying `ms`, a frame the reference decoder refuses — flag
other than 0/1, flag 1 without a negotiated encoding, declared length over the limit, payload
the decompressor or the message decoder rejects — then the stream yields exactly `ms`, then that
refusal's error (INTERNAL; OUT_OF_RANGE for the length; the decoder's own code for an undecodable
payload), then `None` for ever. -/
theorem C07_malformed_frame_yields_error (cd : Codec α) (cfg : DecCfg) (hsk : cfg.skipsBody = false) (evs : List BodyEv)
    (hplain : PlainEvs evs = true) (ms : List α) (b : Bad)
    (h : batch (recvOf cd cfg) (dataOf evs) = (ms, .bad b)) (n : Nat) (hn : evs.length + ms.length < n) :
    ∃ k, nonPending (Dec.run cd cfg n Dec.init evs)
      = ms.map .msg ++ .err (stOfBad cd b) :: List.replicate k .none := by
  obtain ⟨k, hk⟩ := C07_plain_body_exact cd cfg hsk evs hplain ms (.bad b) h n hn
  exact ⟨k, by simpa [plainTail, plainEnd] using hk⟩

/-- the codes of the refusals (Transcription lemma: it holds by unfolding the model's definition, so it pins the model's shape for the correspondence run — its assurance about tonic is the tie, not this proof.) -/
theorem C07_refusal_codes (cd : Codec α) :
    stOfBad cd .flag = ⟨13, .badFlag⟩ ∧ stOfBad cd .noEncoding = ⟨13, .noEncoding⟩ ∧
    stOfBad cd .tooLarge = ⟨11, .tooLargeDec⟩ ∧ stOfBad cd .decompress = ⟨13, .decompress⟩ ∧
    stOfBad cd .codec = ⟨cd.deErr, .codec⟩ := ⟨rfl, rfl, rfl, rfl, rfl⟩

/-- **A body truncated inside a frame yields `Unexpected EOF`, not a clean end — for every
chunking** — whenever the receiver holds at least one byte of the unfinished frame (part of a
5-byte prefix, or part of a payload).  (When it holds none — the body ends right after a complete
prefix — tonic ends the stream cleanly: `C07_plain_body_exact`, DESIGN §9.2.) -/
theorem C07_truncated_frame_yields_error (cd : Codec α) (cfg : DecCfg) (hsk : cfg.skipsBody = false) (evs : List BodyEv)
    (hplain : PlainEvs evs = true) (ms : List α)
    (h : batch (recvOf cd cfg) (dataOf evs) = (ms, .incomplete))
    (hheld : held (recvOf cd cfg) (dataOf evs) ≠ [])
    (n : Nat) (hn : evs.length + ms.length < n) :
    ∃ k, nonPending (Dec.run cd cfg n Dec.init evs)
      = ms.map .msg ++ .err ⟨13, .eof⟩ :: List.replicate k .none := by
  obtain ⟨k, hk⟩ := C07_plain_body_exact cd cfg hsk evs hplain ms .incomplete h n hn
  exact ⟨k, by simpa [plainTail, plainEnd, hheld] using hk⟩

/- Non-vacuity: the DESIGN §5.5 witness — a bad flag followed by bytes that look like frames. -/
def idCodec : Codec Bytes := { ser := id, de := some, deErr := 13, cz := fun _ b => b, dz := fun _ b => some b }

example : Dec.run idCodec { enc := none, maxSize := none, dir := .request } 4 Dec.init
      [.data [7, 0, 0, 0, 0, 1, 9, 0, 0, 0, 0, 2, 9, 9]]
    = [.err ⟨13, .badFlag⟩, .none, .none, .none] := by decide +kernel

/- Non-vacuity of the hypotheses of `C07_malformed_frame_yields_error` (an undecodable payload
after a valid frame, cut inside the second prefix, with a `Pending`) and of
`C07_truncated_frame_yields_error` (two of five payload bytes delivered). -/
def ffCodec : Codec Bytes :=
  { ser := id, de := fun b => if b.head? = some 255 then none else some b, deErr := 13,
    cz := fun _ b => b, dz := fun _ b => some b }

example :
    let cfg : DecCfg := { enc := none, maxSize := none, dir := .request }
    let evs : List BodyEv := [.data [0, 0, 0, 0, 1, 9, 0, 0], .pending, .data [0, 0, 2, 255, 1, 0, 0, 0, 0, 0]]
    PlainEvs evs = true ∧ batch (recvOf ffCodec cfg) (dataOf evs) = ([[9]], .bad .codec) := by
  simp [PlainEvs, dataOf, batch_cons5, header, recvOf, batchBody, Spec.Framing.payload, ffCodec, be32,
    DecCfg.limit, defaultMaxRecv]

example :
    let cfg : DecCfg := { enc := none, maxSize := none, dir := .request }
    let evs : List BodyEv := [.data [0, 0, 0, 0, 5, 1], .data [2]]
    PlainEvs evs = true ∧ batch (recvOf ffCodec cfg) (dataOf evs) = ([], .incomplete) ∧
      held (recvOf ffCodec cfg) (dataOf evs) = [1, 2] := by
  simp [PlainEvs, dataOf, batch_cons5, held_cons5, header, recvOf, batchBody, heldBody, Spec.Framing.payload,
    ffCodec, be32, DecCfg.limit, defaultMaxRecv]

/-! ### Consumers that use `Streaming::message()` and `Streaming::trailers()` (audit aC07)

The property speaks of "a caller that drains it".  tonic's own draining callers (`Grpc::unary`,
`client_streaming`, `map_request_unary`) and most user code do not call `poll_next` directly: they
call `message()` and `trailers()`.  `Dec.runOps` is a consumer making any sequence of these calls
on the one stream. -/

/-- Transcription lemma: `Op.next` and `Op.message` are ONE match arm of `Dec.stepOp` (`| .next | .message => …`,
`Dec.stepOp cd cfg fuel s evs .next = Dec.stepOp cd cfg fuel s evs .message` is `rfl`), so "`message()` is
`poll_next`" is true by construction of the model and this induction has nothing to discover.  What it
records: in the model, a consumer that never calls `trailers()` — any mixture of `poll_next` and polls of
`message()` futures, each dropped after one poll — sees exactly the results of that many `poll_next` calls, so
the theorems above apply to it.  That the REAL `Streaming::message()` is one `poll_next` (a `poll_fn` holding no
state of its own, nothing lost when the future is dropped after `Pending`) is carried by the correspondence
run: the `xdec` cases with `message()` consumers (`O…` op strings, C07 and C01), predicted by `Dec.runOps`. -/
theorem C07_message_is_poll_next (cd : Codec α) (cfg : DecCfg) (fuel : Nat) (ops : List Op) (evs : List BodyEv)
    (h : ∀ op ∈ ops, op.isPoll = true) :
    Dec.runOps cd cfg fuel ops Dec.init evs = (Dec.run cd cfg ops.length Dec.init evs).map .item :=
  runOps_polls cd cfg fuel ops Dec.init evs h

/- why the lemma above is a transcription lemma: the two ops are the same step, definitionally -/
example (cd : Codec α) (cfg : DecCfg) (fuel : Nat) (s : DecSt) (evs : List BodyEv) :
    Dec.stepOp cd cfg fuel s evs .next = Dec.stepOp cd cfg fuel s evs .message := rfl

/-- **Every state a consumer can reach is a good one** (a `ReadBody` state remembers identity or
the negotiated encoding): the invariant behind `C07_trailers_call_terminates` and
`C07_first_error_final_any_consumer` holds initially and after every call, `trailers()` included. -/
theorem C07_consumer_states_ok (cd : Codec α) (cfg : DecCfg) (fuel : Nat) (s : DecSt) (evs : List BodyEv) (op : Op) :
    StateOk cfg Dec.init ∧ (StateOk cfg s → StateOk cfg (Dec.stepOp (α := α) cd cfg fuel s evs op).1) :=
  ⟨stateOk_init cfg, fun hs => (stepOp_stateOk cd cfg fuel s evs op hs).1⟩

/-- **`trailers()` always returns.**  From every reachable state its drain loop
(`while self.message().await?.is_some() {}`) ends within `#events + #messages + 1` polls — for any
bytes, any chunking, any `Pending`s, body errors and trailers still to come. -/
theorem C07_trailers_call_terminates (cd : Codec α) (cfg : DecCfg) (fuel : Nat) (s : DecSt) (evs : List BodyEv)
    (hs : StateOk cfg s) (hn : evs.length + (specFrom cd cfg s (accepted cfg evs)).1.length < fuel) :
    (Dec.trailersCall cd cfg fuel s evs).2.2 ≠ .fuel := by
  unfold Dec.trailersCall
  cases s.trailers with
  | some t => simp
  | none =>
    have := drain_terminates cd cfg fuel s evs 0 hs hn
    cases hd : Dec.drain cd cfg fuel s evs 0 with
    | none => simp [hd] at this
    | some q =>
      obtain ⟨s', evs', k, r⟩ := q
      cases r <;> simp

/-- **`trailers()` reports the stream's own end — no error swallowed, none invented.**  When no
trailers are cached, what `trailers()` returns is decided by the first terminal result `poll_next`
would have given: `Err(e)` exactly when that is the error `e` (which is thereby consumed), `Ok`
exactly when it is the end of the stream; before it only messages and `Pending`s went by. -/
theorem C07_trailers_reports_the_streams_end (cd : Codec α) (cfg : DecCfg) (fuel : Nat) (s : DecSt) (evs : List BodyEv)
    (ht : s.trailers = none) (hfuel : (Dec.trailersCall cd cfg fuel s evs).2.2 ≠ .fuel) :
    ∃ j pre, j ≤ fuel ∧ (∀ o ∈ pre, o.isTerminal = false) ∧
      ((∃ e, (Dec.trailersCall cd cfg fuel s evs).2.2 = .err (pendingsOf pre) e ∧
            Dec.run cd cfg j s evs = pre ++ [.err e]) ∨
       (∃ t, (Dec.trailersCall cd cfg fuel s evs).2.2 = .ok (pendingsOf pre) t ∧
            Dec.run cd cfg j s evs = pre ++ [.none])) := by
  unfold Dec.trailersCall at hfuel ⊢
  simp only [ht] at hfuel ⊢
  cases hd : Dec.drain cd cfg fuel s evs 0 with
  | none => simp [hd] at hfuel
  | some q =>
    obtain ⟨s', evs', k, r⟩ := q
    obtain ⟨j, pre, hj, hrun, hpre, hk⟩ := drain_spec cd cfg fuel s evs 0 s' evs' k r hd
    refine ⟨j, pre, hj, hpre, ?_⟩
    cases r with
    | some e => left; exact ⟨e, by simp [hk], by simpa [endItem] using hrun⟩
    | none => right; exact ⟨s'.trailers, by simp [hk], by simpa [endItem] using hrun⟩

/-- **The first error is final for every consumer.**  Whichever call returns the stream's error —
`poll_next`, `message()`, or `trailers()` — every later call is answered quietly: `None` to a
poll, and `trailers()` returns `Ok` at once without touching the body. -/
theorem C07_first_error_final_any_consumer (cd : Codec α) (cfg : DecCfg) (fuel : Nat) (hf : 0 < fuel)
    (ops : List Op) (evs : List BodyEv) (pre post : List (OpOut α)) (o : OpOut α)
    (h : Dec.runOps cd cfg fuel ops Dec.init evs = pre ++ o :: post) (he : o.isErr = true) :
    ∀ x ∈ post, x.isQuiet = true :=
  runOps_first_error_final cd cfg fuel hf ops Dec.init evs pre post o
    (stateOk_init cfg) h he

/-- **tonic's own draining callers are consumers of this kind.**  `client::Grpc::unary` /
`client_streaming` and `server::Grpc::unary` (`map_request_unary`) do `try_next().await` and then
`trailers().await?` on the stream they have just built.  Whatever such a call returns is read off
the consumer `message()ʲ⁺¹ ; trailers()`: a message only if it is the stream's first result (hence,
by `C07_messages_are_valid_prefix`, the first valid message of the input) and the drain after it
met no error; the stream's own error otherwise — from the first result or from the drain; and
"missing message" exactly when the stream ends before any message.  So the theorems above (valid
prefix, first error final, `trailers()` terminates and reports the stream's own end) are about
these calls too. -/
theorem C07_unary_call_is_a_consumer (cd : Codec α) (cfg : DecCfg) (fuel : Nat) (evs : List BodyEv)
    (h : Dec.unaryCall cd cfg fuel Dec.init evs ≠ .fuel) :
    ∃ j o x, Dec.runOps cd cfg fuel (List.replicate (j + 1) .message ++ [.trailers]) Dec.init evs
        = List.replicate j (.item .pending) ++ [.item o, x] ∧
      UnaryView (Dec.unaryCall cd cfg fuel Dec.init evs) j o x :=
  unaryCall_view cd cfg fuel Dec.init evs h

example : Dec.unaryCall idCodec { enc := none, maxSize := none, dir := .response 200 } 9 Dec.init
      [.pending, .data [0, 0, 0, 0, 1, 9], .pending, .data [0, 0, 0, 0, 5, 1]] = .err 2 ⟨13, .eof⟩ := by decide +kernel

/- Non-vacuity: `trailers()` called mid-stream consumes the stream's error (a bad flag after one
message), after which a poll yields `None` and a second `trailers()` returns `Ok(None)` at once;
and a `trailers()` that drains past a message to OK trailers. -/
example : Dec.runOps idCodec { enc := none, maxSize := none, dir := .request } 9 [.trailers, .next, .trailers] Dec.init
      [.data [0, 0, 0, 0, 1, 9], .pending, .data [7, 0, 0, 0, 0]]
    = [.tr (.err 1 ⟨13, .badFlag⟩), .item .none, .tr (.ok 0 none)] := by decide +kernel

example : Dec.runOps idCodec { enc := none, maxSize := none, dir := .response 200 } 9 [.message, .trailers, .trailers] Dec.init
      [.data [0, 0, 0, 0, 1, 9, 0, 0, 0, 0, 1, 8], .trailers (some 0)]
    = [.item (.msg [9]), .tr (.ok 0 (some (some 0))), .tr (.ok 0 none)] := by decide +kernel

/- the scope hypothesis `skipsBody = false` holds for every request and every 200 response -/
example : ({ enc := none, maxSize := none, dir := .request } : DecCfg).skipsBody = false := by decide +kernel
example : ({ enc := none, maxSize := none, dir := .response 200 } : DecCfg).skipsBody = false := by decide +kernel

end C07
