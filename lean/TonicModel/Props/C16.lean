import TonicModel.Model.WebServer
import TonicModel.Spec.GrpcWeb
import TonicModel.Lemmas.GrpcWeb
import TonicModel.Lemmas.WebServer
import TonicModel.Lemmas.WebServerX
import TonicModel.Spec.BodyHints
/-
C16 — grpc-web server layer translates requests and responses losslessly.
The property theorems, and with them the few private steps that tie the model's constants to the
oracle's (content types, header names, the arm of `call`).

Vocabulary: a body is the list of events its `poll_frame` produces (`data`, `trailers`, `err`,
`pending`; the end of the list is end-of-stream).  `respRun enc` / `reqRun enc` are what a
consumer gets from the `GrpcWebCall` wrapped around that body.  `Spec.GrpcWeb.read` is the
independent grpc-web reader.
-/
namespace C16
open WebServer WebServerLemmas GrpcWebLemmas
open TMap (Pair)
open Spec.GrpcWeb (nameOk valueOk Item)

/-- **Response side, full statement.**  For every list of message frames, every trailer list,
every way of cutting the frame bytes into body chunks (`chunks` — cuts may fall anywhere, also
inside the 5-byte prefix, and chunks may be empty), every interleaving of `Pending`s, and both
accepted forms (binary / base64 text): the wrapper emits only data frames and then ends, and an
independent grpc-web reader recovers from the concatenated body exactly the original message
frames (same flags, same bytes, same order) followed by exactly one trailers frame whose
entries are, name by name, all the trailer values in their original order. -/
theorem C16_response_lossless (enc : Enc) (frames : List (Bool × Bytes)) (trailers : List Pair)
    (chunks : List Bytes) (evs : List BodyEv)
    (hsched : evs.filter notPending = chunks.map BodyEv.data ++ [BodyEv.trailers trailers])
    (hchunks : chunks.flatten = Spec.GrpcWeb.framesBytes frames)
    (hframes : ∀ f ∈ frames, f.2.length < 4294967296)
    (htr : ∀ p ∈ trailers, nameOk p.1 ∧ valueOk p.2)
    (hlen : (encodeTrailers trailers).length < 4294967296) :
    ∃ (outs : List Bytes) (t' : List Pair),
      respRun enc evs = outs.map Out.data ++ [Out.eos] ∧
      Spec.GrpcWeb.read (enc == Enc.base64) outs.flatten =
        some (frames.map (fun f => Item.msg f.1 f.2) ++ [Item.trailers t']) ∧
      (∀ k, TMap.getAll k t' = TMap.getAll k trailers) ∧
      (∀ p, p ∈ t' ↔ p ∈ trailers) := by
  refine ⟨(chunks ++ [makeTrailersFrame trailers]).map (wrap enc), TMap.group trailers,
    ?_, ?_, fun k => TMap.getAll_group k trailers, fun p => TMap.group_mem p trailers⟩
  · rw [respRun_filter, hsched, respRun_data]
    simp [respRun]
  · -- undo the wrapper; what is left is the frames and `makeTrailersFrame`, whose block is by
    -- definition (`encodeTrailers_eq`) one `lineOf` per entry of `TMap.group trailers`
    rw [read_wrap, List.flatten_append, hchunks, List.flatten_singleton]
    exact parseItems_frames_trailers frames hframes _ _
      (parseBlock_lines _ fun p hp => htr p ((TMap.group_mem p trailers).1 hp)) hlen

/-- **Base64 stream lemma** (the heart of text mode): pieces that are base64-encoded and padded
one at a time — which is how `poll_encode` emits a body, one piece per inner frame — read back,
after concatenation, as the concatenation of the pieces, wherever the piece boundaries fall
(inside a 3-byte group, empty pieces, …). -/
theorem C16_base64_stream (pieces : List Bytes) :
    Spec.GrpcWeb.b64StreamDecode ((pieces.map (wrap Enc.base64)).flatten) = some pieces.flatten :=
  stream_pieces pieces

/-- An inner error is passed on as an error after the frames that preceded it (the body never
ends cleanly in that case). -/
theorem C16_response_error_not_clean (enc : Enc) (chunks : List Bytes) (rest : List BodyEv) :
    respRun enc (chunks.map BodyEv.data ++ BodyEv.err :: rest) =
      chunks.map (fun c => Out.data (wrap enc c)) ++ [Out.err] := by
  rw [respRun_data]; rfl

/-- **Request side, text mode.**  For every payload and every way of cutting its (single,
padded) base64 text into body chunks — cuts inside a quantum, empty chunks, `Pending`s — the
inner service receives data frames whose concatenation is the payload, then a clean end. -/
theorem C16_request_text_lossless (payload : Bytes) (chunks : List Bytes) (evs : List BodyEv)
    (hsched : evs.filter notPending = chunks.map BodyEv.data)
    (hbody : chunks.flatten = B64.encode true payload) :
    ∃ outs : List Bytes, reqRun Enc.base64 evs = outs.map Out.data ++ [Out.eos] ∧
      outs.flatten = payload := by
  simp only [reqRun]
  rw [reqText_filter, hsched]
  exact reqText_canonical chunks [] payload (by simp) (by simpa using hbody)

/-- **Request side, text mode, soundness for arbitrary bodies** (malformed ones included):
whenever the stream handed to the inner service ends cleanly, the bytes it carried are exactly
what the independent reader decodes from the whole request body.  Equivalently: a body the
reader rejects (foreign symbol, length not a multiple of four, non-zero discarded bits, …)
never reaches the inner service as a clean stream. -/
theorem C16_request_text_sound (evs : List BodyEv)
    (hclean : endsClean (reqRun Enc.base64 evs) = true) :
    Spec.GrpcWeb.b64StreamDecode (flat evs) = some (dataOf (reqRun Enc.base64 evs)) := by
  simpa [reqRun] using reqText_sound evs [] (by simpa [reqRun] using hclean)

/-- **Request side, binary mode**: the chunks pass through one for one. -/
theorem C16_request_binary_lossless (chunks : List Bytes) (evs : List BodyEv)
    (hsched : evs.filter notPending = chunks.map BodyEv.data) :
    reqRun Enc.none evs = chunks.map Out.data ++ [Out.eos] := by
  rw [reqRun, reqBin_filter, hsched]
  simpa [reqBin] using reqBin_data chunks []

/-- Map the model's decision to the oracle's vocabulary. -/
private def toExpect : Action → Spec.GrpcWeb.Expect
  | .web e a => .web (e == Enc.base64) (a == Enc.base64)
  | .status c => .status c
  | .pass => .pass

/-- The oracle spells the four content types as a base and a suffix; they are the model's. -/
private theorem ct_spec :
    GRPC_WEB ++ TMap.str "+proto" = GRPC_WEB_PROTO ∧ GRPC_WEB ++ TMap.str "-text" = GRPC_WEB_TEXT ∧
    GRPC_WEB ++ TMap.str "-text+proto" = GRPC_WEB_TEXT_PROTO := by
  rw [GRPC_WEB, GRPC_WEB_PROTO, GRPC_WEB_TEXT, GRPC_WEB_TEXT_PROTO]
  repeat rw [TMap.str_lit]
  decide +kernel

private theorem webContentType_eq (x : Bytes) : Spec.GrpcWeb.webContentType x =
    if x = GRPC_WEB ∨ x = GRPC_WEB_PROTO then some false
    else if x = GRPC_WEB_TEXT ∨ x = GRPC_WEB_TEXT_PROTO then some true else none := by
  obtain ⟨e2, e3, e4⟩ := ct_spec
  rw [← e2, ← e3, ← e4]
  rfl

private theorem ct_distinct :
    GRPC_WEB ≠ GRPC_WEB_TEXT ∧ GRPC_WEB ≠ GRPC_WEB_TEXT_PROTO ∧
    GRPC_WEB_PROTO ≠ GRPC_WEB_TEXT ∧ GRPC_WEB_PROTO ≠ GRPC_WEB_TEXT_PROTO := by
  obtain ⟨e2, e3, e4⟩ := ct_spec
  rw [← e2, ← e3, ← e4]
  simp only [ne_eq, List.self_eq_append_right, List.append_cancel_left_eq]
  repeat rw [TMap.str_lit]
  decide +kernel

private theorem web_ct (v : Option Bytes) :
    (v.bind Spec.GrpcWeb.webContentType).isSome = isGrpcWeb v ∧
    ((v.bind Spec.GrpcWeb.webContentType) == some true) = (encFromHeader v == Enc.base64) := by
  cases v with
  | none => exact ⟨rfl, rfl⟩
  | some x =>
    obtain ⟨d1, d2, d3, d4⟩ := ct_distinct
    simp only [Option.bind_some, webContentType_eq, isGrpcWeb, encFromHeader]
    -- of the four constants only that binary and text ones differ is used
    generalize GRPC_WEB = w, GRPC_WEB_PROTO = wp, GRPC_WEB_TEXT = t, GRPC_WEB_TEXT_PROTO = tp
      at d1 d2 d3 d4 ⊢
    by_cases h1 : x = w
    · subst h1; simp [d1, d2]
    by_cases h2 : x = wp
    · subst h2; simp [d3, d4]
    by_cases h3 : x = t
    · subst h3; simp [d1.symm, d3.symm]
    by_cases h4 : x = tp
    · subst h4; simp [d2.symm, d4.symm]
    simp [h1, h2, h3, h4]

/-- **Status cases.**  For every method, HTTP version, content-type and accept header, the
layer's decision is the protocol's: a grpc-web content type with POST is translated (request
form from the content type, response form from Accept), with any other method it is answered
405 without calling the inner service; anything else is passed through untouched on HTTP/2
and answered 400 otherwise. -/
theorem C16_status_cases (method : Bytes) (isH2 : Bool) (ct accept : Option Bytes) :
    toExpect (classify method isH2 ct accept) = Spec.GrpcWeb.expect method isH2 ct accept := by
  obtain ⟨hs, ht⟩ := web_ct ct
  obtain ⟨_, ha⟩ := web_ct accept
  rw [classify, Spec.GrpcWeb.expect, ← hs, ha]
  cases hw : ct.bind Spec.GrpcWeb.webContentType with
  | none => cases isH2 <;> rfl
  | some t =>
    have ht' : (encFromHeader ct == Enc.base64) = t := by rw [← ht, hw]; cases t <;> rfl
    by_cases hm : method = TMap.str "POST" <;> simp [hm, toExpect, ht']

/-- The content-type constants of the model are the protocol's (a table of three constants; the
statements about header MAPS are `C16_coerce_request_headers` / `C16_coerce_response_headers`).
(Transcription lemma: it holds by unfolding the model's definition, so it pins the model's shape
for the correspondence run — its assurance about tonic is the tie, not this proof.) -/
theorem C16_content_types :
    GRPC_CONTENT_TYPE = Spec.GrpcWeb.grpcContentType ∧
    ∀ a : Enc, toContentType a = Spec.GrpcWeb.responseContentType (a == Enc.base64) := by
  refine ⟨rfl, fun a => ?_⟩
  cases a <;> rfl

private theorem hdr_names_distinct :
    CONTENT_TYPE ≠ TE ∧ CONTENT_TYPE ≠ ACCEPT_ENCODING ∧ CONTENT_TYPE ≠ CONTENT_LENGTH ∧
    TE ≠ ACCEPT_ENCODING ∧ TE ≠ CONTENT_LENGTH ∧ CONTENT_LENGTH ≠ ACCEPT_ENCODING := by
  rw [CONTENT_TYPE, TE, ACCEPT_ENCODING, CONTENT_LENGTH]
  repeat rw [TMap.str_lit]
  decide +kernel

/-- **`coerce_request` on every header map.**  Whatever headers the grpc-web request carried
(any names, repeated names, several `content-type` / `te` / `content-length` values): after
`coerce_request` the map has exactly one `content-type`, and it is `application/grpc`; exactly
one `te`, `trailers`; no `content-length`; `accept-encoding: identity,deflate,gzip`; and every
other name keeps all its values in their order. -/
theorem C16_coerce_request_headers (h : List Pair) :
    TMap.getAll CONTENT_TYPE (coerceRequest h) = [Spec.GrpcWeb.grpcContentType] ∧
    TMap.getAll TE (coerceRequest h) = [TRAILERS] ∧
    TMap.getAll CONTENT_LENGTH (coerceRequest h) = [] ∧
    TMap.getAll ACCEPT_ENCODING (coerceRequest h) = [IDENTITY_DEFLATE_GZIP] ∧
    ∀ k, k ≠ CONTENT_TYPE → k ≠ TE → k ≠ CONTENT_LENGTH → k ≠ ACCEPT_ENCODING →
      TMap.getAll k (coerceRequest h) = TMap.getAll k h := by
  obtain ⟨d1, d2, d3, d4, d5, d6⟩ := hdr_names_distinct
  unfold coerceRequest
  refine ⟨?_, ?_, ?_, ?_, ?_⟩
  · rw [getAll_hinsert_ne d2, getAll_hinsert_ne d1, getAll_hinsert_self]; rfl
  · rw [getAll_hinsert_ne d4, getAll_hinsert_self]
  · rw [getAll_hinsert_ne d6, getAll_hinsert_ne (Ne.symm d5),
      getAll_hinsert_ne (Ne.symm d3), getAll_hremove_self]
  · rw [getAll_hinsert_self]
  · intro k h1 h2 h3 h4
    rw [getAll_hinsert_ne h4, getAll_hinsert_ne h2, getAll_hinsert_ne h1,
      getAll_hremove_ne h3]

/-- **`coerce_response` on every header map**: exactly one `content-type`, the grpc-web type of
the accepted form; every other header of the inner service's response is kept. -/
theorem C16_coerce_response_headers (a : Enc) (h : List Pair) :
    TMap.getAll CONTENT_TYPE (coerceResponse a h) =
      [Spec.GrpcWeb.responseContentType (a == Enc.base64)] ∧
    ∀ k, k ≠ CONTENT_TYPE → TMap.getAll k (coerceResponse a h) = TMap.getAll k h := by
  unfold coerceResponse
  refine ⟨?_, fun k hk => getAll_hinsert_ne hk _ _⟩
  rw [getAll_hinsert_self]
  cases a <;> rfl

/-- the form the oracle speaks of, as the model's `Encoding` -/
private def encOf (text : Bool) : Enc := if text then Enc.base64 else Enc.none

/-- **The decision on whole requests.**  For every request (method, version, uri, any header
map, extensions) the arm `GrpcWebService::call` takes is the protocol's, read off the first
`content-type` and the first `accept` value. -/
theorem C16_decision (p : Parts) :
    toExpect (actionOf p) =
      Spec.GrpcWeb.expectFor p.method (p.version == Ver.h2) p.headers :=
  C16_status_cases p.method (p.version == Ver.h2) _ _

private theorem actionOf_eq (p : Parts) : actionOf p =
    match Spec.GrpcWeb.expectFor p.method (p.version == Ver.h2) p.headers with
    | .web rt pt => .web (encOf rt) (encOf pt)
    | .status c => .status c
    | .pass => .pass := by
  rw [← C16_decision p]
  cases actionOf p with
  | web e a => cases e <;> cases a <;> rfl
  | _ => rfl

/-- **Pass-through is the identity.**  A request the protocol does not claim (no grpc-web content
type) on HTTP/2 reaches the inner service as the very same request — same method, version, uri,
extensions, the same header map entry for entry, the same body frame for frame — and the inner
service's response (status, headers, body) is handed back as it is. -/
theorem C16_passthrough_untouched (p : Parts) (reqBody : List BodyEv) (st : Nat)
    (ih : List Pair) (ib : List BodyEv)
    (h : Spec.GrpcWeb.expectFor p.method (p.version == Ver.h2) p.headers = .pass) :
    serve p reqBody = Served.inner p (passRun reqBody) none ∧
    respond p reqBody st ih ib = { status := st, headers := ih, body := passRun ib } := by
  have ha : actionOf p = Action.pass := by rw [actionOf_eq, h]
  simp [respond, serve, ha]

/-- … where "the same body frame for frame" means: the data chunks one for one, the trailers
map (if any) with every name's values in order, then the end. -/
theorem C16_passthrough_body (chunks : List Bytes) (t : List Pair) (evs : List BodyEv)
    (hsched : evs.filter notPending = chunks.map BodyEv.data ++ [BodyEv.trailers t]) :
    passRun evs = chunks.map Out.data ++ [Out.trailers (TMap.group t), Out.eos] ∧
    ∀ k, TMap.getAll k (TMap.group t) = TMap.getAll k t := by
  refine ⟨?_, fun k => TMap.getAll_group k t⟩
  show reqBin evs = _
  rw [reqBin_filter, hsched, reqBin_data]
  rfl

/-- **405 / 400 without calling the inner service.**  Whenever the protocol's answer is an
immediate status (grpc-web content type with a method other than POST: 405; no grpc-web content
type and not HTTP/2: 400), the inner service is not called and the response is that status with
no headers and an empty body. -/
theorem C16_rejected_without_inner (p : Parts) (reqBody : List BodyEv) (st : Nat)
    (ih : List Pair) (ib : List BodyEv) (c : Nat)
    (h : Spec.GrpcWeb.expectFor p.method (p.version == Ver.h2) p.headers = .status c) :
    serve p reqBody = Served.immediate c ∧
    respond p reqBody st ih ib = { status := c, headers := [], body := [Out.eos] } := by
  have ha : actionOf p = Action.status c := by rw [actionOf_eq, h]
  simp [respond, serve, ha]

/-- **Request side, end to end.**  For every grpc-web POST request — any version, uri, header
map — every payload and every chunking of its body (binary: the payload itself; text: its
padded base64 text, cut anywhere): the inner service is called with the same method, version,
uri and extensions, a header map whose `content-type` is exactly `application/grpc` (with
`te: trailers`, no `content-length`, all other names untouched), and a body that delivers
exactly the payload and then ends. -/
theorem C16_request_end_to_end (p : Parts) (rt pt : Bool)
    (hexp : Spec.GrpcWeb.expectFor p.method (p.version == Ver.h2) p.headers = .web rt pt)
    (payload : Bytes) (chunks : List Bytes) (evs : List BodyEv)
    (hsched : evs.filter notPending = chunks.map BodyEv.data)
    (hbody : chunks.flatten = if rt then B64.encode true payload else payload) :
    ∃ (hs' : List Pair) (outs : List Bytes),
      serve p evs = Served.inner { p with headers := hs' } (outs.map Out.data ++ [Out.eos])
        (some (encOf pt)) ∧
      outs.flatten = payload ∧
      TMap.getAll CONTENT_TYPE hs' = [Spec.GrpcWeb.grpcContentType] ∧
      TMap.getAll TE hs' = [TRAILERS] ∧
      TMap.getAll CONTENT_LENGTH hs' = [] ∧
      (∀ k, k ≠ CONTENT_TYPE → k ≠ TE → k ≠ CONTENT_LENGTH → k ≠ ACCEPT_ENCODING →
        TMap.getAll k hs' = TMap.getAll k p.headers) := by
  have ha : actionOf p = Action.web (encOf rt) (encOf pt) := by rw [actionOf_eq, hexp]
  obtain ⟨c1, c2, c3, _, c5⟩ := C16_coerce_request_headers p.headers
  cases rt with
  | true =>
    obtain ⟨outs, ho, hf⟩ := C16_request_text_lossless payload chunks evs hsched (by simpa using hbody)
    refine ⟨coerceRequest p.headers, outs, ?_, hf, c1, c2, c3, c5⟩
    simp [serve, ha, encOf, ho]
  | false =>
    have ho := C16_request_binary_lossless chunks evs hsched
    refine ⟨coerceRequest p.headers, chunks, ?_, by simpa using hbody, c1, c2, c3, c5⟩
    simp [serve, ha, encOf, ho]

/-- **Response side, end to end: the form is the one the request's Accept header asks for.**
For every grpc-web POST request (any header map; `pt` = the protocol's reading of its first
`accept` value: text iff it is `application/grpc-web-text[+proto]`), whatever the inner service
answers — any status, any headers, any message frames cut into chunks in any way, any trailers,
any `Pending`s: the layer's response has the inner status, exactly one `content-type`, the
grpc-web type of THAT form, all other inner headers, and a body which an independent grpc-web
reader OF THAT FORM reads as the identical message frames followed by exactly one trailers frame
listing every trailer.  (Composition of `C16_decision`, `C16_coerce_response_headers` and
`C16_response_lossless`: `respRun` is run with the very `accept` that the decision computed.) -/
theorem C16_response_end_to_end (p : Parts) (rt pt : Bool)
    (hexp : Spec.GrpcWeb.expectFor p.method (p.version == Ver.h2) p.headers = .web rt pt)
    (reqBody : List BodyEv) (st : Nat) (ih : List Pair)
    (frames : List (Bool × Bytes)) (trailers : List Pair) (chunks : List Bytes) (evs : List BodyEv)
    (hsched : evs.filter notPending = chunks.map BodyEv.data ++ [BodyEv.trailers trailers])
    (hchunks : chunks.flatten = Spec.GrpcWeb.framesBytes frames)
    (hframes : ∀ f ∈ frames, f.2.length < 4294967296)
    (htr : ∀ p ∈ trailers, nameOk p.1 ∧ valueOk p.2)
    (hlen : (encodeTrailers trailers).length < 4294967296) :
    (respond p reqBody st ih evs).status = st ∧
    TMap.getAll CONTENT_TYPE (respond p reqBody st ih evs).headers =
      [Spec.GrpcWeb.responseContentType pt] ∧
    (∀ k, k ≠ CONTENT_TYPE →
      TMap.getAll k (respond p reqBody st ih evs).headers = TMap.getAll k ih) ∧
    ∃ (outs : List Bytes) (t' : List Pair),
      (respond p reqBody st ih evs).body = outs.map Out.data ++ [Out.eos] ∧
      Spec.GrpcWeb.read pt outs.flatten =
        some (frames.map (fun f => Item.msg f.1 f.2) ++ [Item.trailers t']) ∧
      (∀ k, TMap.getAll k t' = TMap.getAll k trailers) ∧
      (∀ q, q ∈ t' ↔ q ∈ trailers) := by
  have ha : actionOf p = Action.web (encOf rt) (encOf pt) := by rw [actionOf_eq, hexp]
  have hr : respond p reqBody st ih evs =
      { status := st, headers := coerceResponse (encOf pt) ih, body := respRun (encOf pt) evs } := by
    simp [respond, serve, ha]
  obtain ⟨h1, h2⟩ := C16_coerce_response_headers (encOf pt) ih
  have hb : (encOf pt == Enc.base64) = pt := by cases pt <;> rfl
  rw [hb] at h1
  obtain ⟨outs, t', ho, hread, hk, hm⟩ :=
    C16_response_lossless (encOf pt) frames trailers chunks evs hsched hchunks hframes htr hlen
  rw [hb] at hread
  rw [hr]
  exact ⟨rfl, h1, h2, outs, t', ho, hread, hk, hm⟩

/-- The hypotheses of `C16_response_lossless` can be met: two frames cut inside the first prefix
and inside the second payload, a repeated trailer name and a value containing a colon, with a
`Pending` in between. -/
example :
    let frames : List (Bool × Bytes) := [(false, [1, 2, 3]), (true, [9])]
    let trailers : List Pair := [(TMap.str "grpc-status", TMap.str "0"), (TMap.str "x", TMap.str "a:b"),
      (TMap.str "grpc-status", TMap.str "7")]
    let chunks : List Bytes := [[0, 0], [0, 0, 3, 1, 2, 3, 1, 0, 0, 0, 1], [], [9]]
    let evs := [BodyEv.data [0, 0], .pending, .data [0, 0, 3, 1, 2, 3, 1, 0, 0, 0, 1], .data [], .data [9],
      .pending, .trailers trailers]
    evs.filter notPending = chunks.map BodyEv.data ++ [BodyEv.trailers trailers] ∧
    chunks.flatten = Spec.GrpcWeb.framesBytes frames ∧
    (∀ p ∈ trailers, nameOk p.1 ∧ valueOk p.2) ∧
    Spec.GrpcWeb.read true (dataOf (respRun Enc.base64 evs)) =
      some [Item.msg false [1, 2, 3], Item.msg true [9],
        Item.trailers [(TMap.str "grpc-status", TMap.str "0"), (TMap.str "grpc-status", TMap.str "7"),
          (TMap.str "x", TMap.str "a:b")]] := by
  intro frames trailers chunks evs
  rw [Spec.GrpcWeb.read, if_pos rfl, b64StreamDecode_eq]
  decide +kernel

example : reqRun Enc.base64 [.data (TMap.str "AAAAAA"), .pending, .data (TMap.str "IBA"), .data (TMap.str "g==")] =
    [Out.data [0, 0, 0], Out.data [0, 2, 1], Out.data [2], Out.eos] := by
  repeat rw [TMap.str_lit]
  decide +kernel

example : reqRun Enc.base64 [.data (TMap.str "AAAAAAIBA")] = [Out.data [0, 0, 0, 0, 2, 1], Out.err] := by
  repeat rw [TMap.str_lit]
  decide +kernel
example : reqRun Enc.base64 [.data (TMap.str "AQ==AQ==")] = [Out.err] := by
  repeat rw [TMap.str_lit]
  decide +kernel
-- the literals sit in the model's constants: unfold down to them
example : classify (TMap.str "GET") true (some GRPC_WEB_TEXT) none = Action.status 405 := by
  unfold classify isGrpcWeb GRPC_WEB GRPC_WEB_PROTO GRPC_WEB_TEXT GRPC_WEB_TEXT_PROTO
  repeat rw [TMap.str_lit]
  decide +kernel
example : classify (TMap.str "POST") false (some GRPC_WEB_TEXT) (some GRPC_WEB) = Action.web .base64 .none := by
  unfold classify isGrpcWeb encFromHeader GRPC_WEB GRPC_WEB_PROTO GRPC_WEB_TEXT GRPC_WEB_TEXT_PROTO
  repeat rw [TMap.str_lit]
  decide +kernel

-- a repeated content-type (the first one decides), `te` and `content-length` present, a custom
-- name repeated
example :
    let p : Parts := {
      method := TMap.str "POST", version := Ver.h11, uri := TMap.str "/a.B/C", ext := true,
      headers := [(CONTENT_TYPE, GRPC_WEB_TEXT), (TE, TMap.str "gzip"), (TMap.str "x-user", TMap.str "a"),
        (CONTENT_TYPE, GRPC_CONTENT_TYPE), (CONTENT_LENGTH, TMap.str "8"), (TMap.str "x-user", TMap.str "b"),
        (ACCEPT, GRPC_WEB_TEXT_PROTO)] }
    Spec.GrpcWeb.expectFor p.method (p.version == Ver.h2) p.headers = .web true true ∧
    serve p [.data (TMap.str "AAAAAAIBAg==")] =
      Served.inner { p with headers := [(TMap.str "x-user", TMap.str "a"), (TMap.str "x-user", TMap.str "b"),
          (ACCEPT, GRPC_WEB_TEXT_PROTO), (CONTENT_TYPE, GRPC_CONTENT_TYPE), (TE, TRAILERS),
          (ACCEPT_ENCODING, IDENTITY_DEFLATE_GZIP)] }
        [Out.data [0, 0, 0, 0, 2, 1, 2], Out.eos] (some Enc.base64) := by
  repeat rw [TMap.str_lit]
  decide +kernel

example :
    let p : Parts := {
      method := TMap.str "POST", version := Ver.h2, uri := TMap.str "/", ext := false,
      headers := [(CONTENT_TYPE, GRPC_CONTENT_TYPE), (TE, TMap.str "trailers")] }
    Spec.GrpcWeb.expectFor p.method (p.version == Ver.h2) p.headers = .pass := by decide +kernel

example :
    let p : Parts := {
      method := TMap.str "GET", version := Ver.h2, uri := TMap.str "/", ext := false,
      headers := [(CONTENT_TYPE, GRPC_WEB)] }
    Spec.GrpcWeb.expectFor p.method (p.version == Ver.h2) p.headers = .status 405 := by decide +kernel

/-! ### Hints of the translated bodies, the response head (audit aC16)

A body's hints (`size_hint`, `is_end_stream`) are read by whoever carries it — hyper writes `content-length` from an
exact size and cuts the body there.  `Spec.BodyHints.truthful` is what http-body promises of them; `reading h outs`
puts a hint next to what the body emits from that moment on.  The theorems are about EVERY state a body can be in
(`s` = the inner body's remaining events, `respRun enc s` / `reqBin s` / `reqText buf s` = what the consumer still
gets), for every inner hint that is itself truthful. -/

/-- **The response body's hints are truthful** (after the fix): in every state, for both forms, whatever truthful
hint the inner body gives — the translated body promises no upper bound, its lower bound is covered by what it
emits when it ends cleanly, and it says "end of stream" only when nothing but the end follows. -/
theorem C16_response_hints_truthful (enc : Enc) (s : List BodyEv) (h : Hint)
    (hlo : h.lo ≤ (flat s).length) (heos : h.eos = true → s.filter notPending = []) :
    Spec.BodyHints.truthful (reading (callHint .encode enc h) (respRun enc s)) = true := by
  rw [truthful_iff]
  refine ⟨?_, ?_, ?_⟩
  · intro u hu; simp [callHint] at hu
  · intro hc
    have := respRun_dataLen_ge enc s hc
    simp only [callHint]; omega
  · intro he
    have hs := heos (by simpa [callHint] using he)
    rw [respRun_filter, hs]
    exact ⟨rfl, rfl, rfl⟩

/-- **As found, they were not**: `size_hint` was forwarded from the inner body.  Witness: a body of exact size 0 that
still owes its trailers (what `Empty` / `Full` `.with_trailers(..)` report) — the translated body announced exactly
0 bytes and then emitted the 20-byte trailers frame.  Replayed on the real code as the first `hresp` / `wresp`
corpus lines (through hyper: HTTP/1 body cut off before the trailers frame, HTTP/2 stream reset). -/
theorem C16_response_hints_truthful_fails_as_found :
    ¬ ∀ (enc : Enc) (s : List BodyEv) (h : Hint), h.lo ≤ (flat s).length →
        (∀ u, h.hi = some u → (flat s).length ≤ u) → (h.eos = true → s.filter notPending = []) →
        Spec.BodyHints.truthful (reading (callHintAsFound .encode enc h) (respRun enc s)) = true := by
  intro H
  have := H .none [.trailers [(TMap.str "grpc-status", TMap.str "0")]] ⟨0, some 0, false⟩
    (by decide) (by intro u _; exact Nat.zero_le u) (by decide)
  revert this
  repeat rw [TMap.str_lit]
  decide +kernel

/-- **Binary request body: the inner hints hold as they are** — the data passes through unchanged, so the size
bounds and the end-of-stream hint of the request body are right for the body the inner service is handed. -/
theorem C16_request_binary_hints_truthful (s : List BodyEv) (h : Hint)
    (hlo : h.lo ≤ (flat s).length) (hhi : ∀ u, h.hi = some u → (flat s).length ≤ u)
    (heos : h.eos = true → s.filter notPending = []) :
    Spec.BodyHints.truthful (reading (callHint .decode .none h) (reqBin s)) = true := by
  rw [truthful_iff]
  refine ⟨?_, ?_, ?_⟩
  · intro u hu
    have := hhi u (by simpa [callHint] using hu)
    have := reqBin_dataLen_le s
    omega
  · intro hc
    rw [reqBin_dataLen_eq s hc]
    simpa [callHint] using hlo
  · intro he
    have hs := heos (by simpa [callHint] using he)
    rw [reqBin_filter, hs]
    exact ⟨rfl, rfl, rfl⟩

/-- **Text request body**: decoded data is shorter than the text, so (after the fix) the body gives no size at
all; its end-of-stream hint is the inner body's, and when that is raised the only thing left is the end — or, if
an undecodable remainder (1–3 characters) is still buffered, the error of a malformed body. -/
theorem C16_request_text_hints (buf : Bytes) (s : List BodyEv) (h : Hint)
    (heos : h.eos = true → s.filter notPending = []) :
    (callHint .decode .base64 h).lo = 0 ∧ (callHint .decode .base64 h).hi = none ∧
    ((callHint .decode .base64 h).eos = true →
      reqText buf s = if buf.isEmpty then [Out.eos] else [Out.err]) := by
  refine ⟨rfl, rfl, ?_⟩
  intro he
  have hs := heos (by simpa [callHint] using he)
  rw [reqText_filter, hs]
  rfl

/-- … consequently every reading of a text request body is truthful while no undecoded remainder is buffered. -/
theorem C16_request_text_hints_truthful (s : List BodyEv) (h : Hint)
    (heos : h.eos = true → s.filter notPending = []) :
    Spec.BodyHints.truthful (reading (callHint .decode .base64 h) (reqText [] s)) = true := by
  rw [truthful_iff]
  refine ⟨?_, ?_, ?_⟩
  · intro u hu; simp [callHint] at hu
  · intro _; simp [callHint]
  · intro he
    rw [(C16_request_text_hints [] s h heos).2.2 he]
    exact ⟨rfl, rfl, rfl⟩

/-- As found the text request body claimed the length of the base64 TEXT for the decoded data: `AQ==` (4
characters, exact size 4) decodes to one byte. -/
theorem C16_request_text_hints_fail_as_found :
    Spec.BodyHints.truthful (reading (callHintAsFound .decode .base64 ⟨4, some 4, false⟩)
      (reqText [] [.data (TMap.str "AQ==")])) = false := by
  decide +kernel

/-- **`Body::new` around a translated body** (`coerce_request`, `coerce_response`, the pass-through arm): when the
wrapped body is truthful about being at its end, taking it for `Body::empty()` loses nothing, and the wrapper's
hints are truthful whenever the wrapped body's are. -/
theorem C16_body_new_truthful (first now : Hint) (run : List Out)
    (hfirst : first.eos = true → run = [Out.eos])
    (hnow : Spec.BodyHints.truthful (reading now run) = true) :
    bodyNewRun first run = run ∧
    Spec.BodyHints.truthful (reading (bodyNew first now) (bodyNewRun first run)) = true := by
  cases he : first.eos with
  | false => simp [bodyNewRun, bodyNew, he, hnow]
  | true =>
    have hr := hfirst he
    subst hr
    refine ⟨by simp [bodyNewRun, he], ?_⟩
    simp [bodyNewRun, bodyNew, he]
    decide

/-- **The response head comes back as the inner service made it**, except for `content-type`: status, HTTP
version and extensions are kept (any status, not only 200 — a trailers-only answer with `grpc-status` among its
headers included), exactly one `content-type` of the accepted form, every other header value in place.
Conjuncts 1–3 (status, version, extensions kept) are transcription lemmas: `coerceResponseHead a h :=
{ h with headers := … }` touches no other field, so they are `rfl`; that `coerce_response` keeps them in
tonic-web is carried by the correspondence run (response heads compared token for token).  Conjuncts 4–5
are `C16_coerce_response_headers`, which has content. -/
theorem C16_response_head_kept (a : Enc) (h : RespHead) :
    (coerceResponseHead a h).status = h.status ∧
    (coerceResponseHead a h).version = h.version ∧
    (coerceResponseHead a h).ext = h.ext ∧
    TMap.getAll CONTENT_TYPE (coerceResponseHead a h).headers =
      [Spec.GrpcWeb.responseContentType (a == Enc.base64)] ∧
    ∀ k, k ≠ CONTENT_TYPE →
      TMap.getAll k (coerceResponseHead a h).headers = TMap.getAll k h.headers := by
  obtain ⟨h1, h2⟩ := C16_coerce_response_headers a h.headers
  exact ⟨rfl, rfl, rfl, h1, h2⟩

-- non-vacuity: a truthful exact hint on a body with data and trailers; the readings the fixed code gives
example :
    let s : List BodyEv := [.data [0, 0, 0, 0, 1, 7], .pending, .trailers [(TMap.str "grpc-status", TMap.str "0")]]
    let h : Hint := ⟨6, some 6, false⟩
    h.lo ≤ (flat s).length ∧ (flat s).length ≤ 6 ∧
    callHint .encode .base64 h = ⟨6, none, false⟩ ∧
    dataLen (respRun .base64 s) = 36 ∧
    respHints (fun s => ⟨(flat s).length, some (flat s).length, s.isEmpty⟩) .none s =
      [⟨6, none, false⟩, ⟨0, none, false⟩, ⟨0, none, true⟩] := by
  repeat rw [TMap.str_lit]
  decide +kernel

end C16
