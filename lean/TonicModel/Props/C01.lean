import TonicModel.Lemmas.FramingWire
import TonicModel.Lemmas.RichErrorWire
import TonicModel.Lemmas.FramingOps
import TonicModel.Model.FramingBuf
/-
C01 — Message streams survive encode/decode unchanged under any chunking.
The encoder's bytes do not depend on the source's readiness or on the buffer settings, the decoder
reads them back from any cutting into chunks, and the two compose; the invariants are in
Lemmas/Framing*.lean.  The second half of the file is about the codec's buffer views
(`codec/buffer.rs`, `Model/FramingBuf.lean`) and how they feed the framing model.
-/
namespace C01
open Framing Spec.Framing
variable {α : Type}

/-- the messages of a schedule (its `item` events), in order -/
def itemsOf : List (SrcEv α) → List α
  | [] => []
  | .item m :: r => m :: itemsOf r
  | _ :: r => itemsOf r

/-- a schedule for the success path: items and `Pending`s only, every item encodable -/
def Successful (cd : Codec α) (cfg : EncCfg) : List (SrcEv α) → Prop
  | [] => True
  | .pending :: r => Successful cd cfg r
  | .item m :: r => encodeErr cd cfg m = none ∧ Successful cd cfg r
  | .err _ :: _ => False

private theorem okPrefix_of_successful (cd : Codec α) (cfg : EncCfg) (evs : List (SrcEv α))
    (h : Successful cd cfg evs) : okPrefix cd cfg evs = itemsOf evs ∧ finalSt cd cfg evs = none := by
  induction evs with
  | nil => simp [okPrefix, itemsOf, finalSt]
  | cons ev r ih =>
    cases ev with
    | pending => simpa [okPrefix, itemsOf, finalSt] using ih h
    | err st => exact absurd h (by simp [Successful])
    | item m =>
      obtain ⟨he, hr⟩ := h
      simp [okPrefix, itemsOf, finalSt, he, ih hr]

/-- **Encoder bytes are independent of readiness and batching.**  For every schedule of the
message source (any placement of `Pending`), every yield threshold, encoding, override and
role, polling the body to exhaustion emits chunks whose concatenation is exactly the
specification's framing of the messages — flag, 4-byte big-endian length, payload — in order;
no chunk is empty and every chunk consists of whole frames (never split mid-frame). -/
theorem C01_bytes_independent_of_schedule (cd : Codec α) (cfg : EncCfg) (evs : List (SrcEv α))
    (h : Successful cd cfg evs) (n : Nat) (hn : evs.length + 1 < n) :
    ∃ pre post, Enc.run cd cfg n Enc.init evs = pre ++ post ∧
      (∀ o ∈ post, ∀ d, o ≠ .data d) ∧
      (∀ o ∈ pre, GoodChunk cd cfg o) ∧
      dataConcat pre = Spec.Framing.frames ((itemsOf evs).map (fun m => (flagByte cfg, payload cd cfg m))) := by
  obtain ⟨hok, hfin⟩ := okPrefix_of_successful cd cfg evs h
  cases hs : cfg.server with
  | true =>
    obtain ⟨pre, hrun, hgood, hdata, _⟩ := run_server cd cfg hs n none evs (by simp; omega)
    refine ⟨pre, _, by rw [Enc.init, hrun, List.append_assoc], ?_, hgood, ?_⟩
    · intro o ho d hd
      subst hd
      simp at ho
    · rw [hdata, owedData, hok, framesOf_eq_spec]
  | false =>
    obtain ⟨pre, hgood, hdata, _, hrun⟩ := run_client cd cfg hs n none evs (by simp; omega)
    simp only [owedSt, hfin] at hrun
    refine ⟨pre, _, by rw [Enc.init, hrun], ?_, hgood, ?_⟩
    · intro o ho d hd
      subst hd
      simp at ho
    · rw [hdata, owedData, hok, framesOf_eq_spec]

/-- what `EncodeBody::new_server` puts in front of a message's bytes: flag 1 and the compressed
serialization iff an encoding is configured and the response did not opt out -/
def serverWire (cd : Codec α) (comp : Option Enc) (ovr : Override) (m : α) : UInt8 × Bytes :=
  match ovr, comp with
  | .inherit, some e => (1, cd.cz e (cd.ser m))
  | _, _ => (0, cd.ser m)

/-- **…with or without the per-response opt-out.**  `C01_bytes_independent_of_schedule` for a
server body built by `EncodeBody::new_server` from the *configured* encoding and the response's
`SingleMessageCompressionOverride`: with `Disable` every frame is flag 0 + the plain
serialization whatever encoding is configured, with `Inherit` flag 1 + the compressed
serialization iff an encoding is configured — for every schedule, threshold and buffer size. -/
theorem C01_bytes_independent_of_schedule_and_override (cd : Codec α) (comp : Option Enc) (ovr : Override)
    (y b : Nat) (mx : Option Nat) (evs : List (SrcEv α))
    (h : Successful cd (Enc.newServer comp ovr y b mx) evs) (n : Nat) (hn : evs.length + 1 < n) :
    ∃ pre post, Enc.run cd (Enc.newServer comp ovr y b mx) n Enc.init evs = pre ++ post ∧
      (∀ o ∈ post, ∀ d, o ≠ .data d) ∧
      (∀ o ∈ pre, GoodChunk cd (Enc.newServer comp ovr y b mx) o) ∧
      dataConcat pre = Spec.Framing.frames ((itemsOf evs).map (serverWire cd comp ovr)) := by
  obtain ⟨pre, post, h1, h2, h3, h4⟩ :=
    C01_bytes_independent_of_schedule cd (Enc.newServer comp ovr y b mx) evs h n hn
  refine ⟨pre, post, h1, h2, h3, ?_⟩
  rw [h4]
  congr 1
  apply List.map_congr_left
  intro m _
  cases ovr <;> cases comp <;> simp [serverWire, Enc.newServer, flagByte, Framing.payload]

/-- A request body has no opt-out: `EncodeBody::new_client` uses the configured encoding. (Transcription lemma: it holds by unfolding the model's definition, so it pins the model's shape for the correspondence run — its assurance about tonic is the tie, not this proof.) -/
theorem C01_client_has_no_override (comp : Option Enc) (y b : Nat) (mx : Option Nat) :
    (Enc.newClient comp y b mx).comp = comp ∧ (Enc.newClient comp y b mx).server = false := ⟨rfl, rfl⟩

/-- **Any buffer settings.**  For every `buffer_size` — zero included — (1) no poll of the
encoder panics, (2) every poll result, hence every emitted byte, is what it is for any other
buffer size, and (3) the `compress` / `decompress` calls, whose reserve computation is the only
place the buffer size enters (`Framing.reserveCap`, division explicit, panic an outcome), return
without panicking exactly what the compressor / decompressor returns — which is what the
decoder model's `Dec.readBody` works with, so the decoded messages do not depend on it either. -/
theorem C01_buffer_size_irrelevant (cd : Codec α) (cfg : EncCfg) (k : Nat) (n : Nat) (b : BodySt)
    (evs : List (SrcEv α)) :
    (∀ o ∈ Enc.run cd { cfg with bufSize := k } n b evs, o ≠ .panic) ∧
    Enc.run cd { cfg with bufSize := k } n b evs = Enc.run cd cfg n b evs ∧
    (∀ e raw, compressCall cd k e raw = some (cd.cz e raw)) ∧
    (∀ e pl, decompressCall cd k e pl = some (cd.dz e pl)) :=
  ⟨run_ne_panic cd _ n b evs, run_bufSize cd cfg k n b evs, compressCall_eq cd k, decompressCall_eq cd k⟩

/-- **The code as found violated it**: with `buffer_size = 0` the reserve computation of
`compress` / `decompress` divided by zero for every input length (rev1 §1; repaired by the fix
commit "a zero buffer_size no longer divides by zero when (de)compressing"; witnesses
`enc … gzip … 0 … EV i010203` / `dec req gzip none 0 …` stay in the C01 and C07 corpus). -/
theorem C01_buffer_size_irrelevant_fails :
    ¬ (∀ (cd : Codec Bytes) (k : Nat) (e : Enc) (raw : Bytes),
        Found.compressCall cd k e raw = some (cd.cz e raw) ∧
        Found.decompressCall cd k e raw = some (cd.dz e raw)) := by
  intro h
  have := (h { ser := id, de := some, deErr := 13, cz := fun _ b => b, dz := fun _ b => some b } 0 .gzip [1, 2, 3]).1
  simp [Found.compressCall, Found.reserveCap, udiv] at this

/-- `C01_decode_any_chunking` below, with the codec law required only of the messages actually sent. -/
theorem C01_decode_any_chunking_on (cd : Codec α) (cfg : DecCfg) (hgrpc : cfg.skipsBody = false)
    (xs : List (Sent α)) (laws : CodecLawsOn cd xs) (hxs : ∀ x ∈ xs, SentOk cd cfg x)
    (evs : List BodyEv) (hclean : CleanEvs evs = true)
    (hcut : dataOf evs = Spec.Framing.frames (xs.map (wireOf cd cfg.enc)))
    (hend : EndOk cfg Dec.init evs)
    (n : Nat) (hn : evs.length + xs.length < n) :
    ∃ k, 1 ≤ k ∧ nonPending (Dec.run cd cfg n Dec.init evs)
      = (xs.map (fun x => Item.msg x.msg)) ++ List.replicate k .none := by
  have hx : specFrom cd cfg Dec.init (accepted cfg evs) = (xs.map (·.msg), .clean) := by
    rw [specFrom_init, accepted_keep hgrpc, hcut]
    exact batch_wire_on cd cfg xs laws hxs
  obtain ⟨k, hk, hrun⟩ := run_clean cd cfg n Dec.init evs (xs.map (·.msg)) (phaseOk_init cfg)
    hclean hend hx (by simpa using hn)
  exact ⟨k, hk, by simpa [List.map_map, Function.comp_def] using hrun⟩

/-- **Any chunking, any readiness pattern decodes to the original messages.**  Let a sender
frame messages `xs` (each identity or compressed with the negotiated encoding, each within the
receive limit), and let the body deliver those bytes cut at *arbitrary* positions — `evs` is
any list of data chunks and `Pending`s whose data concatenates to the wire bytes, optionally
ended by OK trailers.  Then the decoder yields exactly the messages, in order, then the end of
the stream (and `None` on every later poll).  `hgrpc`: the body is a gRPC message stream — a
request, or a response with HTTP status 200; the body of a response with any other HTTP status is
not parsed at all (it is classified by that status: `C04_http_table_any_body`). -/
theorem C01_decode_any_chunking (cd : Codec α) (cfg : DecCfg) (hgrpc : cfg.skipsBody = false) (laws : CodecLaws cd)
    (xs : List (Sent α)) (hxs : ∀ x ∈ xs, SentOk cd cfg x)
    (evs : List BodyEv) (hclean : CleanEvs evs = true)
    (hcut : dataOf evs = Spec.Framing.frames (xs.map (wireOf cd cfg.enc)))
    (hend : EndOk cfg Dec.init evs)
    (n : Nat) (hn : evs.length + xs.length < n) :
    ∃ k, 1 ≤ k ∧ nonPending (Dec.run cd cfg n Dec.init evs)
      = (xs.map (fun x => Item.msg x.msg)) ++ List.replicate k .none :=
  C01_decode_any_chunking_on cd cfg hgrpc xs (laws.on xs) hxs evs hclean hcut hend n hn

/-! ### The codec parameter discharged for a real prost message

`RichError.prost` is the concrete protobuf wire model of prost 0.13 (tied to the real prost by
C20's correspondence, bytes compared exactly).  Instantiating the framing model's codec with
`google.rpc.Status` messages removes the "message codec round-trips" hypothesis: what remains
assumed is only the compressors' law. -/

/-- the framing codec whose messages are `google.rpc.Status` values, encoded by the prost model -/
def statusCodec (cz : Enc → Bytes → Bytes) (dz : Enc → Bytes → Option Bytes) : Codec RichError.PbStatus where
  ser := RichError.prost.encStatus
  de := RichError.prost.decStatus
  deErr := 13
  cz := cz
  dz := dz

/-- **Protobuf messages survive framing under any chunking — no codec hypothesis.**  Any list of
well-formed `google.rpc.Status` messages (int32 code, UTF-8 message and type URLs, arbitrary
`Any` payloads), serialized by the prost wire model, framed (identity or compressed), cut at
arbitrary byte positions with arbitrary `Pending`s, decodes to exactly those messages. -/
theorem C01_decode_protobuf_any_chunking (cz : Enc → Bytes → Bytes) (dz : Enc → Bytes → Option Bytes)
    (hz : ∀ e b, dz e (cz e b) = some b) (cfg : DecCfg) (hgrpc : cfg.skipsBody = false)
    (xs : List (Sent RichError.PbStatus)) (hwf : ∀ x ∈ xs, RichError.WFs x.msg)
    (hxs : ∀ x ∈ xs, SentOk (statusCodec cz dz) cfg x)
    (evs : List BodyEv) (hclean : CleanEvs evs = true)
    (hcut : dataOf evs = Spec.Framing.frames (xs.map (wireOf (statusCodec cz dz) cfg.enc)))
    (hend : EndOk cfg Dec.init evs)
    (n : Nat) (hn : evs.length + xs.length < n) :
    ∃ k, 1 ≤ k ∧ nonPending (Dec.run (statusCodec cz dz) cfg n Dec.init evs)
      = (xs.map (fun x => Item.msg x.msg)) ++ List.replicate k .none :=
  C01_decode_any_chunking_on (statusCodec cz dz) cfg hgrpc xs
    ⟨fun x hx => RichError.prost_status_law x.msg (hwf x hx), hz⟩ hxs evs hclean hcut hend n hn

private theorem dataConcat_of_no_data (post : List FrameOut) (h : ∀ o ∈ post, ∀ d, o ≠ .data d) :
    dataConcat post = [] := by
  induction post with
  | nil => rfl
  | cons o os ih =>
    have ho : o.bytes = [] := by
      cases o with
      | data d => exact absurd rfl (h _ List.mem_cons_self d)
      | _ => rfl
    rw [dataConcat_cons, ho, ih fun o' ho' => h o' (List.mem_cons_of_mem _ ho')]
    rfl

/-- **Round trip.**  Whatever the encoder emitted for a successful schedule, re-cut arbitrarily
by the transport and delivered with arbitrary readiness, decodes to the schedule's messages. -/
theorem C01_roundtrip (cd : Codec α) (laws : CodecLaws cd) (ecfg : EncCfg) (dcfg : DecCfg)
    (hgrpc : dcfg.skipsBody = false)
    (src : List (SrcEv α)) (hsrc : Successful cd ecfg src)
    (hneg : ecfg.comp = none ∨ ecfg.comp = dcfg.enc)
    (hfit : ∀ m ∈ itemsOf src, (payload cd ecfg m).length ≤ dcfg.limit ∧ (payload cd ecfg m).length < 4294967296)
    (ne : Nat) (hne : src.length + 1 < ne)
    (evs : List BodyEv) (hclean : CleanEvs evs = true)
    (hcut : ∃ pre post, Enc.run cd ecfg ne Enc.init src = pre ++ post ∧ (∀ o ∈ post, ∀ d, o ≠ .data d) ∧
        dataOf evs = dataConcat pre)
    (hend : EndOk dcfg Dec.init evs)
    (n : Nat) (hn : evs.length + (itemsOf src).length < n) :
    ∃ k, 1 ≤ k ∧ nonPending (Dec.run cd dcfg n Dec.init evs)
      = (itemsOf src).map Item.msg ++ List.replicate k .none := by
  obtain ⟨pre, post, hrun, hpost, hdata⟩ := hcut
  obtain ⟨pre', post', hrun', hpost', _, hdata'⟩ := C01_bytes_independent_of_schedule cd ecfg src hsrc ne hne
  -- the data-carrying outputs of a run are determined by the run
  have hsame : dataConcat pre = dataConcat pre' := by
    have h := congrArg dataConcat (hrun.symm.trans hrun')
    rwa [dataConcat_append, dataConcat_append, dataConcat_of_no_data post hpost,
      dataConcat_of_no_data post' hpost', List.append_nil, List.append_nil] at h
  let xs : List (Sent α) := (itemsOf src).map (fun m => ⟨m, ecfg.comp.isSome⟩)
  have hwire : ∀ m, wireOf cd dcfg.enc ⟨m, ecfg.comp.isSome⟩ = (flagByte ecfg, payload cd ecfg m) := by
    intro m
    rcases hneg with h | h
    · simp [wireOf, flagByte, Framing.payload, h]
    · cases hc : ecfg.comp with
      | none => simp [wireOf, flagByte, Framing.payload, hc]
      | some e => rw [hc] at h; simp [wireOf, flagByte, Framing.payload, hc, ← h]
  have := C01_decode_any_chunking cd dcfg hgrpc laws xs
    (by
      intro x hx
      simp only [xs, List.mem_map] at hx
      obtain ⟨m, hm, rfl⟩ := hx
      simp only [SentOk, hwire]
      exact hfit m hm)
    evs hclean
    (by rw [hdata, hsame, hdata']; simp [xs, List.map_map, Function.comp_def, hwire])
    hend n (by simpa [xs] using hn)
  simpa [xs, List.map_map, Function.comp_def] using this

/- Non-vacuity: a 3-message stream cut inside the second length prefix satisfies the hypotheses
of `C01_decode_any_chunking` (identity codec on bytes, no compression). -/
def idCodec : Codec Bytes := { ser := id, de := some, deErr := 13, cz := fun _ b => b, dz := fun _ b => some b }

example : CodecLaws idCodec := ⟨fun _ => rfl, fun _ _ => rfl⟩

example :
    let cfg : DecCfg := { enc := none, maxSize := none, dir := .request }
    let xs : List (Sent Bytes) := [⟨[1, 2, 3], false⟩, ⟨[], false⟩, ⟨[9], false⟩]
    let evs : List BodyEv := [.data [0, 0, 0], .data [0, 3, 1, 2], .pending, .data [3, 0, 0, 0], .data [0, 0, 0, 0, 0, 0, 1, 9]]
    CleanEvs evs = true ∧ dataOf evs = Spec.Framing.frames (xs.map (wireOf idCodec cfg.enc)) ∧
      cfg.skipsBody = false ∧ (∀ x ∈ xs, SentOk idCodec cfg x) := by
  refine ⟨by decide +kernel, by decide +kernel, by decide +kernel, ?_⟩
  intro x hx
  simp only [List.mem_cons, List.not_mem_nil, or_false] at hx
  rcases hx with rfl | rfl | rfl <;> simp [SentOk, wireOf, idCodec, DecCfg.limit, defaultMaxRecv]

/-! ### Audit aC01: the other consumer entry points, and the codec's buffer views (codec/buffer.rs) -/

/-- Transcription lemma: this is the pair of `runOps_polls` (= `C07_message_is_poll_next`: `Op.next` and `Op.message`
are one and the same match arm of `Dec.stepOp`, so the first conjunct is true by construction of the model) and
`C01_decode_any_chunking` VERBATIM (second conjunct) — it adds no proof obligation of its own.  It records how
the two combine: in the model a consumer that mixes `Stream::poll_next` and `Streaming::message()` in any order
(a fresh `message()` future per call, dropped after a `Pending`) sees call by call what `poll_next` alone sees,
hence exactly the messages and then the end of the stream.  That the real `message()` is one `poll_next` is
carried by the correspondence run (`xdec` cases on valid streams with `message()` consumers), not by this proof. -/
theorem C01_decode_any_chunking_any_consumer (cd : Codec α) (cfg : DecCfg) (hgrpc : cfg.skipsBody = false)
    (laws : CodecLaws cd) (xs : List (Sent α)) (hxs : ∀ x ∈ xs, SentOk cd cfg x)
    (evs : List BodyEv) (hclean : CleanEvs evs = true)
    (hcut : dataOf evs = Spec.Framing.frames (xs.map (wireOf cd cfg.enc)))
    (hend : EndOk cfg Dec.init evs)
    (fuel : Nat) (ops : List Op) (hops : ∀ op ∈ ops, op.isPoll = true) (hn : evs.length + xs.length < ops.length) :
    Dec.runOps cd cfg fuel ops Dec.init evs = (Dec.run cd cfg ops.length Dec.init evs).map .item ∧
    ∃ k, 1 ≤ k ∧ nonPending (Dec.run cd cfg ops.length Dec.init evs)
      = (xs.map (fun x => Item.msg x.msg)) ++ List.replicate k .none :=
  ⟨runOps_polls cd cfg fuel ops Dec.init evs hops,
   C01_decode_any_chunking cd cfg hgrpc laws xs hxs evs hclean hcut hend ops.length hn⟩

private theorem dbuf_step_eq (d : DBuf) (op : RdOp) :
    d.step op = if op.size ≤ d.len ∧ op.size ≤ d.buf.length
      then some (d.buf.take op.size, ⟨d.buf.drop op.size, d.len - op.size⟩) else none := by
  cases op with
  | copyToBytes k => rfl
  | chunkAdvance k =>
    have hc : d.chunk = d.buf.take d.len := by
      unfold DBuf.chunk
      split
      · rfl
      · exact (List.take_of_length_le (by omega)).symm
    simp only [DBuf.step, DBuf.advance, RdOp.size, hc, List.length_take, List.take_take, Nat.le_min]
    by_cases h : k ≤ d.len ∧ k ≤ d.buf.length
    · simp [h, Nat.min_eq_left h.1]
    · simp [h]

private theorem dbuf_read_spec : ∀ (ops : List RdOp) (d : DBuf) (out : Bytes) (d' : DBuf),
    DBuf.read ops d = some (out, d') →
    ∃ k, k ≤ d.len ∧ k ≤ d.buf.length ∧ out = d.buf.take k ∧ d'.buf = d.buf.drop k ∧ d'.len = d.len - k
  | [], d, out, d', h => by
    cases h
    exact ⟨0, Nat.zero_le _, Nat.zero_le _, rfl, rfl, rfl⟩
  | op :: ops, d, out, d', h => by
    rw [DBuf.read, dbuf_step_eq] at h
    by_cases hk : op.size ≤ d.len ∧ op.size ≤ d.buf.length
    · rw [if_pos hk] at h
      dsimp only at h
      obtain ⟨r, hr, he⟩ := Option.map_eq_some_iff.mp h
      cases he
      obtain ⟨k2, hk2, hk2b, ho2, hbuf2, hlen2⟩ := dbuf_read_spec ops _ r.1 r.2 hr
      simp only [List.length_drop] at hk2 hk2b ho2 hbuf2 hlen2
      exact ⟨op.size + k2, by omega, by omega, by rw [ho2, List.take_add], by rw [hbuf2, List.drop_drop],
        by rw [hlen2]; omega⟩
    · rw [if_neg hk] at h
      cases h

/-- **`DecodeBuf` is exactly the payload window** — a fact about the free-standing buffer model
`Model/FramingBuf.lean` (`DBuf`), in which `Dec.readBody` does not occur; the link to the framing model is the
separate theorem `C01_decode_buf_feeds_readBody` below.  `decode_chunk` hands the message decoder a
`DecodeBuf` over the stream buffer `buf` with `len` = the frame's declared length.  Whatever the decoder does
with the `Buf` API — any read program of `chunk`/`advance` steps (which is what `get_u8`, `copy_to_slice`,
`take`, … are) and `copy_to_bytes` calls — if it does not panic, the bytes it has read are a prefix of the
payload `buf.take len` (never a byte of the frames behind it), the stream buffer has lost exactly those
bytes, and a decoder that reads to `remaining() = 0` has read exactly `buf.take len` and leaves
`buf.drop len`.  (No hypothesis `len ≤ buf.length` — the `ReadBody` guard — is needed for this.) -/
theorem C01_decode_buf_is_the_payload_window (ops : List RdOp) (buf : Bytes) (len : Nat)
    (out : Bytes) (d' : DBuf) (h : DBuf.read ops ⟨buf, len⟩ = some (out, d')) :
    d'.len ≤ len ∧ out = buf.take (len - d'.len) ∧ d'.buf = buf.drop (len - d'.len) ∧
    (d'.remaining = 0 → out = buf.take len ∧ d'.buf = buf.drop len) := by
  obtain ⟨k, hk, _, hout, hbuf, hlen⟩ := dbuf_read_spec ops ⟨buf, len⟩ out d' h
  simp only at hk hout hbuf hlen
  have hk' : len - d'.len = k := by omega
  refine ⟨by omega, by rw [hk']; exact hout, by rw [hk']; exact hbuf, ?_⟩
  intro h0
  have : k = len := by simp only [DBuf.remaining] at h0; omega
  subst this
  exact ⟨hout, hbuf⟩

/-- …and a decoder that stays inside the window never trips one of `DecodeBuf`'s `assert!`s: a
read program whose sizes add up to at most `len` (with `len ≤ buf.length`) runs to its end. -/
theorem C01_decode_buf_no_panic_inside_the_window : ∀ (ops : List RdOp) (buf : Bytes) (len : Nat),
    len ≤ buf.length → (ops.map RdOp.size).sum ≤ len → (DBuf.read ops ⟨buf, len⟩).isSome = true
  | [], _, _, _, _ => rfl
  | op :: ops, buf, len, hlen, hsum => by
    simp only [List.map_cons, List.sum_cons] at hsum
    have ih := C01_decode_buf_no_panic_inside_the_window ops (buf.drop op.size) (len - op.size)
      (by simp; omega) (by omega)
    rw [DBuf.read, dbuf_step_eq, if_pos (by constructor <;> dsimp only <;> omega)]
    simpa using ih

private theorem bmPutBuf_eq : ∀ (segs : List Bytes) (buf : Bytes), bmPutBuf buf segs = buf ++ segs.flatten
  | [], buf => by simp [bmPutBuf]
  | s :: segs, buf => by simp [bmPutBuf, bmPutSlice, bmPutBuf_eq segs]

/-- Transcription lemma: every `WrOp.apply` is DEFINED as `buf ++ <its own bytes>` and `WrOp.bytes` is that same right
operand, so this is "a left fold of appends is the append of the flattening" — it holds for any op type and
says nothing about `encodeItem` or `cd.ser` (neither occurs in it).  What it records: in the buffer model
(`Model/FramingBuf.lean`) a write program of `put_slice`, `put` of any (non-contiguous) `Buf`, `put_bytes`,
`chunk_mut` + `advance_mut`, `reserve`, in any order, leaves the buffer before it untouched and followed by
the concatenation of what was written.  That the real `EncodeBuf` / `BytesMut` only append is carried by the
correspondence run (`xenc` cases: 8 write styles, predicted as the wrapped `enc` case).  The link to the framing
model — what `encodeItem` appends is what ANY write program producing `cd.ser m` leaves — is
`C01_encode_buf_feeds_encodeItem` below, which uses this lemma. -/
theorem C01_encode_buf_appends : ∀ (ops : List WrOp) (buf : Bytes),
    writeAll buf ops = buf ++ (ops.map WrOp.bytes).flatten
  | [], buf => by simp [writeAll]
  | op :: ops, buf => by
    rw [writeAll, C01_encode_buf_appends ops]
    cases op <;> simp [WrOp.apply, WrOp.bytes, bmPutSlice, bmPutBuf_eq]

/-! ### The two worlds joined: the buffer views and the framing model's `Dec.readBody` / `encodeItem`

`Model/Framing.lean` abstracts the codec to `de : Bytes → Option α` / `ser : α → Bytes`.  The next three theorems
mention both models: a decoder that is a read program on its `DecodeBuf` followed by a parse of what it read,
and an encoder that is a write program on its `EncodeBuf`, give exactly the `Dec.readBody` / `encodeItem` of the
framing model.  (The correspondence cases `rdec` / `xenc` are still predicted as the wrapped `dec` / `enc` case:
these theorems are about the two MODELS.) -/

/-- **What `Dec.readBody` passes to `cd.de` and keeps is what a decoder reading its `DecodeBuf` to the end gets
and leaves** (identity-encoded frame).  State `s` with the whole payload buffered (`len ≤ s.buf.length`, the
`ReadBody` guard): for EVERY read program on `DecodeBuf { buf: s.buf, len }` that does not panic and consumes
its window (`remaining() = 0`, as `ProstDecoder` does — a decoder that stopped early would leave payload bytes
in the stream buffer, which the framing model does not describe), `Dec.readBody` is: `cd.de` applied to the
bytes that program read, and the stream buffer that program left. -/
theorem C01_decode_buf_feeds_readBody (cd : Codec α) (s : DecSt) (len : Nat) (hlen : len ≤ s.buf.length)
    (ops : List RdOp) (out : Bytes) (d' : DBuf)
    (h : DBuf.read ops ⟨s.buf, len⟩ = some (out, d')) (h0 : d'.remaining = 0) :
    Dec.readBody cd s len none =
      (match cd.de out with
       | none => ({ s with buf := d'.buf, ph := .body len none }, .fail ⟨cd.deErr, .codec⟩)
       | some m => ({ s with buf := d'.buf, ph := .hdr }, .item m)) := by
  obtain ⟨_, _, _, hfull⟩ := C01_decode_buf_is_the_payload_window ops s.buf len out d' h
  obtain ⟨hout, hbuf⟩ := hfull h0
  have hn : ¬ s.buf.length < len := by omega
  simp only [Dec.readBody, hn, ↓reduceIte, hout, hbuf]
  cases cd.de (List.take len s.buf) <;> rfl

/-- …and for a compressed frame: `decode_chunk` decompresses the payload `s.buf.take len` into its scratch
buffer, advances the stream buffer by `len`, and hands the decoder a `DecodeBuf` over the WHOLE scratch buffer
(`DecodeBuf::new(&mut self.decompress_buf, decompressed_len)`).  For every read program on that view that
consumes it, `Dec.readBody` is `cd.de` applied to what the program read; the stream buffer is `s.buf.drop len`
whatever the decoder does. -/
theorem C01_decode_buf_feeds_readBody_compressed (cd : Codec α) (s : DecSt) (len : Nat) (hlen : len ≤ s.buf.length)
    (e : Enc) (raw : Bytes) (hz : cd.dz e (s.buf.take len) = some raw)
    (ops : List RdOp) (out : Bytes) (d' : DBuf)
    (h : DBuf.read ops ⟨raw, raw.length⟩ = some (out, d')) (h0 : d'.remaining = 0) :
    d'.buf = [] ∧
    Dec.readBody cd s len (some e) =
      (match cd.de out with
       | none => ({ s with buf := s.buf.drop len, ph := .body len (some e) }, .fail ⟨cd.deErr, .codec⟩)
       | some m => ({ s with buf := s.buf.drop len, ph := .hdr }, .item m)) := by
  obtain ⟨_, _, _, hfull⟩ := C01_decode_buf_is_the_payload_window ops raw raw.length out d' h
  obtain ⟨hout, hbuf⟩ := hfull h0
  have hn : ¬ s.buf.length < len := by omega
  refine ⟨by simpa using hbuf, ?_⟩
  simp only [Dec.readBody, hn, ↓reduceIte, hz, hout, List.take_length]
  cases cd.de raw <;> rfl

/-- `encode_item` written at the level of the buffer (codec/encode.rs): remember `offset = buf.len()`, reserve and
skip the 5 header bytes (`advance_mut(HEADER_SIZE)`; their content is whatever — zeros here), let the encoder
run its write program `ops` on an `EncodeBuf` over `buf` itself (identity) or over the cleared scratch buffer
whose content `compress` then appends to `buf` (compressed), and let `finish_encoding` write flag and
big-endian length of everything behind the header INTO the reserved bytes `buf[offset .. offset + 5]`. -/
def encodeItemViaBuf (cd : Codec α) (cfg : EncCfg) (buf : Bytes) (ops : List WrOp) : Bytes :=
  let offset := buf.length
  let b1 := buf ++ List.replicate headerSize 0
  let b2 := match cfg.comp with
    | some e => b1 ++ cd.cz e (writeAll [] ops)
    | none => writeAll b1 ops
  let len := b2.length - offset - headerSize
  b2.take offset ++ (flagByte cfg :: u32be len) ++ b2.drop (offset + headerSize)

/-- **What `encodeItem` appends is what every write program producing the serialization leaves.**  For every
write program `ops` on the `EncodeBuf` whose written bytes are `cd.ser m` — in whatever calls, segments and
order — the buffer-level `encode_item` (`encodeItemViaBuf`: header reserved, program run, header patched in
place) yields exactly the framing model's `encodeItem cd cfg buf m`: the batch buffer before it untouched, then
flag, length, payload.  (Hypothesis `he`: the message is not refused — `Encoder::encode` succeeded and the size
checks of `finish_encoding` passed; the refusals are `C06_encode_limit`.) -/
theorem C01_encode_buf_feeds_encodeItem (cd : Codec α) (cfg : EncCfg) (buf : Bytes) (m : α) (ops : List WrOp)
    (hops : (ops.map WrOp.bytes).flatten = cd.ser m) (he : encodeErr cd cfg m = none) :
    encodeItem cd cfg buf m = .ok (encodeItemViaBuf cd cfg buf ops) := by
  -- with the payload `pl` behind the reserved bytes, patching them leaves `buf` in front and `pl` behind
  have patch : ∀ pl : Bytes, buf ++ flagByte cfg :: (u32be pl.length ++ pl) =
      (buf ++ List.replicate 5 (0 : UInt8) ++ pl).take buf.length ++
        (flagByte cfg :: u32be ((buf ++ List.replicate 5 (0 : UInt8) ++ pl).length - buf.length - 5)) ++
        (buf ++ List.replicate 5 (0 : UInt8) ++ pl).drop (buf.length + 5) := by
    intro pl
    have h1 : (buf ++ List.replicate 5 (0 : UInt8) ++ pl).take buf.length = buf := by
      rw [List.append_assoc, List.take_left']; rfl
    have h2 : (buf ++ List.replicate 5 (0 : UInt8) ++ pl).drop (buf.length + 5) = pl := by
      rw [List.drop_left']; simp
    have h3 : (buf ++ List.replicate 5 (0 : UInt8) ++ pl).length - buf.length - 5 = pl.length := by
      simp
    rw [h1, h2, h3]; simp
  simp only [encodeItem, he, encodeItemViaBuf, frameOf, headerSize]
  congr 1
  cases hc : cfg.comp with
  | none => simpa only [Framing.payload, hc, C01_encode_buf_appends, hops] using patch (cd.ser m)
  | some e =>
    simpa only [Framing.payload, hc, C01_encode_buf_appends, hops, List.nil_append] using patch (cd.cz e (cd.ser m))

/- Non-vacuity: two frames in one buffer; a decoder reading the first payload by `chunk`/`advance`
and `copy_to_bytes` gets bytes 1 2 3 and leaves the second frame; a read past the window panics. -/
example : DBuf.read [.chunkAdvance 2, .copyToBytes 1] ⟨[1, 2, 3, 0, 0, 0, 0, 1, 9], 3⟩ = some ([1, 2, 3], ⟨[0, 0, 0, 0, 1, 9], 0⟩) := by decide +kernel
example : DBuf.read [.chunkAdvance 4] ⟨[1, 2, 3, 0, 0, 0, 0, 1, 9], 3⟩ = none := by decide +kernel
example : writeAll [0, 0, 0, 0, 0] [.reserve 9, .putBuf [[1], [2, 3]], .putBytes 7 2, .chunkMutAdvance [4]] = [0, 0, 0, 0, 0, 1, 2, 3, 7, 7, 4] := by decide +kernel

/- Non-vacuity of the bridge theorems: the read program above feeds `Dec.readBody` the payload [1, 2, 3] and
leaves the second frame; three write styles producing [1, 2, 3] give the frame `encodeItem` appends. -/
example : Dec.readBody idCodec ⟨[1, 2, 3, 0, 0, 0, 0, 1, 9], .hdr, none⟩ 3 none
    = (⟨[0, 0, 0, 0, 1, 9], .hdr, none⟩, .item [1, 2, 3]) := rfl
example : encodeItemViaBuf idCodec { comp := none, yieldThr := 0, maxSize := none, server := true } [7]
      [.reserve 9, .putBuf [[1], [2]], .chunkMutAdvance [3]] = [7, 0, 0, 0, 0, 3, 1, 2, 3] := by decide +kernel

end C01
