import TonicModel.Model.Router
import TonicModel.Spec.Router
import TonicModel.Lemmas.Router
/-
C10 — Requests reach exactly the method named by the path, else UNIMPLEMENTED.
First a set of registered services against the oracle `Spec.Router` (dispatch iff exact path, else
UNIMPLEMENTED, order, wrappers), then every way of building the router, then histories of use and
reconfiguration.  What is defined here is vocabulary of the statements; the hypothesis `WellFormed`
and the facts about the model alone are in `Lemmas/Router`.
-/
namespace C10
open Router

/-- The spec's view of a model registry: what the user declared. -/
def decl (reg : List Svc) : Spec.Router.Decl := reg.map (fun s => (s.name, s.methods))

private theorem declares_iff (reg : List Svc) (s m : Bytes) :
    Spec.Router.Declares (decl reg) s m ↔ ∃ x ∈ reg, x.name = s ∧ m ∈ x.methods := by
  simp only [Spec.Router.Declares, decl, List.mem_map, Prod.mk.injEq]
  constructor
  · rintro ⟨ms, ⟨x, hx, rfl, rfl⟩, hm⟩; exact ⟨x, hx, rfl, hm⟩
  · rintro ⟨x, hx, rfl, hm⟩; exact ⟨x.methods, ⟨x, hx, rfl, rfl⟩, hm⟩

/-- **Dispatch iff exact path.**  For every set of registered services and every request path:
the handler of method `m` of service `s` runs if and only if `(s, m)` is declared and the path is
literally `"/" ++ s ++ "/" ++ m`. -/
theorem C10_dispatch_iff (reg : List Svc) (hwf : WellFormed reg) (path s m : Bytes) :
    dispatch reg path = .handler s m ↔
      Spec.Router.Declares (decl reg) s m ∧ path = Spec.Router.pathOf s m := by
  rw [declares_iff, pathOf_eq]
  exact dispatch_eq_handler_iff reg hwf path s m

/-- **Else UNIMPLEMENTED, no handler.**  Whatever the path, the outcome is either a handler
(then, by `C10_dispatch_iff`, the one the path names) or an answer with grpc-status 12 produced
by the routing layer with no handler run; registration of a set never panics. -/
theorem C10_else_unimplemented (reg : List Svc) (hwf : WellFormed reg) (path : Bytes)
    (hno : ¬ ∃ s m, Spec.Router.Declares (decl reg) s m ∧ path = Spec.Router.pathOf s m) :
    (dispatch reg path).handlerRan = none ∧ (dispatch reg path).routerStatus = some 12 :=
  (dispatch_cases hwf.2.2 path).resolve_left fun ⟨s, m, h⟩ =>
    hno ⟨s, m, (C10_dispatch_iff reg hwf path s m).mp h⟩

/-- The observation the model predicts satisfies the executable spec predicate
(`Spec.Router.allowed`, the one the driver evaluates on the real implementation's output):
the handler the model says ran, the grpc-status of the routing layer where it answered itself
and the handler's own status `hs` otherwise, HTTP 200, `application/grpc`. -/
theorem C10_model_allowed (reg : List Svc) (hwf : WellFormed reg) (path : Bytes) (hs : Nat) :
    Spec.Router.allowed (decl reg) path hs
      ⟨(dispatch reg path).handlerRan,
        (match (dispatch reg path).routerStatus with | some c => some c | none => some hs),
        200, true⟩ = true := by
  unfold Spec.Router.allowed Spec.Router.handlerOk Spec.Router.answerOk
  cases ht : Spec.Router.targets (decl reg) path with
  | nil =>
    have hno : ¬ ∃ s m, Spec.Router.Declares (decl reg) s m ∧ path = Spec.Router.pathOf s m := by
      rintro ⟨s, m, h⟩
      have := (Spec.Router.mem_targets (decl reg) path s m).mpr h
      rw [ht] at this; cases this
    obtain ⟨h1, h2⟩ := C10_else_unimplemented reg hwf path hno
    rw [h1, h2]
    rfl
  | cons t ts =>
    have hmem : (t.1, t.2) ∈ Spec.Router.targets (decl reg) path := ht ▸ List.mem_cons_self
    rw [(C10_dispatch_iff reg hwf path t.1 t.2).mpr ((Spec.Router.mem_targets _ _ _ _).mp hmem)]
    simp only [Outcome.handlerRan, Outcome.routerStatus, List.contains_cons, beq_self_eq_true,
      Bool.true_or, Bool.and_self]

/-- **Registration order does not matter.** -/
theorem C10_order_irrelevant (reg reg' : List Svc) (hperm : reg.Perm reg') (hwf : WellFormed reg)
    (path : Bytes) : dispatch reg path = dispatch reg' path := by
  rw [dispatch_of_nodup hwf.2.2, dispatch_of_nodup ((hperm.map Svc.name).nodup_iff.mp hwf.2.2),
    find?_perm_of_unique hperm (route_unique hwf.1 hwf.2.2 path)]

/-- The order of the methods inside a service (the order of the generated `match` arms) does
not matter either. -/
theorem C10_method_order_irrelevant (n : Bytes) (ms ms' : List Bytes) (h : ms.Perm ms')
    (path : Bytes) : (Svc.mk n ms).call path = (Svc.mk n ms').call path :=
  call_perm n ms ms' h path

/-- **NAME propagation** — *transcription lemma (definitional)*: `Wrapped.name` / `Wrapped.call` are
written to forward to the inner service, exactly as the three-line `NamedService` / `Service` impls
of `InterceptedService` and `Layered` do (the interceptor's returned request, including any
`http::Uri` it put into the extensions, is ignored), so this unfolds the model and adds no assurance
of its own; that the real wrappers forward NAME and the URI is established by the correspondence run
(wrapper stacks `icept`, `layer`, `both`, and the interceptors that return a fresh request, clear
the extensions, plant a URI of their own, rewrite metadata).  Wrapping services in any nesting of
`InterceptedService` / `Layered` changes nothing about routing: the wrapped registry dispatches like
the bare one. -/
theorem C10_wrappers_transparent (reg : List Wrapped) (path : Bytes) :
    dispatchW reg path = dispatch (reg.map Wrapped.base) path := by
  unfold dispatchW dispatch
  have hn : reg.map Wrapped.name = (reg.map Wrapped.base).map Svc.name := by
    rw [List.map_map]
    exact List.map_congr_left fun w _ => wrapped_name w
  rw [hn]
  split
  · rfl
  · rw [List.find?_map]
    simp only [Function.comp_def, ← wrapped_name]
    cases reg.find? (fun s => routeMatches s.name path) with
    | none => rfl
    | some w => exact wrapped_call w path

/-- *Transcription lemma (definitional)*: restates the first line of `dispatch` (the model of
axum's "conflicting route" panic).  A registry that is *not* a set (same name twice) is rejected
at registration time; that axum really panics is a tie-only fact (corpus cases with a repeated
service). -/
theorem C10_duplicate_panics (reg : List Svc) (path : Bytes) (h : ¬ (reg.map Svc.name).Nodup) :
    dispatch reg path = .panic := by
  have : hasDup (reg.map Svc.name) = true := by rwa [← Bool.not_eq_false, hasDup_false_iff]
  rw [dispatch, this]
  rfl

/-! ### Every way of building the router -/

/-- The handler an `Answer` stands for. -/
def answerHandler : Answer → Option (Bytes × Bytes)
  | .tonic o => o.handlerRan
  | _ => none

/-- **Every construction is the plain registry.**  Start with `Routes::new`, `Routes::default`,
`Routes::builder`, `Server::add_service`, `Server::add_optional_service(Some | None)`; continue
with any sequence of `add_service`, `add_optional_service(Some | None)`, `prepare`,
`into_axum_router` and back, `RoutesBuilder::from`, `RoutesBuilder::routes`,
`Server::add_routes` — in any order, any number of times.  The finished router holds exactly
the services mounted on the way, no other route, and tonic's UNIMPLEMENTED fallback. -/
theorem C10_every_construction (start : Start) (ops : List Op)
    (hs : start.tonicOnly = true) (ho : ∀ op ∈ ops, op.tonicOnly = true) :
    (build start ops).table = ⟨mounted start ops, [], .unimplemented⟩ := by
  obtain ⟨h1, h2, h3⟩ := build_table start ops
  obtain ⟨s2, s3⟩ := start_rest start hs
  -- field by field; what is left is structure eta
  rw [← h1, ← s2, ← s3, ← h2, ← h3 ho]

/-- … hence every construction answers every path as `dispatch` does on the list of mounted
services, to which `C10_dispatch_iff`, `C10_else_unimplemented` and `C10_order_irrelevant`
apply. -/
theorem C10_construction_dispatch (start : Start) (ops : List Op)
    (hs : start.tonicOnly = true) (ho : ∀ op ∈ ops, op.tonicOnly = true) (path : Bytes) :
    (build start ops).table.serve path = .tonic (dispatch (mounted start ops) path) := by
  rw [C10_every_construction start ops hs ho]
  exact serve_tonic _ path

private theorem serve_handler (t : Table) (path : Bytes) (hu : hasDup t.user = false)
    (hp : t.user.contains path = false) :
    answerHandler (t.serve path) = (dispatch t.svcs path).handlerRan := by
  rw [Table.serve, dispatch, hp, hu, Bool.or_false]
  cases hasDup (t.svcs.map Svc.name) with
  | true => rfl
  | false =>
    cases t.svcs.find? (fun s => routeMatches s.name path) with
    | some s => rfl
    | none => cases t.fb <;> rfl

/-- **A user-made `axum::Router` underneath** (`Routes::from(axum::Router)`,
`RoutesBuilder::from(axum::Router)`, routes added through `axum_router_mut`): for every request path
that is not one of the user's own routes (which are distinct: axum refuses the same route twice),
the handler that runs (if any) is still the one `dispatch` names on the mounted services — the
user's router can change the answer to unrouted paths, never which tonic handler runs. -/
theorem C10_user_router_handlers (start : Start) (ops : List Op) (path : Bytes)
    (hu : hasDup (build start ops).table.user = false)
    (hp : ((build start ops).table.user.contains path) = false) :
    answerHandler ((build start ops).table.serve path) =
      (dispatch (mounted start ops) path).handlerRan := by
  rw [← (build_table start ops).1]
  exact serve_handler _ path hu hp

/-- … and the fallback of such a router is the one the user's router came with, whatever is
called afterwards (`From<axum::Router> for Routes` adds nothing). -/
theorem C10_user_router_fallback (u : UserRouter) (ops : List Op) :
    (build (.fromAxum u) ops).table.fb = (if u.ownFallback then .user else .axumNotFound) ∧
    (build (.builderFromAxum u) ops).table.fb = (if u.ownFallback then .user else .axumNotFound) :=
  ⟨(build_table _ ops).2.1, (build_table _ ops).2.1⟩

/-- The full statement over *all* constructions — "a path that names no declared method is
answered UNIMPLEMENTED by the routing layer" — is **false of the code as found**: a service
mounted on `Routes::from(axum::Router::new())` leaves axum's bare `404 Not Found` (no
grpc-status) as the answer to unknown paths.  `C10_construction_dispatch` is the statement
under the exact guard (no user-made `axum::Router` involved). -/
theorem C10_else_unimplemented_any_construction_fails :
    ¬ (∀ (start : Start) (ops : List Op) (path : Bytes),
        (∀ op ∈ ops, op.tonicOnly = true) → WellFormed (mounted start ops) →
        (¬ ∃ s m, Spec.Router.Declares (decl (mounted start ops)) s m ∧
          path = Spec.Router.pathOf s m) →
        ∃ o, (build start ops).table.serve path = .tonic o ∧ o.routerStatus = some 12) := by
  intro h
  obtain ⟨o, ho, _⟩ := h (.fromAxum ⟨[], false⟩) [] [47, 120] (List.forall_mem_nil _)
    ⟨List.forall_mem_nil _, List.forall_mem_nil _, List.nodup_nil⟩
    (by rintro ⟨_, _, ⟨_, hm, _⟩, _⟩; cases hm)
  have hw : (build (.fromAxum ⟨[], false⟩) []).table.serve [47, 120] = .axumNotFound := by
    decide +kernel
  rw [hw] at ho
  cases ho

/-! ### Histories, server configuration, constructors -/

/-- Transcription lemma (definitional): `Proc.answers` is WRITTEN so that a call reads the value it is
made on and writes nothing (`Proc.answers p (.call v path :: us) = … ++ Proc.answers p us` by `rfl`)
and a clone appends a copy, so the invariant "every live value is the built table" cannot break — this
unfolds the model and carries no assurance of its own.  That `Routes::call`, `Clone` and the
per-connection stack of `transport::Server` really keep no state is established by the correspondence
run (`seq` cases: one router used 1–50 times, through clones made before and after use, on one or
several connections, each request judged separately).
**A router has no memory** (as modelled).  Take the router a construction yields and use it any way at
all — any number of calls on the value itself, on clones of it, on clones of clones (what every
accepted connection of a `transport::Server` gets), in any interleaving: every request of the
history is answered exactly as if it were the only request the freshly built router ever saw.
(Invariant over the history, no bound on its length.) -/
theorem C10_history_has_no_memory (t : Table) (uses : List Use) :
    ∀ pa ∈ Proc.answers ⟨[t]⟩ uses, pa.2 = t.serve pa.1 := by
  intro pa hpa
  obtain ⟨t', ht', h⟩ := answers_from_live uses ⟨[t]⟩ pa hpa
  rwa [List.mem_singleton.mp ht'] at h

/-- … hence, for a router built without a user-made `axum::Router` over a set of services,
every request of every history satisfies the property's executable predicate: the handler of
`(S, M)` ran iff the path of *that* request is literally `/S/M`, every other request got
UNIMPLEMENTED from the routing layer. -/
theorem C10_every_request_of_a_history (start : Start) (ops : List Op)
    (hs : start.tonicOnly = true) (ho : ∀ op ∈ ops, op.tonicOnly = true)
    (hwf : WellFormed (mounted start ops)) (uses : List Use) (hst : Nat) :
    ∀ pa ∈ Proc.answers ⟨[(build start ops).table]⟩ uses,
      pa.2 = .tonic (dispatch (mounted start ops) pa.1) ∧
      Spec.Router.allowed (decl (mounted start ops)) pa.1 hst
        ⟨(dispatch (mounted start ops) pa.1).handlerRan,
          (match (dispatch (mounted start ops) pa.1).routerStatus with
            | some c => some c | none => some hst),
          200, true⟩ = true := by
  intro pa h
  refine ⟨?_, C10_model_allowed _ hwf pa.1 hst⟩
  rw [C10_history_has_no_memory _ uses pa h]
  exact C10_construction_dispatch start ops hs ho pa.1

/-- The table of round `k` of a reconfiguration history: the built table after the first `k`
`add_service` calls of the history. -/
def tableAt (t : Table) (rounds : List (List Use × Svc)) (k : Nat) : Table :=
  (rounds.take k).foldl (fun t r => t.addService r.2) t

/-- The uses made in round `k` (round `rounds.length` is the last one, after the last `add_service`). -/
def usesAt (rounds : List (List Use × Svc)) (last : List Use) (k : Nat) : List Use :=
  (rounds.map (·.1) ++ [last]).getD k []

/-- **Reconfigured after use.**  A router that has already answered requests (itself and through
clones) and is then given more services, any number of times: the answers of the whole history are,
round by round and in order, exactly the answers a process that starts with the table of THAT round
(the services registered up to then — `tableAt … k`, no earlier and no later table) gives to the
uses of that round alone; and within a round every request is answered by that round's table as if it
were the only request it ever saw.  (An EQUATION on the whole answer list, indexed by round: a process
that applies `add_service` late, early or never does not satisfy it — `C10_reconfigured_stale_process_fails`.
The second conjunct is the transcription fact `C10_history_has_no_memory` applied per round.) -/
theorem C10_reconfigured_after_use (rounds : List (List Use × Svc)) (last : List Use) (t : Table) :
    Proc.rounds t rounds last =
      ((List.range (rounds.length + 1)).flatMap fun k =>
        Proc.answers ⟨[tableAt t rounds k]⟩ (usesAt rounds last k)) ∧
    ∀ k, ∀ pa ∈ Proc.answers ⟨[tableAt t rounds k]⟩ (usesAt rounds last k),
      pa.2 = (tableAt t rounds k).serve pa.1 := by
  refine ⟨?_, fun k pa h => C10_history_has_no_memory _ _ pa h⟩
  induction rounds generalizing t with
  | nil => exact (List.append_nil _).symm
  | cons r rest ih =>
    obtain ⟨us, s⟩ := r
    rw [List.range_succ_eq_map, List.flatMap_cons, List.flatMap_map]
    simp only [Proc.rounds, List.length_cons]
    rw [ih (t.addService s)]
    congr 1

/-- The membership form, a corollary — it is WEAKER than `C10_reconfigured_after_use`: it
forgets which round an answer belongs to, so a process that never applies `add_service` satisfies
it too: every answer of the history is the answer of the table of SOME round. -/
theorem C10_reconfigured_after_use_some_round_partial (rounds : List (List Use × Svc)) (last : List Use)
    (t : Table) : ∀ pa ∈ Proc.rounds t rounds last, ∃ k, k ≤ rounds.length ∧
      pa.2 = ((rounds.take k).foldl (fun t r => t.addService r.2) t).serve pa.1 := by
  intro pa h
  rw [(C10_reconfigured_after_use rounds last t).1, List.mem_flatMap] at h
  obtain ⟨k, hk, hpa⟩ := h
  exact ⟨k, by have := List.mem_range.mp hk; omega,
    (C10_reconfigured_after_use rounds last t).2 k pa hpa⟩

/-- NOT the code: a process that keeps answering from the table it was built with — the
`add_service` between the rounds is lost (what a `Routes::add_service` that rebuilt a copy and
dropped it would do). -/
def roundsStale (t : Table) : List (List Use × Svc) → List Use → List (Bytes × Answer)
  | [], last => Proc.answers ⟨[t]⟩ last
  | (us, _) :: rest, last => Proc.answers ⟨[t]⟩ us ++ roundsStale t rest last

/-- The stale process does NOT satisfy the equation of `C10_reconfigured_after_use` (so that
statement does tell the two apart). Witness: `A` registered, a round without requests, `S` added,
then `/S/M` is called: the stale process answers UNIMPLEMENTED from the fallback. -/
theorem C10_reconfigured_stale_process_fails :
    ¬ ∀ (rounds : List (List Use × Svc)) (last : List Use) (t : Table),
      roundsStale t rounds last =
        ((List.range (rounds.length + 1)).flatMap fun k =>
          Proc.answers ⟨[tableAt t rounds k]⟩ (usesAt rounds last k)) := by
  intro h
  have := h [([], ⟨[83], [[77]]⟩)] [.call 0 [47, 83, 47, 77]] ⟨[⟨[65], [[77]]⟩], [], .unimplemented⟩
  exact absurd this (by decide +kernel)

/-- Transcription lemma (definitional): an instance of `C10_history_has_no_memory`, which holds because
the model's `call` writes no value and `clone` copies one; that a real clone answers like its original
is established by the `seq` cases (clones made before and after use, clone of a dropped original).
A clone answers like the value it was cloned from, before and after either was used. -/
theorem C10_clone_answers_alike (t : Table) (pre post : List Use) (path : Bytes) :
    ∀ pa ∈ Proc.answers ⟨[t]⟩ (pre ++ [.clone 0] ++ post ++ [.call 0 path, .call 1 path]),
      pa.1 = path → pa.2 = t.serve path := by
  intro pa h hp
  rw [← hp]
  exact C10_history_has_no_memory t _ pa h

/-- *Transcription lemma (definitional; the fact is tie-only — `ctor` cases)*: the public
constructors / setters of a generated server and the generator switches that do not touch names
give the same `NAME` and the same `match` arms, so a registry of servers made any of these ways
dispatches as the plain registry. -/
theorem C10_constructors_transparent (reg : List Svc) (how : Svc → Ctor) (path : Bytes) :
    dispatch (reg.map (fun s => s.made (how s))) path = dispatch reg path := by
  simp [Svc.made]

/-- A service without methods (the generated `match` has the default arm only): every path
below it is answered UNIMPLEMENTED by that service, no handler exists to run. -/
theorem C10_empty_service (reg : List Svc) (hwf : WellFormed reg) (s : Svc) (hs : s ∈ reg)
    (hm : s.methods = []) (path : Bytes) (h : routeMatches s.name path = true) :
    dispatch reg path = .svcDefault s.name := by
  rw [dispatch_of_nodup hwf.2.2, find_route hwf hs h]
  simp only [Svc.call, hm, List.find?_nil]

/- Non-vacuity and the shapes the property text lists, on a registry with names that are
prefixes of one another, with and without package, differing only in case. -/
private def bs (s : String) : Bytes := s.toList.map (fun c => c.toNat.toUInt8)
/-- Rewrite with this before evaluating a term that holds literals: the kernel's `String.toList` on
a literal takes time quadratic in its length, afterwards it reads the bytes off the characters. -/
private theorem bs_lit (cs : List Char) : bs (String.ofList cs) = cs.map (fun c => c.toNat.toUInt8) := by
  rw [bs, String.toList_ofList]
private def reg0 : List Svc :=
  [⟨bs "a.S", [bs "M", bs "Mx", bs "m"]⟩, ⟨bs "a.Sv", [bs "M"]⟩, ⟨bs "S", [bs "M"]⟩,
   ⟨bs "a.S.x", [bs "M"]⟩, ⟨bs "a", [bs "S"]⟩]

example : WellFormed reg0 := by
  unfold WellFormed
  decide +kernel
example : dispatch reg0 (bs "/a.S/M") = .handler (bs "a.S") (bs "M") := by decide +kernel
example : dispatch reg0 (bs "/a.Sv/M") = .handler (bs "a.Sv") (bs "M") := by decide +kernel
example : dispatch reg0 (bs "/a.S/Mx") = .handler (bs "a.S") (bs "Mx") := by decide +kernel
-- unknown service / unknown method / shared prefix / extra, empty segments / letter case
example : dispatch reg0 (bs "/b.S/M") = .fallback := by decide +kernel
example : dispatch reg0 (bs "/a.S/Z") = .svcDefault (bs "a.S") := by decide +kernel
example : dispatch reg0 (bs "/a.Svc/M") = .fallback := by
  repeat rw [bs_lit]
  decide +kernel
example : dispatch reg0 (bs "/a.S/My") = .svcDefault (bs "a.S") := by decide +kernel
example : dispatch reg0 (bs "/a.S/M/") = .svcDefault (bs "a.S") := by decide +kernel
example : dispatch reg0 (bs "/a.S//M") = .svcDefault (bs "a.S") := by decide +kernel
example : dispatch reg0 (bs "//a.S/M") = .fallback := by decide +kernel
example : dispatch reg0 (bs "/a.S/") = .fallback := by decide +kernel
example : dispatch reg0 (bs "/a.S") = .fallback := by decide +kernel
example : dispatch reg0 (bs "/A.S/M") = .fallback := by decide +kernel
example : dispatch reg0 (bs "/a.S/M") ≠ dispatch reg0 (bs "/a.S/m") := by
  repeat rw [bs_lit]
  decide +kernel
example : dispatch reg0 (bs "/a/S") = .handler (bs "a") (bs "S") := by decide +kernel
example : dispatch reg0 (bs "/a.S/%4D") = .svcDefault (bs "a.S") := by
  repeat rw [bs_lit]
  decide +kernel
example : dispatch (reg0 ++ [⟨bs "S", []⟩]) (bs "/S/M") = .panic := by decide +kernel

-- constructions: the first call adds nothing (`add_optional_service(None)`), services arrive
-- later through a builder and a server router, with `prepare` and an axum round trip between
private def s0 : Svc := ⟨bs "a.S", [bs "M"]⟩
private def s1 : Svc := ⟨bs "S", [bs "M"]⟩
example : (build (.serverAddOptional none) [.addOptional none, .addService s0, .addOptional (some s1)]).table.serve (bs "/S/M")
    = .tonic (.handler (bs "S") (bs "M")) := by decide +kernel
example : (build (.serverAddOptional none) []).table.serve (bs "/S/M") = .tonic .fallback := by decide +kernel
example : (build .routesBuilder [.addService s0, .builderRoutes, .prepare, .axumRoundTrip, .intoBuilderViaAxum,
    .addService s1, .serverAddRoutes]).table.serve (bs "/a.S/M") = .tonic (.handler (bs "a.S") (bs "M")) := by decide +kernel
example : (build (.fromAxum ⟨[bs "/u/hello"], true⟩) [.addService s0]).table.serve (bs "/a.S/M")
    = .tonic (.handler (bs "a.S") (bs "M")) := by
  repeat rw [bs_lit]
  decide +kernel
example : (build (.fromAxum ⟨[bs "/u/hello"], true⟩) [.addService s0]).table.serve (bs "/a.S/x") = .tonic (.svcDefault (bs "a.S")) := by
  repeat rw [bs_lit]
  decide +kernel
example : (build (.fromAxum ⟨[bs "/u/hello"], true⟩) [.addService s0]).table.serve (bs "/u/hello") = .userRoute (bs "/u/hello") := by
  repeat rw [bs_lit]
  decide +kernel
example : (build (.fromAxum ⟨[bs "/u/hello"], true⟩) [.addService s0]).table.serve (bs "/zz") = .userFallback := by
  repeat rw [bs_lit]
  decide +kernel
example : (build (.builderFromAxum ⟨[], false⟩) [.addService s0, .serverAddRoutes]).table.serve (bs "/zz") = .axumNotFound := by decide +kernel

-- histories: the value, a clone made before and one made after a use, calls interleaved
example : (Proc.answers ⟨[⟨reg0, [], .unimplemented⟩]⟩
    [.call 0 (bs "/a.S/M"), .clone 0, .call 1 (bs "/a.Sv/M"), .call 0 (bs "/a.S/Z"), .clone 1, .call 2 (bs "/a.S/M"),
     .call 7 (bs "/a.S/M")]).map (·.2)
    = [.tonic (.handler (bs "a.S") (bs "M")), .tonic (.handler (bs "a.Sv") (bs "M")), .tonic (.svcDefault (bs "a.S")),
       .tonic (.handler (bs "a.S") (bs "M"))] := by
  repeat rw [bs_lit]
  decide +kernel
example : (Proc.rounds ⟨[s0], [], .unimplemented⟩ [([.call 0 (bs "/S/M")], s1)] [.call 0 (bs "/S/M")]).map (·.2)
    = [.tonic .fallback, .tonic (.handler (bs "S") (bs "M"))] := by decide +kernel
example : dispatch (reg0 ++ [⟨bs "x.Empty", []⟩]) (bs "/x.Empty/M") = .svcDefault (bs "x.Empty") := by
  repeat rw [bs_lit]
  decide +kernel

end C10
