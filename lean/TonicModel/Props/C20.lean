import TonicModel.Model.RichError
import TonicModel.Spec.RichError
import TonicModel.Lemmas.RichError
import TonicModel.Lemmas.RichErrorWire
import TonicModel.Lemmas.SpecRichError
import TonicModel.Model.RichErrorTrip
import TonicModel.Props.C04
import TonicModel.Lemmas.Utf8Agree
import TonicModel.Lemmas.RichErrorRetry
/-
C20 — rich error details round-trip through a status.
The theorems of the first part take prost as a parameter (`P : Prost` with its round-trip laws
`L : P.Laws WFd WFs`) and an IDEAL status header encoding `hdr`/`unhdr` with
`hh : ∀ st, unhdr (hdr st) = some st`.  `hh` is a parameter, not C04's result: the header model of
C04 (`Status::add_header` / `Status::from_header_map`) does NOT satisfy it
(`C20_header_law_not_met_by_C04_model`).  The theorems that carry `hh` therefore speak about the
details bytes given that the status arrives; the statements through the real header model, without
`hh`, are `C20_trip_invisible` and the `*_through_headers` theorems.
-/
namespace C20
open RichError

section parametric
variable {M H : Type} (P : Prost) {WFd : ErrorDetail → Prop} {WFs : PbStatus → Prop}
  (L : P.Laws WFd WFs) (hdr : Status M → H) (unhdr : H → Option (Status M))
  (hh : ∀ st, unhdr (hdr st) = some st)
include L hh

/-- Ordered list: any list of details (any kinds, repeated kinds, any order) attached with
`with_error_details_vec[_and_metadata]` comes back from `check_error_details_vec` unchanged —
same kinds, same order, same field values — after the status went through the header encoding;
the outer code and message are the ones given. -/
theorem C20_vec_roundtrip (code : Nat) (msg : Bytes) (ds : List ErrorDetail) (md : M)
    (hd : ∀ d ∈ ds, WFd d) (hs : WFs ⟨code, msg, ds.map (intoAny P)⟩) :
    ∃ st, unhdr (hdr (withVec P code msg ds md)) = some st ∧ st.code = code ∧ st.message = msg ∧
      checkVec P st.details = some ds ∧ getVec P st.details = ds := by
  have := checkVec_withVec P L code msg md ds hd hs
  exact ⟨_, hh _, rfl, rfl, this, by rw [getVec, this]; rfl⟩

/-- Set form: an `ErrorDetails` value attached with `with_error_details[_and_metadata]` comes back
from `check_error_details` unchanged. -/
theorem C20_set_roundtrip (code : Nat) (msg : Bytes) (s : ErrorDetails) (md : M)
    (hd : ∀ d ∈ s.toList, WFd d) (hs : WFs ⟨code, msg, s.toList.map (intoAny P)⟩) :
    ∃ st, unhdr (hdr (withSet P code msg s md)) = some st ∧ st.code = code ∧ st.message = msg ∧
      checkSet P st.details = some s ∧ getSet P st.details = s := by
  have : checkSet P (withSet P code msg s md).details = some s :=
    (checkSet_withVec P L code msg md s.toList hd hs).trans (congrArg some (foldl_put_toList s))
  exact ⟨_, hh _, rfl, rfl, this, by rw [getSet, this]; rfl⟩

omit hh in
/-- The two forms read each other: a set read as a list gives its members in the fixed kind
order; a list read as a set gives, for each kind, the last detail of that kind. -/
theorem C20_cross_forms (code : Nat) (msg : Bytes) (md : M) :
    (∀ s : ErrorDetails, (∀ d ∈ s.toList, WFd d) → WFs ⟨code, msg, s.toList.map (intoAny P)⟩ →
      checkVec P (withSet P code msg s md).details = some s.toList) ∧
    (∀ ds : List ErrorDetail, (∀ d ∈ ds, WFd d) → WFs ⟨code, msg, ds.map (intoAny P)⟩ →
      checkSet P (withVec P code msg ds md).details = some (ds.foldl ErrorDetails.put {})) := by
  exact ⟨fun s hd hs => checkVec_withVec P L code msg md s.toList hd hs,
    fun ds hd hs => checkSet_withVec P L code msg md ds hd hs⟩

/-- Each `get_details_<kind>` getter returns the first detail of its kind that was attached
(and nothing if there is none), after the header trip. -/
theorem C20_getters_first (code : Nat) (msg : Bytes) (ds : List ErrorDetail) (md : M) (k : Kind)
    (hd : ∀ d ∈ ds, WFd d) (hs : WFs ⟨code, msg, ds.map (intoAny P)⟩) :
    ∃ st, unhdr (hdr (withVec P code msg ds md)) = some st ∧
      getFirst P k st.details = Spec.RichError.firstOfKind k ds := by
  exact ⟨_, hh _, getFirst_withVec P L code msg md ds hd hs k⟩

/-- The embedded google.rpc.Status (what prost decodes from the details bytes that arrive)
carries the outer status' code and message, and one `Any` per attached detail with that detail's
type URL. -/
theorem C20_embedded_status (code : Nat) (msg : Bytes) (ds : List ErrorDetail) (md : M)
    (hs : WFs ⟨code, msg, ds.map (intoAny P)⟩) :
    ∃ st emb, unhdr (hdr (withVec P code msg ds md)) = some st ∧ P.decStatus st.details = some emb ∧
      emb.code = st.code ∧ emb.message = st.message ∧
      emb.details.map (·.typeUrl) = ds.map (fun d => typeUrl d.kind) := by
  refine ⟨_, _, hh _, L.status _ hs, rfl, rfl, ?_⟩
  simp [intoAny, List.map_map, Function.comp_def]

end parametric

/-- The `TYPE_URL` dispatch of `check_error_details[_vec]` sends each kind's URL to that kind, so
no two kinds can be confused.
(Transcription lemma: it holds by unfolding the model's definition, so it pins the model's shape for the correspondence run — its assurance about tonic is the tie, not this proof.) -/
theorem C20_url_dispatch (k : Kind) : kindOfUrl (typeUrl k) = some k := kindOfUrl_typeUrl k

/-- Decode side, any `Prost`, any bytes: a failed check is an empty result of the corresponding
`get_*`, a successful one is that result — the model has no third outcome.
(Transcription lemma: it holds by unfolding the model's definition, so it pins the model's shape for the correspondence run — its assurance about tonic is the tie, not this proof.) -/
theorem C20_decode_total (P : Prost) (b : Bytes) :
    (checkVec P b = none ∧ getVec P b = [] ∨ ∃ ds, checkVec P b = some ds ∧ getVec P b = ds) ∧
    (checkSet P b = none ∧ getSet P b = {} ∨ ∃ s, checkSet P b = some s ∧ getSet P b = s) := by
  constructor
  · cases h : checkVec P b <;> simp [getVec, h]
  · cases h : checkSet P b <;> simp [getSet, h]

/-! ## prost made concrete: the protobuf wire model

`prost : Prost` is the model of prost 0.13's reader/writer on the generated `pb` types
(`Basic/PbWire` + the field tables of `generated/google_rpc.rs`).  For it the laws are theorems,
so the only remaining hypothesis of the composed statements in this section is the ideal header
round trip `hh`. -/

/-- prost's encoding of each of the ten detail messages decodes back to the same detail: for all
UTF-8 strings, any number of violations / links / stack entries, metadata maps with distinct
keys, retry delays whose seconds fit an `i64`. -/
theorem C20_prost_detail_roundtrip (d : ErrorDetail) (hwf : Spec.RichError.wfDetail d = true)
    (hsize : (prost.encDetail d).length < 18446744073709551616) :
    prost.decDetail d.kind (prost.encDetail d) = some d :=
  prost_detail_law d ⟨hwf, hsize⟩

/-- prost's encoding of google.rpc.Status `{code, message, details: Any*}` decodes back to the
same message, for every `int32` code, UTF-8 message and list of `Any`s with UTF-8 type URLs and
arbitrary value bytes. -/
theorem C20_prost_status_roundtrip (st : PbStatus)
    (hcode : -2147483648 ≤ st.code ∧ st.code < 2147483648) (hmsg : Utf8Rust.valid st.message = true)
    (hurl : ∀ a ∈ st.details, Utf8Rust.valid a.typeUrl = true)
    (hsize : (prost.encStatus st).length < 18446744073709551616) :
    prost.decStatus (prost.encStatus st) = some st :=
  prost_status_law st ⟨hcode, hmsg, hurl, hsize⟩

section wire
variable {M H : Type} (hdr : Status M → H) (unhdr : H → Option (Status M))
  (hh : ∀ st, unhdr (hdr st) = some st)
include hh

/-- The list form end to end over the wire model: attach, encode with prost, travel through the
header encoding, decode with prost, dispatch — the same list comes back, and the outer code and
message are unchanged. -/
theorem C20_wire_vec_roundtrip (code : Nat) (msg : Bytes) (ds : List ErrorDetail) (md : M)
    (hcode : code ≤ 16) (hmsg : Utf8Rust.valid msg = true)
    (hwf : ∀ d ∈ ds, Spec.RichError.wfDetail d = true)
    (hsize : (withVec prost code msg ds md).details.length < 18446744073709551616) :
    ∃ st, unhdr (hdr (withVec prost code msg ds md)) = some st ∧ st.code = code ∧ st.message = msg ∧
      checkVec prost st.details = some ds ∧ getVec prost st.details = ds := by
  obtain ⟨hd, hs⟩ := wf_of_plain code msg ds hwf hmsg hcode hsize
  exact C20_vec_roundtrip prost prost_laws hdr unhdr hh code msg ds md hd hs

/-- The set form end to end over the wire model. -/
theorem C20_wire_set_roundtrip (code : Nat) (msg : Bytes) (s : ErrorDetails) (md : M)
    (hcode : code ≤ 16) (hmsg : Utf8Rust.valid msg = true)
    (hwf : ∀ d ∈ s.toList, Spec.RichError.wfDetail d = true)
    (hsize : (withSet prost code msg s md).details.length < 18446744073709551616) :
    ∃ st, unhdr (hdr (withSet prost code msg s md)) = some st ∧ st.code = code ∧ st.message = msg ∧
      checkSet prost st.details = some s ∧ getSet prost st.details = s := by
  obtain ⟨hd, hs⟩ := wf_of_plain code msg s.toList hwf hmsg hcode hsize
  exact C20_set_roundtrip prost prost_laws hdr unhdr hh code msg s md hd hs

/-- The getters end to end over the wire model: first detail of the kind, or nothing. -/
theorem C20_wire_getters_first (code : Nat) (msg : Bytes) (ds : List ErrorDetail) (md : M) (k : Kind)
    (hcode : code ≤ 16) (hmsg : Utf8Rust.valid msg = true)
    (hwf : ∀ d ∈ ds, Spec.RichError.wfDetail d = true)
    (hsize : (withVec prost code msg ds md).details.length < 18446744073709551616) :
    ∃ st, unhdr (hdr (withVec prost code msg ds md)) = some st ∧
      getFirst prost k st.details = Spec.RichError.firstOfKind k ds := by
  obtain ⟨hd, hs⟩ := wf_of_plain code msg ds hwf hmsg hcode hsize
  exact C20_getters_first prost prost_laws hdr unhdr hh code msg ds md k hd hs

/-- The google.rpc.Status that prost decodes from the bytes that arrive has the outer status'
code and message (whatever the details are, well-formed or not, as long as prost could encode
them: this clause needs no hypothesis on the details' contents). -/
theorem C20_wire_embedded_status (code : Nat) (msg : Bytes) (ds : List ErrorDetail) (md : M)
    (hcode : code ≤ 16) (hmsg : Utf8Rust.valid msg = true)
    (hsize : (withVec prost code msg ds md).details.length < 18446744073709551616) :
    ∃ st emb, unhdr (hdr (withVec prost code msg ds md)) = some st ∧
      prost.decStatus st.details = some emb ∧ emb.code = st.code ∧ emb.message = st.message ∧
      emb.details.length = ds.length := by
  exact ⟨_, _, hh _, prost_status_law _ (wfs_intoAny code msg ds hmsg hcode hsize), rfl, rfl, by simp⟩

end wire

/-- The ideal header law `hh` is NOT what C04's header model provides (for `M = HMap`, writing with
`Status.addHeader` into an empty map and reading with `readBack` = `Status.fromHeaderMap`): metadata
under a reserved name does not come back, a code outside 0..16 does not, a non-UTF-8 message does
not.  So `hh` cannot be discharged by C04; the `*_through_headers` theorems are the ones without it. -/
theorem C20_header_law_not_met_by_C04_model :
    let hdr : Status HMap → Option HMap := fun st =>
      match _root_.Status.addHeader .fixed (toSt st) [] with | .ok h => some h | .error _ => none
    let unhdr : Option HMap → Option (Status HMap) := fun h =>
      (h.bind readBack).map fun s => ⟨s.code.num, s.message, s.details, s.metadata⟩
    (¬ ∀ st, unhdr (hdr st) = some st) ∧
    (unhdr (hdr ⟨17, [], [], []⟩)).map (·.code) ≠ some 17 ∧
    (unhdr (hdr ⟨3, [0xff], [], []⟩)).map (·.message) ≠ some [0xff] := by
  refine ⟨fun h => ?_, by decide +kernel, by decide +kernel⟩
  have := congrArg (Option.map (·.metadata)) (h ⟨3, [0x6d], [], [(Status.GRPC_MESSAGE, [0x78])]⟩)
  revert this; decide +kernel

/-! ## Wire conformance: the independent decoder of `Spec/` reads what tonic-types + prost write -/

/-- The details bytes produced for a list of details are, read by the naive .proto-driven decoder
of `Spec/RichError`, a google.rpc.Status with the outer status' code and message and exactly the
attached details — kinds, order and field values.  A symmetric deviation of writer and reader
(swapped field numbers, a misspelt type URL) would survive the round-trip theorems but not this one.
The decoder's varint reader, record cutting, field lookup, type URLs and Duration are its own; the
ONE thing it shares with the prost model is the UTF-8 validator `Basic/Utf8Rust.valid`, which is also
the domain predicate — a wrong validator would be a symmetric deviation these theorems cannot see;
`Utf8Agree.valid_eq` proves it equal to the separately written `Utf8.valid`, for which
`Utf8.valid_encodeChars` shows every Rust `String` is accepted. -/
theorem C20_wire_conformant (code : Nat) (msg : Bytes) (ds : List ErrorDetail)
    (hcode : code ≤ 16) (hmsg : Utf8Rust.valid msg = true)
    (hwf : ∀ d ∈ ds, Spec.RichError.wfDetail d = true)
    (hsize : (withVec prost code msg ds ()).details.length < 18446744073709551616) :
    Spec.RichError.carries code msg ds (withVec prost code msg ds ()).details = true := by
  obtain ⟨hd, hs⟩ := wf_of_plain code msg ds hwf hmsg hcode hsize
  exact SpecWire.spec_carries code msg ds hd hs

/-- The same for the set form (the order on the wire is not constrained for a set). -/
theorem C20_wire_conformant_set (code : Nat) (msg : Bytes) (s : ErrorDetails)
    (hcode : code ≤ 16) (hmsg : Utf8Rust.valid msg = true)
    (hwf : ∀ d ∈ s.toList, Spec.RichError.wfDetail d = true)
    (hsize : (withSet prost code msg s ()).details.length < 18446744073709551616) :
    Spec.RichError.carriesSet code msg s.toList (withSet prost code msg s ()).details = true := by
  obtain ⟨hd, hs⟩ := wf_of_plain code msg s.toList hwf hmsg hcode hsize
  exact SpecWire.spec_carriesSet code msg s.toList hd hs

/-- "The embedded google.rpc.Status carries the same code and message as the outer status",
judged by the independent decoder, for any details whatsoever. -/
theorem C20_embedded_status_spec (code : Nat) (msg : Bytes) (ds : List ErrorDetail)
    (hcode : code ≤ 16) (hmsg : Utf8Rust.valid msg = true)
    (hsize : (withVec prost code msg ds ()).details.length < 18446744073709551616) :
    Spec.RichError.embeds code msg (withVec prost code msg ds ()).details = true :=
  SpecWire.spec_embeds code msg _ (wfs_intoAny code msg ds hmsg hcode hsize)

/-! ## `RetryInfo`: the clamp on the way in, the negative-delay rule on the way out -/

/-- Everything built through `RetryInfo::new` / `ErrorDetails::set_retry_info` is inside the
domain of the round-trip theorems (the clamp keeps the seconds far below `i64::MAX`). -/
theorem C20_retry_new_in_domain (d : Dur) (hn : d.nanos < 1000000000) :
    Spec.RichError.wfDetail (.retryInfo (RetryInfo.new (some d))) = true := by
  obtain ⟨s, n⟩ := d
  simp only [RetryInfo.new, Option.map_some, Spec.RichError.wfDetail]
  cases hc : Dur.gt ⟨s, n⟩ maxRetryDelay
  · simp only [Bool.false_eq_true, if_false]
    simp only [Dur.gt, maxRetryDelay, Bool.or_eq_false_iff, Bool.and_eq_false_iff,
      beq_eq_false_iff_ne] at hc
    simp only [Spec.RichError.wfDur, Bool.and_eq_true, decide_eq_true_eq]
    have h1 : ¬ (315576000000 < s) := of_decide_eq_false hc.1
    exact ⟨by omega, hn⟩
  · simp only [if_true]; decide

/-- Outside the domain (a `RetryInfo { retry_delay }` literal whose seconds exceed `i64::MAX`)
the delay that comes back over the wire — `From<RetryInfo> for pb::RetryInfo`, prost encode, prost
decode, `From<pb::RetryInfo>` — is the documented maximum, not the original (first conjunct; the
second is the same fact for the two conversion helpers alone). -/
theorem C20_retry_out_of_range (s n : Nat) (hs : 9223372036854775807 < s) :
    prost.decDetail .retryInfo (prost.encDetail (.retryInfo ⟨some ⟨s, n⟩⟩)) =
      some (.retryInfo ⟨some maxRetryDelay⟩) ∧
    durOfPb (durToPb ⟨s, n⟩) = maxRetryDelay := by
  have : ¬ ((s : Int) ≤ i64Max) := by simp only [i64Max]; omega
  constructor
  · simp only [prost, ErrorDetail.kind, toPb, Option.map_some, durToPb, this, if_false]
    decide +kernel
  · simp only [durToPb, this, if_false]
    decide

/-- FINDING (pinned tree, before fix-C20-retry-delay-i64-min): a `RetryInfo` whose
`retry_delay` normalizes to `i64::MIN` seconds — here `seconds = i64::MIN, nanos = 0`, 13 bytes any
peer can send — makes `From<pb::RetryInfo>` negate `i64::MIN`, which panics when overflow checks
are on.  The witness is the value field of the `Any`; `some none` = decoded by prost, then panic.
(`seconds = i64::MIN` on the wire is neither necessary nor sufficient in general: see
`C20_retry_delay_panic_class`.) -/
theorem C20_retry_delay_asis_fails :
    retryDelayAsIs [0x0a, 0x0b, 0x08, 0x80, 0x80, 0x80, 0x80, 0x80, 0x80, 0x80, 0x80, 0x80, 0x01] = some none := by
  decide +kernel

/-- Transcription lemma: `durOfPairAsIs` is defined with the branch
`else if (normalize s n).1 = i64Min then none`, and this reads that branch back (the only added
fact is `i64Min < 0`); it pins the model's shape.  The class of RAW `(seconds, nanos)` pairs that
trigger the panic is `C20_retry_delay_panic_class`; that the real conversion panics exactly there
is what the `raw` corpus cases of the correspondence run (the `normalize` duration table sent
through RetryInfo: 14 seconds values × 15 nanos values, on the unrepaired tree) establishes.

The panic happens exactly when the normalized seconds are `i64::MIN` … -/
theorem C20_retry_delay_panic_iff (s n : Int) :
    durOfPairAsIs s n = none ↔ (normalize s n).1 = i64Min := by
  unfold durOfPairAsIs
  split
  · rename_i h; simp only [i64Min]; constructor
    · intro h'; cases h'
    · intro h'; omega
  · split <;> simp_all

/-- … and the repaired conversion differs from the original nowhere else: wherever the original
returns, the repaired one returns the same delay; where it panicked, the repaired one gives zero
(the documented "negative retry_delays become 0"). -/
theorem C20_retry_delay_fix_agrees (s n : Int) :
    (∀ d, durOfPairAsIs s n = some d → durOfPair s n = d) ∧
    (durOfPairAsIs s n = none → durOfPair s n = ⟨0, 0⟩) := by
  unfold durOfPairAsIs durOfPair
  generalize normalize s n = p
  by_cases hp : 0 ≤ p.1 ∧ 0 ≤ p.2
  · have : ¬ (p.1 < 0 ∨ p.2 < 0) := by omega
    simp only [hp, this, and_self, if_true, if_false]
    exact ⟨fun d h => Option.some.inj h, fun h => nomatch h⟩
  · have : p.1 < 0 ∨ p.2 < 0 := by omega
    simp only [hp, this, if_true, if_false]
    refine ⟨fun d h => ?_, fun _ => trivial⟩
    split at h
    · cases h
    · exact Option.some.inj h

/-- **The trigger class in terms of what a peer sends.**  For a `seconds` field that is an `i64`
(any `nanos`): the pinned conversion panics iff `nanos ≤ 0` and `seconds` plus the whole seconds
carried by `nanos` (`nanos / 10^9`, truncated) is at or below `i64::MIN` — through
`prost_types::Duration::normalize` (carry, saturation, sign fix-up), not just `seconds == i64::MIN`:
`(i64::MIN + 1, -10^9)` panics and `(i64::MIN, 5)` does not. -/
theorem C20_retry_delay_panic_class (s n : Int) (hs : i64Min ≤ s) (hs' : s ≤ i64Max) :
    (durOfPairAsIs s n = none ↔ (n ≤ 0 ∧ s + n.tdiv nanosPerSec ≤ i64Min)) ∧
    durOfPairAsIs (-9223372036854775807) (-1000000000) = none ∧
    durOfPairAsIs (-9223372036854775808) 5 = some ⟨0, 0⟩ := by
  refine ⟨?_, by decide, by decide⟩
  rw [C20_retry_delay_panic_iff]
  exact normalize_fst_min_iff s n hs hs'

/-- Decode side, arbitrary bytes, over the wire model: whenever `check_error_details_vec`
succeeds on what arrived (from any peer, well-formed or not), `check_error_details` succeeds too
and holds the last detail of each kind, and every `get_details_<kind>` returns the first detail
of its kind of that same list.  (When the list check fails the getters may still find a detail:
they skip undecodable entries; that is modelled and tied, not claimed here.) -/
theorem C20_decode_consistent (b : Bytes) (ds : List ErrorDetail) (h : checkVec prost b = some ds) :
    checkSet prost b = some (ds.foldl ErrorDetails.put {}) ∧
    ∀ k, getFirst prost k b = Spec.RichError.firstOfKind k ds := by
  unfold checkVec at h
  unfold checkSet getFirst
  cases hs : prost.decStatus b with
  | none => simp [hs] at h
  | some st =>
    simp only [hs] at h ⊢
    exact ⟨checkSet_of_checkVec prost _ _ _ h,
      fun k => firstOfKind_of_checkVec prost k _ _ (fun a _ k d _ => prost_kind_law k a.value d) h⟩

/- Non-vacuity: a header encoding with the round-trip law exists (the identity), and a status with
multi-byte strings, repeated members and map entries is inside the domain. -/
example : ∃ st, (some : Status Unit → Option (Status Unit)) (id (withVec prost 3 [0xc3, 0xa9]
      [.localizedMessage ⟨[0x65, 0x6e], [0xe2, 0x82, 0xac]⟩, .retryInfo ⟨some ⟨5, 7⟩⟩,
       .quotaFailure ⟨[⟨[0x61], []⟩, ⟨[], [0x62]⟩]⟩, .errorInfo ⟨[0x52], [], [([0x6b], [0x31]), ([], [0x32])]⟩] ())) = some st ∧
    st.code = 3 ∧ st.message = [0xc3, 0xa9] ∧
    checkVec prost st.details = some
      [.localizedMessage ⟨[0x65, 0x6e], [0xe2, 0x82, 0xac]⟩, .retryInfo ⟨some ⟨5, 7⟩⟩,
       .quotaFailure ⟨[⟨[0x61], []⟩, ⟨[], [0x62]⟩]⟩, .errorInfo ⟨[0x52], [], [([0x6b], [0x31]), ([], [0x32])]⟩] ∧
    getVec prost st.details =
      [.localizedMessage ⟨[0x65, 0x6e], [0xe2, 0x82, 0xac]⟩, .retryInfo ⟨some ⟨5, 7⟩⟩,
       .quotaFailure ⟨[⟨[0x61], []⟩, ⟨[], [0x62]⟩]⟩, .errorInfo ⟨[0x52], [], [([0x6b], [0x31]), ([], [0x32])]⟩] :=
  C20_wire_vec_roundtrip id some (fun _ => rfl) 3 [0xc3, 0xa9] _ () (by decide +kernel) (by decide +kernel)
    (by decide +kernel) (by decide +kernel)

example : checkVec prost (withVec prost 3 [0x6d] [.localizedMessage ⟨[0x65, 0x6e], [0xc3, 0xa9]⟩,
    .retryInfo ⟨some ⟨5, 7⟩⟩] ()).details
    = some [.localizedMessage ⟨[0x65, 0x6e], [0xc3, 0xa9]⟩, .retryInfo ⟨some ⟨5, 7⟩⟩] := by
  obtain ⟨hd, hs⟩ := wf_of_plain 3 [0x6d] [.localizedMessage ⟨[0x65, 0x6e], [0xc3, 0xa9]⟩, .retryInfo ⟨some ⟨5, 7⟩⟩]
    (by decide +kernel) (by decide +kernel) (by decide +kernel) (by decide +kernel)
  exact checkVec_withVec prost prost_laws 3 [0x6d] () _ hd hs

/-! ## the other ways through the header encoding (`x` cases)

`RichError.trip` composes the header model of C04 (`Status.addHeader` / `Status.fromHeaderMap`, the tree as
it stands): a fresh map, a block in use, the trailers-only response of `Status::into_http`, a peer
that pads its base64, a proxy that writes the recovered status again. -/

private theorem once_ok (h0 : HMap) (st : St) (hutf : Utf8.valid st.message = true)
    (hm0 : HMap.getAll Status.GRPC_MESSAGE h0 = []) (hd0 : HMap.getAll Status.GRPC_STATUS_DETAILS h0 = []) :
    ∃ st', once h0 st = some st' ∧ st'.code = st.code ∧ st'.message = st.message ∧ st'.details = st.details := by
  obtain ⟨h, h1, h2, _⟩ := C04.C04_status_roundtrip st h0 hutf hm0 hd0
  refine ⟨{ code := st.code, message := st.message, details := st.details, metadata := Status.stripStatus h },
    ?_, rfl, rfl, rfl⟩
  simp [once, h1, readBack, h2]

/- `repad` puts the padded text under `grpc-status-details-bin` (`B64.decode` accepts it) and leaves
every other name as `Status.addHeader` wrote it. -/
private theorem padded_ok (st : St) (hutf : Utf8.valid st.message = true) :
    ∃ st', trip .padded st = some st' ∧ st'.code = st.code ∧ st'.message = st.message ∧ st'.details = st.details := by
  obtain ⟨_, n2, n3, _⟩ := Status.names_ne
  obtain ⟨gS, gM, gD⟩ := Status.get_wire st [] rfl rfl
  have g : ∀ k, HMap.get k (repad st (Status.wire .fixed st [])) =
      if k = Status.GRPC_STATUS_DETAILS ∧ ¬ st.details = [] then some (B64.encode true st.details)
      else HMap.get k (Status.wire .fixed st []) := fun k => by
    rw [HMap.get, repad, Status.getAll_optional_insert]
    split <;> rfl
  have hD : HMap.get Status.GRPC_STATUS_DETAILS (repad st (Status.wire .fixed st [])) =
      if st.details = [] then none else some (B64.encode true st.details) := by
    rw [g, gD]
    by_cases hd : st.details = [] <;> simp [hd]
  have hr := Status.fromHeaderMap_fixed_of_carries (by rw [g, if_neg fun h => n2 h.1, gS]) hutf
    (Status.carries_optional (by rw [g, if_neg fun h => n3 h.1, gM]) (by rw [Pct.decode_encode]))
    (Status.carries_optional hD (B64.decode_encode _ _))
  rw [Status.fromBytes_headerValue] at hr
  exact ⟨{ st with metadata := Status.stripStatus (repad st (Status.wire .fixed st [])) },
    by simp only [trip, Status.addHeader_eq, readBack, hr], rfl, rfl, rfl⟩

/-- **Every way through the header encoding is invisible.** Whatever the status (any code, any
UTF-8 message, any details bytes, any metadata — also metadata under `grpc-status`, `grpc-message`
or `grpc-status-details-bin`): written into a fresh map, into any block in use that holds no message
/ details header yet (`[content-type]`: `Status::into_http`), read by way of a peer that pads the
base64 text, or written and read twice by a proxy — a status comes back and its code, message and
details are the ones that went in. -/
theorem C20_trip_invisible (t : Trip) (st : St) (hutf : Utf8.valid st.message = true) (ht : t.wf) :
    ∃ st', trip t st = some st' ∧ st'.code = st.code ∧ st'.message = st.message ∧ st'.details = st.details := by
  cases t with
  | add h0 => exact once_ok h0 st hutf ht.1 ht.2
  | padded => exact padded_ok st hutf
  | twice =>
    obtain ⟨s1, e1, c1, m1, d1⟩ := once_ok [] st hutf rfl rfl
    obtain ⟨s2, e2, c2, m2, d2⟩ := once_ok [] s1 (by rw [m1]; exact hutf) rfl rfl
    exact ⟨s2, by simp [trip, e1, e2], by rw [c2, c1], by rw [m2, m1], by rw [d2, d1]⟩

example : (Trip.add contentTypeGrpc).wf := ⟨by decide +kernel, by decide +kernel⟩
example : (Trip.add [(HMap.name "a", Ascii.ofString "pre"), (HMap.name "x-pre", Ascii.ofString "1")]).wf :=
  ⟨by decide +kernel, by decide +kernel⟩

private theorem code_num : ∀ c : Fin 17, (Status.Code.ofNum c.val).num = c.val := by decide

/-- **The list form end to end, with the header encoding no longer a hypothesis.** Attach a list
of details, encode with prost, go through the header model any of these ways, decode with prost,
dispatch: the outer code and message are the ones given, `check_error_details_vec` and
`get_error_details_vec` return the list that was attached (kinds, order, field values), and every
getter the first detail of its kind.  (`Utf8.valid` and `Utf8Rust.valid` are the two models of
`str::from_utf8` used by C04 and C20; they accept the same strings, `Utf8Agree.valid_eq`, so one
hypothesis on the message suffices.) -/
theorem C20_vec_roundtrip_through_headers (t : Trip) (ht : t.wf) (code : Nat) (msg : Bytes)
    (ds : List ErrorDetail) (md : HMap)
    (hcode : code ≤ 16) (hmsg : Utf8Rust.valid msg = true)
    (hwf : ∀ d ∈ ds, Spec.RichError.wfDetail d = true)
    (hsize : (withVec prost code msg ds md).details.length < 18446744073709551616) :
    ∃ st', trip t (toSt (withVec prost code msg ds md)) = some st' ∧ st'.code.num = code ∧ st'.message = msg ∧
      checkVec prost st'.details = some ds ∧ getVec prost st'.details = ds ∧
      ∀ k, getFirst prost k st'.details = Spec.RichError.firstOfKind k ds := by
  have hmsg' : Utf8.valid msg = true := by rw [Utf8Agree.valid_eq]; exact hmsg
  obtain ⟨st', e, c, m, d⟩ := C20_trip_invisible t (toSt (withVec prost code msg ds md)) hmsg' ht
  obtain ⟨hd, hs⟩ := wf_of_plain code msg ds hwf hmsg hcode hsize
  have hv : checkVec prost st'.details = some ds := by
    rw [d]; exact checkVec_withVec prost prost_laws code msg md ds hd hs
  refine ⟨st', e, by rw [c]; exact code_num ⟨code, by omega⟩, m, hv, by rw [getVec, hv]; rfl, fun k => ?_⟩
  rw [d]
  exact getFirst_withVec prost prost_laws code msg md ds hd hs k

/-- The set form likewise. -/
theorem C20_set_roundtrip_through_headers (t : Trip) (ht : t.wf) (code : Nat) (msg : Bytes)
    (s : ErrorDetails) (md : HMap)
    (hcode : code ≤ 16) (hmsg : Utf8Rust.valid msg = true)
    (hwf : ∀ d ∈ s.toList, Spec.RichError.wfDetail d = true)
    (hsize : (withSet prost code msg s md).details.length < 18446744073709551616) :
    ∃ st', trip t (toSt (withSet prost code msg s md)) = some st' ∧ st'.code.num = code ∧ st'.message = msg ∧
      checkSet prost st'.details = some s ∧ getSet prost st'.details = s := by
  have hmsg' : Utf8.valid msg = true := by rw [Utf8Agree.valid_eq]; exact hmsg
  obtain ⟨st', e, c, m, d⟩ := C20_trip_invisible t (toSt (withSet prost code msg s md)) hmsg' ht
  obtain ⟨hd, hs⟩ := wf_of_plain code msg s.toList hwf hmsg hcode hsize
  have hv : checkSet prost st'.details = some s := by
    rw [d]
    exact (checkSet_withVec prost prost_laws code msg md s.toList hd hs).trans (congrArg some (foldl_put_toList s))
  exact ⟨st', e, by rw [c]; exact code_num ⟨code, by omega⟩, m, hv, by rw [getSet, hv]; rfl⟩

/-- **The domain is every Rust `String`**: the UTF-8 predicate of the theorems above
(`Utf8Rust.valid`, table 3-7 written out) is the same predicate as C04's separately written
state-machine validator, and accepts the UTF-8 encoding of every list of `Char`s. -/
theorem C20_utf8_domain :
    (∀ bs : Bytes, Utf8Rust.valid bs = Utf8.valid bs) ∧
    (∀ cs : List Char, Utf8Rust.valid (Utf8.encodeString (cs.map Char.toNat)) = true) :=
  ⟨fun bs => (Utf8Agree.valid_eq bs).symm,
   fun cs => by rw [← Utf8Agree.valid_eq]; exact Utf8.valid_encodeChars cs⟩

/- Non-vacuity of `C20_vec_roundtrip_through_headers`: user metadata under a reserved name, written
into the trailers-only block of `Status::into_http`. -/
example : ∃ st', trip (.add contentTypeGrpc) (toSt (withVec prost 3 [0xc3, 0xa9]
      [.localizedMessage ⟨[0x65, 0x6e], [0xe2, 0x82, 0xac]⟩, .retryInfo ⟨some ⟨5, 7⟩⟩,
       .errorInfo ⟨[0x52], [], [([0x6b], [0x31]), ([], [0x32])]⟩]
      [(Status.GRPC_STATUS, [0x39])])) = some st' ∧ st'.code.num = 3 ∧ st'.message = [0xc3, 0xa9] ∧
      checkVec prost st'.details = some
        [.localizedMessage ⟨[0x65, 0x6e], [0xe2, 0x82, 0xac]⟩, .retryInfo ⟨some ⟨5, 7⟩⟩,
         .errorInfo ⟨[0x52], [], [([0x6b], [0x31]), ([], [0x32])]⟩] ∧
      getVec prost st'.details =
        [.localizedMessage ⟨[0x65, 0x6e], [0xe2, 0x82, 0xac]⟩, .retryInfo ⟨some ⟨5, 7⟩⟩,
         .errorInfo ⟨[0x52], [], [([0x6b], [0x31]), ([], [0x32])]⟩] ∧
      ∀ k, getFirst prost k st'.details = Spec.RichError.firstOfKind k
        [.localizedMessage ⟨[0x65, 0x6e], [0xe2, 0x82, 0xac]⟩, .retryInfo ⟨some ⟨5, 7⟩⟩,
         .errorInfo ⟨[0x52], [], [([0x6b], [0x31]), ([], [0x32])]⟩] :=
  C20_vec_roundtrip_through_headers (.add contentTypeGrpc) ⟨by decide +kernel, by decide +kernel⟩ 3 [0xc3, 0xa9] _ _
    (by decide +kernel) (by decide +kernel) (by decide +kernel) (by decide +kernel)

end C20
