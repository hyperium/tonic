import TonicModel.Model.Codegen
import TonicModel.Spec.Codegen
import TonicModel.Lemmas.Codegen
/-
C11 — Generated clients and servers agree with each other and with checked-in code.
Theorems about the generator model (`Model/Codegen`) for *all* service descriptors and options;
the correspondence run makes them statements about the emitted tokens.  The regeneration clause
(committed generated files = generator output) has no quantifier and is decided by exhaustive
re-execution (see `Driver/C11`, case `regen`).
-/
namespace C11
open Codegen

/-- The definition a descriptor stands for, in the spec's vocabulary. -/
def toMethodDef (o : Opts) (m : Method) : Spec.Codegen.MethodDef :=
  ⟨m.ident, m.clientStreaming, m.serverStreaming, (m.types o).1, (m.types o).2⟩

def toDef (s : Service) (o : Opts) : Spec.Codegen.ServiceDef :=
  ⟨s.package, s.ident, s.methods.map (toMethodDef o)⟩

def callNum : Call → Nat
  | .unary => 0 | .serverStreaming => 1 | .clientStreaming => 2 | .streaming => 3

def traitNum : SvcTrait → Nat
  | .unaryService => 0 | .serverStreamingService => 1 | .clientStreamingService => 2
  | .streamingService => 3

def obsC (c : ClientCall) : Spec.Codegen.ClientObs :=
  ⟨c.path, c.gmService, c.gmMethod, callNum c.call, c.reqStream, c.respStream, c.req, c.resp⟩

def obsS (a : ServerArm) : Spec.Codegen.ServerObs :=
  ⟨a.literal, callNum a.call, traitNum a.svcTrait, a.reqStream, a.respStream, a.req, a.resp,
    a.traitReq, a.traitResp⟩

/-- The generated server as C10's router sees it. -/
def serverOf (s : Service) (o : Opts) : Router.Svc :=
  ⟨serviceNameConst s o, s.methods.map (·.ident)⟩

private theorem callNum_callOf (cs ss : Bool) : callNum (callOf cs ss) = Spec.Codegen.kind cs ss := by
  cases cs <;> cases ss <;> rfl

private theorem traitNum_traitOf (cs ss : Bool) :
    traitNum (traitOf cs ss) = Spec.Codegen.kind cs ss := by
  cases cs <;> cases ss <;> rfl

private theorem path_spec (s : Service) (o : Opts) (m : Method) :
    formatMethodPath s m o =
      Spec.Codegen.methodPath (Spec.Codegen.fullName (pkgShown s o) s.ident) m.ident := by
  rw [← serviceName_spec]; rfl

/-- *Transcription lemma (definitional).*  The model's `clientMethod` and `serverMethod` both call
`formatMethodPath` and `Method.types` and repeat the same four-way `match`, as the two generators
do, so this unfolds the model (`clientMethod_eq`, `serverMethod_eq`: `cases <;> rfl`); that the
*emitted tokens* agree is what the syn-extraction correspondence run establishes.  Statement:
**client and server agree, method by method**: same path, same `Grpc` entry point, same streaming
shape of request and response, same message types — for every service descriptor (any package /
names / number of methods / combination of streaming flags) and every option. -/
theorem C11_agree (s : Service) (o : Opts) :
    (clientCalls s o).map (fun c => (c.path, c.call, c.reqStream, c.respStream, c.req, c.resp)) =
    (serverArms s o).map (fun a => (a.literal, a.call, a.reqStream, a.respStream, a.req, a.resp)) := by
  simp only [clientCalls, serverArms, List.map_map]
  apply List.map_congr_left
  intro m _
  simp only [Function.comp, clientMethod_eq, serverMethod_eq]

/-- *Transcription lemma (definitional)* — also the statement itself.  **One type name per
message, on every side, under every option set**: for every method, whatever its type names come
from (prost-build's resolution, a manual definition, a user's own `request_response_name`) and
for every `compile_well_known_types` / `proto_path` / `emit_package`, the generated client
method, the server's `*Service` impl (whose type parameter fixes the codec's types) and the
server trait method all name the same request type and the same response type, because all
three ask `request_response_name` with the same two arguments. -/
theorem C11_types_agree (s : Service) (o : Opts) (m : Method) :
    (clientMethod s o m).req = (serverMethod s o m).req ∧
    (clientMethod s o m).resp = (serverMethod s o m).resp ∧
    (serverMethod s o m).traitReq = (serverMethod s o m).req ∧
    (serverMethod s o m).traitResp = (serverMethod s o m).resp := by
  rw [clientMethod_eq, serverMethod_eq]
  exact ⟨rfl, rfl, rfl, rfl⟩

/-- What is assumed of prost-build's answer for a message type (checked by the driver on every
case): a message compiled into the generated tree (`here`) gets a *relative* path that is not
one of tonic-build's pass-through shapes; a message that lives elsewhere gets one of them — a
well-known type left to prost-types (proto name below `.google.protobuf`, not compiled), an
absolute path (`::…`), a `crate::…` path, or `()`. -/
def ProstLaw (protoType rustType : Bytes) (compileWkt here : Bool) : Prop :=
  ((isGoogleType protoType && !compileWkt) || colons.isPrefixOf rustType ||
    nonPathTypeAllowlist.contains rustType || cratePrefix.isPrefixOf rustType) = !here

/-- **The shared type-path resolution does what the definition demands**: under the stated law
on prost-build's output, tonic-build's `convert_type` names a message compiled into the
generated tree as `<proto_path>::<prost's path>` and any other message exactly as prost names
it — for every `proto_path`, both settings of `compile_well_known_types`, and any extern
mapping (they enter only through prost's answer). (Transcription lemma: it holds by unfolding the
model's definition, so it pins the model's shape for the correspondence run — its assurance about
tonic is the tie, not this proof.) -/
theorem C11_type_resolution (protoPath protoType rustType : Bytes) (compileWkt here : Bool)
    (law : ProstLaw protoType rustType compileWkt here) :
    (TypeName.prost protoType rustType).resolve protoPath compileWkt =
      Spec.Codegen.typePath protoPath here rustType := by
  unfold ProstLaw at law
  unfold TypeName.resolve Spec.Codegen.typePath
  dsimp only
  cases here with
  | true =>
    obtain ⟨h1, h2⟩ := Bool.or_eq_false_iff.mp law
    rw [h1, h2]
    rfl
  | false =>
    cases h : ((isGoogleType protoType && !compileWkt) || colons.isPrefixOf rustType ||
        nonPathTypeAllowlist.contains rustType) with
    | true => rfl
    | false =>
      rw [h] at law
      rw [show cratePrefix.isPrefixOf rustType = true from law]
      rfl

example : ProstLaw (googlePrefix ++ [46, 69]) unitType false false := by unfold ProstLaw; decide +kernel
example : ProstLaw [46, 97, 46, 82] [82] false true := by unfold ProstLaw; decide +kernel

/-- *Transcription lemma (definitional)*: a case split over the two streaming flags (in
`clientMethod_eq`), each case closed by unfolding the model.  **Each side is what the definition
says**: the path is `/package.Service/Method` (package omitted when empty or when
`emit_package(false)` was requested), the RPC kind is the one given by the two streaming flags, the
message types are the definition's, the `GrpcMethod` extension names the same service and method. -/
theorem C11_client_conforms (s : Service) (o : Opts) (m : Method) :
    Spec.Codegen.clientOk (Spec.Codegen.fullName (pkgShown s o) s.ident) (toMethodDef o m)
      (obsC (clientMethod s o m)) = true := by
  simp only [Spec.Codegen.clientOk, obsC, clientMethod_eq, toMethodDef, callNum_callOf, path_spec,
    serviceName_spec, beq_self_eq_true, Bool.and_self]

/-- *Transcription lemma (definitional)*, server side of `C11_client_conforms`. -/
theorem C11_server_conforms (s : Service) (o : Opts) (m : Method) :
    Spec.Codegen.serverOk (Spec.Codegen.fullName (pkgShown s o) s.ident) (toMethodDef o m)
      (obsS (serverMethod s o m)) = true := by
  simp only [Spec.Codegen.serverOk, obsS, serverMethod_eq, toMethodDef, callNum_callOf,
    traitNum_traitOf, path_spec, beq_self_eq_true, Bool.and_self]

private theorem all₂_map {α β γ} (p : β → γ → Bool) (f : α → β) (g : α → γ) (l : List α)
    (h : ∀ x ∈ l, p (f x) (g x) = true) : Spec.Codegen.all₂ p (l.map f) (l.map g) = true := by
  induction l with
  | nil => rfl
  | cons a l ih =>
    simp only [List.map_cons, Spec.Codegen.all₂, Bool.and_eq_true]
    exact ⟨h a List.mem_cons_self, ih (fun x hx => h x (List.mem_cons_of_mem _ hx))⟩

/-- *Transcription lemma (definitional)*: the three lemmas above, lifted over the method list.
**The generator output satisfies the executable spec predicate** (the one the driver
evaluates on the tokens extracted from the real generators), for every descriptor and option:
advertised service name = path prefix, both sides conform to the definition, and they agree. -/
theorem C11_conforms (s : Service) (o : Opts) :
    Spec.Codegen.conforms (pkgShown s o) (toDef s o) (some (serviceNameConst s o))
      (some ((clientCalls s o).map obsC)) (some ((serverArms s o).map obsS)) = true := by
  simp only [Spec.Codegen.conforms, toDef, serviceNameConst, serviceName_spec, beq_self_eq_true,
    Bool.true_and, Bool.and_eq_true, clientCalls, serverArms, List.map_map]
  refine ⟨⟨all₂_map _ _ _ _ fun m _ => C11_client_conforms s o m,
    all₂_map _ _ _ _ fun m _ => C11_server_conforms s o m⟩, all₂_map _ _ _ _ fun m _ => ?_⟩
  simp only [Function.comp, obsC, obsS, clientMethod_eq, serverMethod_eq, beq_self_eq_true,
    Bool.and_self]

/-- *Transcription lemma (definitional)*: `formatMethodPath` is written as
`"/" ++ formatServiceName ++ "/" ++ ident`, as `lib.rs::format_method_path` is.
**The advertised service name is the path prefix**: every arm literal (and so every client
path) is `"/" ++ SERVICE_NAME ++ "/" ++ method`, i.e. exactly the route C10's router keys on. -/
theorem C11_service_name_is_prefix (s : Service) (o : Opts) (m : Method) :
    (serverMethod s o m).literal = Router.routePrefix (serviceNameConst s o) ++ m.ident ∧
    (clientMethod s o m).path = Router.routePrefix (serviceNameConst s o) ++ m.ident := by
  rw [serverMethod_eq, clientMethod_eq]
  exact ⟨formatMethodPath_eq s m o, formatMethodPath_eq s m o⟩

/-- **End to end with C10**: in any set of registered services containing the generated server,
a call made by the generated client for method `m` runs exactly the handler of `m` of that
service. -/
theorem C11_end_to_end (reg : List Router.Svc) (hwf : C10.WellFormed reg) (s : Service) (o : Opts)
    (hreg : serverOf s o ∈ reg) (m : Method) (hm : m ∈ s.methods) :
    Router.dispatch reg (clientMethod s o m).path = .handler (serviceNameConst s o) m.ident := by
  rw [C10.dispatch_eq_handler_iff reg hwf]
  exact ⟨⟨serverOf s o, hreg, rfl, List.mem_map.mpr ⟨m, hm, rfl⟩⟩,
    (C11_service_name_is_prefix s o m).2⟩

/-- **The arm that fires has the client's shape and types.**  With distinct method identifiers,
the generated `match` run on the client's path for `m` selects the arm generated for `m`. -/
theorem C11_call_reaches_matching_arm (s : Service) (o : Opts)
    (hnd : (s.methods.map (·.ident)).Nodup) (m : Method) (hm : m ∈ s.methods) :
    serverCall (serverArms s o) (clientMethod s o m).path = some (serverMethod s o m) := by
  rw [(C11_service_name_is_prefix s o m).2, serverCall_arms, methodAt_self s o hnd hm]
  rfl

private theorem serverOf_call (s : Service) (o : Opts) (path : Bytes) :
    (serverOf s o).call path =
      match methodAt s o path with
      | some m => .handler (serviceNameConst s o) m.ident
      | none => .svcDefault (serviceNameConst s o) := by
  have h : (s.methods.map (·.ident)).find?
      (fun i => path == Router.routePrefix (serviceNameConst s o) ++ i) =
      (methodAt s o path).map (·.ident) := List.find?_map
  simp only [Router.Svc.call, serverOf, h]
  cases methodAt s o path <;> rfl

/-- **The generated `match` runs the method C10's `call` runs.**  Whatever arm the generated
`match` fires on a path is the arm generated for the very method C10's abstract server (`NAME` +
method identifiers) runs: there is a method `m` of the service with
`serverCall … = some (serverMethod s o m)` and `handlerRan = some (NAME, m.ident)`; and neither fires
when the other does not. -/
theorem C11_generated_match_runs_the_routers_method (s : Service) (o : Opts) (path : Bytes) :
    (∃ m ∈ s.methods, serverCall (serverArms s o) path = some (serverMethod s o m) ∧
        ((serverOf s o).call path).handlerRan = some (serviceNameConst s o, m.ident)) ∨
    (serverCall (serverArms s o) path = none ∧ ((serverOf s o).call path).handlerRan = none) := by
  rw [serverCall_arms, serverOf_call]
  cases h : methodAt s o path with
  | none => exact .inr ⟨rfl, rfl⟩
  | some m => exact .inl ⟨m, (methodAt_some h).1, rfl, rfl⟩

/-- **The generated `match` is C10's `call`.**  Matching the request path against the emitted
arm literals fires an arm exactly when C10's abstract server runs a handler, so C10's theorems
speak about the code this generator emits.  (What is left of the theorem above when only
"something fires" is kept.) -/
theorem C11_generated_match_is_router_call (s : Service) (o : Opts) (path : Bytes) :
    (serverCall (serverArms s o) path).isSome = ((serverOf s o).call path).handlerRan.isSome := by
  rcases C11_generated_match_runs_the_routers_method s o path with ⟨_, _, h1, h2⟩ | ⟨h1, h2⟩
  all_goals rw [h1, h2]; rfl

/-- Conversely, an arm fires only for a path some client method produces. -/
theorem C11_arm_fires_only_for_client_paths (s : Service) (o : Opts) (path : Bytes) (a : ServerArm)
    (h : serverCall (serverArms s o) path = some a) :
    ∃ m ∈ s.methods, a = serverMethod s o m ∧ path = (clientMethod s o m).path := by
  rw [serverCall_arms] at h
  obtain ⟨m, hm, rfl⟩ := Option.map_eq_some_iff.mp h
  exact ⟨m, (methodAt_some hm).1, rfl,
    (methodAt_some hm).2.trans (C11_service_name_is_prefix s o m).2.symm⟩

/-- Distinct method identifiers give distinct client paths: no two generated client methods
can land on the same server arm. -/
theorem C11_distinct_paths (s : Service) (o : Opts) (hnd : (s.methods.map (·.ident)).Nodup) :
    ((clientCalls s o).map (·.path)).Nodup := by
  have : (clientCalls s o).map (·.path) =
      (s.methods.map (·.ident)).map (fun i => Router.routePrefix (serviceNameConst s o) ++ i) := by
    simp only [clientCalls, List.map_map]
    apply List.map_congr_left
    intro m _
    exact (C11_service_name_is_prefix s o m).2
  rw [this]
  exact List.Pairwise.map _ (fun a b hab h => hab (List.append_cancel_left h)) hnd

/-- A service definition whose names are protobuf-like: identifier `.`-free and non-empty, no
route-pattern characters anywhere in the shown package or the identifier, method identifiers
non-empty. -/
def DefOk (s : Service) (o : Opts) : Prop :=
  dot ∉ s.ident ∧ s.ident ≠ [] ∧
  (∀ c, c ∈ pkgShown s o ∨ c ∈ s.ident → c ≠ 47 ∧ c ≠ 123 ∧ c ≠ 125) ∧
  (∀ m ∈ s.methods, m.ident ≠ [])

/-- **Distinct definitions give a well-formed registry.**  Generated servers of service
definitions that differ in (package, service identifier) advertise distinct, route-safe names:
C10's hypotheses hold for any such set. -/
theorem C11_registry_wellformed (ds : List Service) (o : Opts) (hok : ∀ s ∈ ds, DefOk s o)
    (hdist : (ds.map (fun s => (pkgShown s o, s.ident))).Nodup) :
    C10.WellFormed (ds.map (fun s => serverOf s o)) := by
  refine ⟨?_, ?_, ?_⟩
  · intro x hx
    obtain ⟨s, hs, rfl⟩ := List.mem_map.mp hx
    obtain ⟨_, hne, hch, _⟩ := hok s hs
    have hmem : ∀ c ∈ serviceNameConst s o, c ≠ 47 ∧ c ≠ 123 ∧ c ≠ 125 := by
      intro c hc
      rw [serviceNameConst, serviceName_spec] at hc
      rcases mem_fullName _ _ _ hc with h | h | h
      · exact hch c (Or.inl h)
      · subst h; decide
      · exact hch c (Or.inr h)
    have hnn : serviceNameConst s o ≠ [] := by
      rw [serviceNameConst, serviceName_spec]; exact fullName_ne_nil _ _ hne
    exact (Router.validName_iff _).mpr
      ⟨hnn, fun h => (hmem _ h).1 rfl, fun h => (hmem _ h).2.1 rfl, fun h => (hmem _ h).2.2 rfl⟩
  · intro x hx mi hmi
    obtain ⟨s, hs, rfl⟩ := List.mem_map.mp hx
    obtain ⟨m, hm, rfl⟩ := List.mem_map.mp hmi
    exact (hok s hs).2.2.2 m hm
  · rw [List.map_map]
    rw [List.Nodup, List.pairwise_map] at hdist ⊢
    refine hdist.imp_of_mem ?_
    intro a b ha hb hne heq
    apply hne
    simp only [Function.comp, serverOf, serviceNameConst, serviceName_spec] at heq
    obtain ⟨h1, h2⟩ := fullName_inj _ _ _ _ (hok a ha).1 (hok b hb).1 heq
    rw [h1, h2]

/-- **End to end, stated on service definitions only.**  Take any set of service definitions
with protobuf-like names that differ in (package, identifier); register all their generated
servers; then the call the generated client makes for method `m` of definition `s` runs exactly
the handler of `m` in the server generated for `s` — whatever the other services are called
(prefixes of one another, same identifier in other packages, …). -/
theorem C11_end_to_end_defs (ds : List Service) (o : Opts) (hok : ∀ s ∈ ds, DefOk s o)
    (hdist : (ds.map (fun s => (pkgShown s o, s.ident))).Nodup)
    (s : Service) (hs : s ∈ ds) (m : Method) (hm : m ∈ s.methods) :
    Router.dispatch (ds.map (fun s => serverOf s o)) (clientMethod s o m).path =
      .handler (serviceNameConst s o) m.ident :=
  C11_end_to_end _ (C11_registry_wellformed ds o hok hdist) s o
    (List.mem_map.mpr ⟨s, hs, rfl⟩) m hm

/-- … and a path that no generated client method produces is answered UNIMPLEMENTED with no
handler run (C10 transported to definitions). -/
theorem C11_other_paths_unimplemented (ds : List Service) (o : Opts) (hok : ∀ s ∈ ds, DefOk s o)
    (hdist : (ds.map (fun s => (pkgShown s o, s.ident))).Nodup) (path : Bytes)
    (hno : ∀ s ∈ ds, ∀ m ∈ s.methods, path ≠ (clientMethod s o m).path) :
    (Router.dispatch (ds.map (fun s => serverOf s o)) path).handlerRan = none ∧
    (Router.dispatch (ds.map (fun s => serverOf s o)) path).routerStatus = some 12 := by
  have hwf := C11_registry_wellformed ds o hok hdist
  refine (Router.dispatch_cases hwf.2.2 path).resolve_left ?_
  rintro ⟨sn, mn, h⟩
  obtain ⟨⟨x, hx, rfl, hmn⟩, hp⟩ := (C10.dispatch_eq_handler_iff _ hwf _ _ _).mp h
  obtain ⟨s, hs, rfl⟩ := List.mem_map.mp hx
  obtain ⟨m, hm, rfl⟩ := List.mem_map.mp hmn
  exact hno s hs m hm (hp.trans (C11_service_name_is_prefix s o m).2.symm)

/-- Without a package (or with `emit_package(false)`) the name is the bare service identifier;
with one it is `package.Service`. -/
theorem C11_service_name (s : Service) (o : Opts) :
    serviceNameConst s o = Spec.Codegen.fullName (pkgShown s o) s.ident :=
  serviceName_spec s o

/- Non-vacuity: a descriptor with a nested package, the four kinds, Rust names that differ from
the proto identifiers; hypotheses of the end-to-end theorems are satisfiable. -/
private def bs (s : String) : Bytes := s.toList.map (fun c => c.toNat.toUInt8)
/-- Rewrite with this before evaluating a term that holds literals: the kernel's `String.toList` on
a literal takes time quadratic in its length, afterwards it reads the bytes off the characters. -/
private theorem bs_lit (cs : List Char) : bs (String.ofList cs) = cs.map (fun c => c.toNat.toUInt8) := by
  rw [bs, String.toList_ofList]
private def svc0 : Service :=
  ⟨bs "Greeter", bs "a.b", bs "Greeter",
   [⟨bs "say_hello", bs "SayHello", false, false, .fixed (bs "Req"), .fixed (bs "Resp")⟩,
    ⟨bs "watch", bs "Watch", false, true, .fixed (bs "Req"), .fixed (bs "Resp")⟩,
    ⟨bs "upload", bs "Upload", true, false, .fixed (bs "Chunk"), .fixed (bs "Resp")⟩,
    ⟨bs "r#type", bs "Type", true, true, .fixed (bs "Req"), .fixed (bs "Resp")⟩]⟩

example : (clientCalls svc0 { emitPackage := true }).map (·.path) =
    [bs "/a.b.Greeter/SayHello", bs "/a.b.Greeter/Watch", bs "/a.b.Greeter/Upload", bs "/a.b.Greeter/Type"] := by
  repeat rw [bs_lit]
  decide +kernel
example : (clientCalls svc0 { emitPackage := false }).map (·.path) =
    [bs "/Greeter/SayHello", bs "/Greeter/Watch", bs "/Greeter/Upload", bs "/Greeter/Type"] := by
  repeat rw [bs_lit]
  decide +kernel
example : (svc0.methods.map (·.ident)).Nodup := by decide +kernel
/-- a package spelled with a leading dot (what `manual::Service::package` accepts and prost never
produces; seed C11j): route, client path and advertised name keep the dot alike -/
example : (clientCalls { svc0 with package := bs ".helloworld" } { emitPackage := true }).map (·.path) =
    [bs "/.helloworld.Greeter/SayHello", bs "/.helloworld.Greeter/Watch", bs "/.helloworld.Greeter/Upload",
     bs "/.helloworld.Greeter/Type"] ∧
    serviceNameConst { svc0 with package := bs ".helloworld" } { emitPackage := true } = bs ".helloworld.Greeter" := by
  repeat rw [bs_lit]
  decide +kernel
example : C10.WellFormed [serverOf svc0 { emitPackage := true }, ⟨bs "a.b", [bs "Greeter"]⟩] := by
  unfold C10.WellFormed
  decide +kernel
example : DefOk svc0 { emitPackage := true } := by
  -- the quantifier over all bytes becomes one over the bytes of the two names
  have all : dot ∉ svc0.ident ∧ svc0.ident ≠ [] ∧
      (∀ c ∈ pkgShown svc0 { emitPackage := true } ++ svc0.ident, c ≠ 47 ∧ c ≠ 123 ∧ c ≠ 125) ∧
      (∀ m ∈ svc0.methods, m.ident ≠ []) := by decide +kernel
  exact ⟨all.1, all.2.1, fun c hc => all.2.2.1 c (List.mem_append.mpr hc), all.2.2.2⟩
example : (serverArms svc0 { emitPackage := true }).map (·.call) = [.unary, .serverStreaming, .clientStreaming, .streaming] := by decide +kernel

/- the hypotheses of `C11_end_to_end_defs` hold for a set of definitions whose names collide in
every way the property mentions: same identifier in another package, no package, and a
Service-Name that is a prefix of another. -/
private def svc1 : Service := ⟨bs "Greeter", bs "a", bs "Greeter", [⟨bs "say_hello", bs "SayHello", false, false, .fixed (bs "Req"), .fixed (bs "Resp")⟩]⟩
private def svc2 : Service := ⟨bs "Greeter", [], bs "Greeter", [⟨bs "say_hello", bs "SayHello", true, true, .fixed (bs "Req"), .fixed (bs "Resp")⟩]⟩
private def svc3 : Service := ⟨bs "Gre", bs "a.b", bs "Gre", [⟨bs "eter", bs "eter", false, true, .fixed (bs "Req"), .fixed (bs "Resp")⟩]⟩
example : ([svc0, svc1, svc2, svc3].map (fun s => (pkgShown s { emitPackage := true }, s.ident))).Nodup := by decide +kernel
example : C10.WellFormed ([svc0, svc1, svc2, svc3].map (fun s => serverOf s { emitPackage := true })) := by
  unfold C10.WellFormed
  decide +kernel
example : Router.dispatch ([svc0, svc1, svc2, svc3].map (fun s => serverOf s { emitPackage := true })) (bs "/Greeter/SayHello")
    = .handler (bs "Greeter") (bs "SayHello") := by
  repeat rw [bs_lit]
  decide +kernel

/-! ### Sets of services and builder histories -/

/-- Transcription lemma (definitional): `generateSet ds o` is DEFINED as `ds.map (generate · o)`, so
this is `List.map_append` and holds of any per-service generator; it restates the model's reading of
`ServiceGenerator::generate` being called once per service with fresh `CodeGenBuilder`s and carries
no assurance of its own.  That the real front ends carry nothing from one service of a set to the
next is established by the correspondence run (`px` descriptor sets with 1–4 services — same name in
two packages, with / without a package — and `mx` `manual::Builder::compile` on several services).
**A service of a set is generated as if it were alone.**  In a descriptor set (several
services in one `.proto` file, several files of one package, several packages; or
`manual::Builder::compile(&[…])`) what is generated for a service does not depend on what stands
before or after it: same Rust name in another package, a package that is a prefix of another, any
number of neighbours. -/
theorem C11_set_member_independent_of_neighbours (pre post : List Service) (s : Service) (o : Opts) :
    generateSet (pre ++ s :: post) o = generateSet pre o ++ generate s o :: generateSet post o := by
  simp [generateSet]

/-- Transcription lemma (definitional): `List.length_map` + `List.mem_map` + `C11_conforms`, which is
itself a transcription lemma (`toDef` takes the types from the model's own `Method.types`, so
"conforms" compares the model with a definition read off the model) — no assurance of its own; the
conformance of the EMITTED code to the descriptor is what the driver's evaluation of
`Spec.Codegen.conforms` on the `px` / `mx` cases establishes, per service.
**Every service of a set conforms** to its own definition (the executable spec predicate the
driver evaluates per service on `px` / `mx` cases), and the set has one output per service, in order. -/
theorem C11_set_conforms (ds : List Service) (o : Opts) :
    (generateSet ds o).length = ds.length ∧
    ∀ s ∈ ds, generate s o ∈ generateSet ds o ∧
      Spec.Codegen.conforms (pkgShown s o) (toDef s o) (some (generate s o).serviceName)
        (some ((generate s o).calls.map obsC)) (some ((generate s o).arms.map obsS)) = true := by
  refine ⟨by simp [generateSet], ?_⟩
  intro s hs
  exact ⟨List.mem_map.mpr ⟨s, hs, rfl⟩, C11_conforms s o⟩

/-- The value the last call of the `emit_package` setter gave, else the one before the history. -/
def lastEmit (dflt : Bool) : List BOp → Bool
  | [] => dflt
  | .emitPackage b :: ops => lastEmit b ops
  | _ :: ops => lastEmit dflt ops

/-- The value the last call of the `compile_well_known_types` setter gave. -/
def lastWkt (dflt : Bool) : List BOp → Bool
  | [] => dflt
  | .compileWkt b :: ops => lastWkt b ops
  | _ :: ops => lastWkt dflt ops

private theorem after_opts (st : BState) (ops : List BOp) (p : Bytes) :
    (st.after ops).opts p = ⟨lastEmit st.emitPackage ops, lastWkt st.compileWkt ops, p⟩ := by
  induction ops generalizing st with
  | nil => rfl
  | cons op ops ih =>
    rw [BState.after, List.foldl_cons]
    exact (ih (st.set op)).trans (by cases op <;> rfl)

/-- **What a builder emitted is never revised, and what it emits next depends on its past only
through its current value**: the output of a history `a ++ b` is the output of `a` followed by
the output of `b` run on the builder value `a` left behind. -/
theorem C11_builder_run_append (st : BState) (a b : List BOp) :
    st.run (a ++ b) = st.run a ++ (st.after a).run b := by
  induction a generalizing st with
  | nil => rfl
  | cons op a ih =>
    simp only [List.cons_append, BState.run, BState.after, List.foldl_cons, List.append_assoc]
    rw [ih]
    rfl

/-- Transcription lemma (definitional, `⟨rfl, rfl, rfl⟩`): `BState.set` is written with a catch-all arm
`| _ => st` for everything but the two setters (`generate_*` take `&self`); it pins the model's shape
for the `gseq` correspondence cases (one `CodeGenBuilder` reconfigured between 2–5 generations), which
carry the assurance.
**Generating changes nothing in the builder**: `generate_server` / `generate_client` (and the
setters of the other fields) leave the value as it was, so the same service generated twice in a
row comes out the same, in whichever order the two sides are generated. -/
theorem C11_builder_generation_keeps_value (st : BState) (s : Service) (p : Bytes) :
    st.set (.genServer s p) = st ∧ st.set (.genClient s p) = st ∧ st.set .other = st :=
  ⟨rfl, rfl, rfl⟩

/-- **A `CodeGenBuilder` has no memory.**  After ANY history of setter calls and generations
(other services, other option values, either side first), generating server and client for a
service emits exactly what the model emits for the options now in force — each the value its
setter was last called with, else the default — and that output satisfies the executable spec
predicate for those options.  In particular nothing of an earlier service (its name, its
package, an earlier `emit_package` value) can show.
What carries weight here: the first two conjuncts (an invariant over the history: the options in
force are the LAST value each setter was given — `lastEmit` / `lastWkt` — and the output is the
single-service model's for them), within the model `BState` whose `set` ignores `generate_*` by
construction (`C11_builder_generation_keeps_value`).  The THIRD conjunct re-exports the transcription
lemma `C11_conforms` (definitional, no assurance of its own) for convenience only.  Tie: `gseq`. -/
theorem C11_builder_has_no_memory (st : BState) (pre : List BOp) (s : Service) (p : Bytes) :
    let o : Opts := ⟨lastEmit st.emitPackage pre, lastWkt st.compileWkt pre, p⟩
    st.run (pre ++ [.genServer s p, .genClient s p]) =
      st.run pre ++ [.server (serviceNameConst s o) (serverArms s o), .client (clientCalls s o)] ∧
    st.run (pre ++ [.genClient s p, .genServer s p]) =
      st.run pre ++ [.client (clientCalls s o), .server (serviceNameConst s o) (serverArms s o)] ∧
    Spec.Codegen.conforms (pkgShown s o) (toDef s o) (some (serviceNameConst s o))
      (some ((clientCalls s o).map obsC)) (some ((serverArms s o).map obsS)) = true := by
  intro o
  have ho : (st.after pre).opts p = o := after_opts st pre p
  refine ⟨?_, ?_, C11_conforms s o⟩
  · rw [C11_builder_run_append, ← ho]; rfl
  · rw [C11_builder_run_append, ← ho]; rfl

/- Non-vacuity: a history that switches `emit_package` off and on again around a generation for
another service of the same Rust name. -/
example :
    let st : BState := {}
    st.run [.genServer svc1 superPath, .emitPackage false, .genServer svc0 superPath, .other,
            .emitPackage true, .compileWkt true, .genClient svc1 superPath] =
      [.server (bs "a.Greeter") (serverArms svc1 { emitPackage := true }),
       .server (bs "Greeter") (serverArms svc0 { emitPackage := false }),
       .client (clientCalls svc1 { emitPackage := true, compileWkt := true })] := by
  repeat rw [bs_lit]
  decide +kernel
example : lastEmit true [.genServer svc1 superPath, .emitPackage false, .other] = false := by decide +kernel
example : (generateSet [svc0, svc1, svc2, svc3] { emitPackage := true }).map (·.serviceName) =
    [bs "a.b.Greeter", bs "a.Greeter", bs "Greeter", bs "a.b.Gre"] := by
  repeat rw [bs_lit]
  decide +kernel

end C11
