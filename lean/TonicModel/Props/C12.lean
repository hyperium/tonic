import TonicModel.Model.Interceptor
import TonicModel.Spec.Interceptor
import TonicModel.Lemmas.Interceptor
/-
C12 — Interceptors change only what they change and can veto a call.
Throughout: `f` is an arbitrary stateful interceptor (any function on metadata × extensions),
`inner` an arbitrary stateful wrapped service, `β`/`ρ` arbitrary body types, `req` an arbitrary
request (any method / version / URI tokens, any header list, any extensions).
-/
namespace C12
open HMapLite HttpLite Interceptor

variable {σ ι β ρ ε : Type}

/-- The observable part of a response, for the oracle.  The wrapped body's own end-of-stream
flag and frames are parameters (a rejection never consults them). -/
def viewOf (innerEos : ρ → Bool) (innerFrames : ρ → Body) (r : Response (RespBody ρ)) :
    Spec.Interceptor.RespView :=
  { status := r.status, headers := r.headers,
    endStream := RespBody.isEndStream innerEos r.body,
    frames := (RespBody.frames innerFrames r.body).chunks.length +
              (if (RespBody.frames innerFrames r.body).trailers.isSome then 1 else 0) }

/-- The interceptor is given exactly the request's header map and extensions, and nothing else
of the call depends on it: two interceptors that answer alike on that input give the same call. -/
theorem C12_interceptor_input (f g : Icpt σ) (inner : Inner ι β ρ ε) (s : σ) (i : ι) (req : Request β)
    (h : f s (req.headers, req.ext) = g s (req.headers, req.ext)) :
    call f inner s i req = call g inner s i req := by
  simp only [call, callWith, fromHttp, intoParts, fromParts, metadataFromHeaders]
  rw [h]

/-- Said with a recording interceptor: during one call the interceptor is invoked exactly once,
on exactly the request's header map (every header, reserved names included) and extensions. -/
theorem C12_interceptor_invoked_once (f : Icpt σ) (inner : Inner ι β ρ ε) (s : σ) (i : ι) (req : Request β) :
    (call (logged f) inner (s, []) i req).icpt.2 =
      [((req.headers, req.ext), (f s (req.headers, req.ext)).2)] := by
  rw [call_icpt, logged]
  rcases f s (req.headers, req.ext) with ⟨s', r⟩
  rfl

/-- Accept: the wrapped service is invoked, and the request it receives is the original one
with the header map and extensions replaced by the interceptor's — same URI, method, version
and body (the literal record, so every header the interceptor left in its map is there, reserved
names included). -/
theorem C12_accept (f : Icpt σ) (inner : Inner ι β ρ ε) (s s' : σ) (i : ι) (req : Request β)
    (md' : Hdrs) (ext' : Ext) (h : f s (req.headers, req.ext) = (s', .ok (md', ext'))) :
    (call f inner s i req).innerSaw = some { req with headers := md', ext := ext' } ∧
    (call f inner s i req).icpt = s' := by
  rw [call_ok f inner s s' i req md' ext' h]
  exact ⟨rfl, rfl⟩

/-- What a server handler sees after `Request::from_http` of the request the wrapped service got:
the interceptor's metadata and extensions (the documented way to hand data from an interceptor
to an RPC: `extensions_mut().insert(..)` then `extensions().get()`), and the original message. -/
theorem C12_handler_view (f : Icpt σ) (inner : Inner ι β ρ ε) (s s' : σ) (i : ι) (req : Request β)
    (md' : Hdrs) (ext' : Ext) (h : f s (req.headers, req.ext) = (s', .ok (md', ext'))) :
    (call f inner s i req).innerSaw.map fromHttp =
      some { metadata := md', message := req.body, extensions := ext' } := by
  rw [(C12_accept f inner s s' i req md' ext' h).1]
  rfl

/-- Back-pressure: readiness of the intercepted service is the wrapped service's — pending stays
pending, a readiness error is passed on, and the interceptor plays no part.
(Transcription lemma: it holds by unfolding the model's definition, so it pins the model's shape for the
correspondence run — its assurance about tonic is the tie, not this proof.) -/
theorem C12_poll_ready (innerReady : ι → Poll ε) (i : ι) : pollReady innerReady i = innerReady i := rfl

/-- Accept, as the oracle judges it: all accept clauses of `Spec.Interceptor` hold of what the
wrapped service saw. -/
theorem C12_accept_spec [BEq β] [ReflBEq β] (f : Icpt σ) (inner : Inner ι β ρ ε) (s s' : σ) (i : ι)
    (req : Request β) (md' : Hdrs) (ext' : Ext)
    (h : f s (req.headers, req.ext) = (s', .ok (md', ext'))) :
    Spec.Interceptor.allOk
      (Spec.Interceptor.acceptClauses req md' ext' (call f inner s i req).innerSaw) = true := by
  rw [(C12_accept f inner s s' i req md' ext' h).1]
  simp [Spec.Interceptor.allOk, Spec.Interceptor.acceptClauses, hdrsEq_refl, extEq_refl]

/-- Accept: the caller gets the wrapped service's answer untouched — same status, version,
headers, extensions, the body merely wrapped; an error of the wrapped service is passed on. -/
theorem C12_response_passthrough (f : Icpt σ) (inner : Inner ι β ρ ε) (s s' : σ) (i : ι)
    (req : Request β) (md' : Hdrs) (ext' : Ext)
    (h : f s (req.headers, req.ext) = (s', .ok (md', ext'))) :
    (call f inner s i req).inner = (inner i { req with headers := md', ext := ext' }).1 ∧
    (call f inner s i req).out =
      (match (inner i { req with headers := md', ext := ext' }).2 with
       | .ok res => .response { status := res.status, version := res.version, headers := res.headers,
                                ext := res.ext, body := RespBody.wrap res.body }
       | .error e => .error e) := by
  rw [call_ok f inner s s' i req md' ext' h]
  refine ⟨rfl, ?_⟩
  cases (inner i { req with headers := md', ext := ext' }).2 <;> rfl

/-- The wrapped body is delegated to: end-of-stream flag, size hint and frames of the response
body are the wrapped service's.
(Transcription lemma: it holds by unfolding the model's definition, so it pins the model's shape for the
correspondence run — its assurance about tonic is the tie, not this proof.) -/
theorem C12_response_body_delegates (eos : ρ → Bool) (size : ρ → Nat) (frames : ρ → Body) (b : ρ) :
    RespBody.isEndStream eos (RespBody.wrap b) = eos b ∧
    RespBody.sizeHint size (RespBody.wrap b) = size b ∧
    RespBody.frames frames (RespBody.wrap b) = frames b := ⟨rfl, rfl, rfl⟩

/-- Reject: the wrapped service is not invoked (its state is untouched), the response future
does not panic, and the response is a trailers-only gRPC response that the spec's own decoder
reads back as precisely the interceptor's status: HTTP 200, `application/grpc`, `grpc-status` =
the code, `grpc-message` percent-decoding to the message (absent iff empty), details base64-
decoding to the details (absent iff empty), every non-reserved metadata name with exactly the
status's values, and an empty body that reports end-of-stream.  For every status (any code
0..16, any message bytes, any details, any metadata — reserved and repeated names included). -/
theorem C12_reject (f : Icpt σ) (inner : Inner ι β ρ ε) (s s' : σ) (i : ι) (req : Request β)
    (st : GStatus) (hcode : st.code ≤ 16)
    (h : f s (req.headers, req.ext) = (s', .error st))
    (eos : ρ → Bool) (frames : ρ → Body) :
    (call f inner s i req).innerSaw = none ∧ (call f inner s i req).inner = i ∧
    (call f inner s i req).icpt = s' ∧
    ∃ r, (call f inner s i req).out = .response r ∧
      Spec.Interceptor.allOk (Spec.Interceptor.rejectClauses st false (viewOf eos frames r)) = true := by
  obtain ⟨H, hH, _⟩ := statusIntoHttp_headers () st
  rw [call_error f inner s s' i req st h]
  exact ⟨rfl, rfl, rfl, _, rejectOutcome_eq st H hH, rejectClauses_ok st hcode H H hH fun _ => rfl⟩

/-- The defect in the code as found: a status whose *metadata* names `grpc-status-details-bin`
while its `details` are empty is not delivered "precisely": the decoded details are not the
status's.  (Witness kept in the harness corpus; repaired by `fix-C12-status-details-metadata`.) -/
theorem C12_reject_asfound_fails :
    let st : GStatus := { code := 7, message := str "no", details := [],
                          metadata := [(str "grpc-status-details-bin", (str "AAAA", false))] }
    let f : Icpt Unit := fun _ _ => ((), .error st)
    let inner : Inner Unit Unit Unit Unit := fun _ _ => ((), .error ())
    let req : Request Unit := { method := str "POST", version := 2, uri := str "/", headers := [], ext := [], body := () }
    ∃ r, (callAsFound f inner () () req).out = .response r ∧
      Spec.Interceptor.allOk (Spec.Interceptor.rejectClauses st false
        (viewOf (fun _ => true) (fun _ => { chunks := [], trailers := none }) r)) = false := by
  refine ⟨_, rfl, ?_⟩
  decide +kernel

/-! ### "only what they change": scripted interceptors -/

private theorem apply_untouched (count : Nat) (op : Op) (mx : Hdrs × Ext) (k : Bytes)
    (h : op.mentions k = false) : getAll k (op.apply count mx).1 = getAll k mx.1 := by
  obtain ⟨m, x⟩ := mx
  have hk : ∀ n, (normName n == k) = false → k ≠ normName n := fun n e => Ne.symm (beq_eq_false_iff_ne.mp e)
  -- by the map operation the `Op` stands for
  cases op with
  | hins | mins | bins | cnt => exact (getAll_insert ..).trans (if_neg (hk _ h))
  | happ | mapp | bapp => exact (getAll_append ..).trans (by rw [if_neg (hk _ h), List.append_nil])
  | hrem | mrem | brem => exact (getAll_remove ..).trans (if_neg (hk _ h))
  | clear => cases h
  | xset | xrm | xclear => rfl

/-- Frame property of the metadata API as interceptors use it: whatever sequence of inserts,
appends, removes (ASCII, binary or raw) and extension operations a script performs, every header
name it does not mention — reserved names included — keeps exactly its values, in order. -/
theorem C12_untouched (count : Nat) (ops : List Op) (mx : Hdrs × Ext) (k : Bytes)
    (h : ∀ op ∈ ops, op.mentions k = false) :
    getAll k (applyOps count ops mx).1 = getAll k mx.1 := by
  induction ops generalizing mx with
  | nil => rfl
  | cons op ops ih =>
    exact (ih (op.apply count mx) fun o ho => h o (List.mem_cons_of_mem _ ho)).trans
      (apply_untouched count op mx k (h op List.mem_cons_self))

/-- End to end for a scripted interceptor that accepts: at the wrapped service every name the
script does not mention has the original request's values (so nothing is lost, reordered or
invented under it). -/
theorem C12_scripted_frame (scripts : List Script) (sc : Script) (c : Nat) (inner : Inner ι β ρ ε)
    (i : ι) (req : Request β) (hsc : scripts[c % scripts.length]? = some sc) (hacc : sc.reject = none)
    (k : Bytes) (hk : ∀ op ∈ sc.ops, op.mentions k = false) :
    ∃ r, (call (scripted scripts) inner c i req).innerSaw = some r ∧
      r.uri = req.uri ∧ r.method = req.method ∧ r.version = req.version ∧ r.body = req.body ∧
      getAll k r.headers = getAll k req.headers := by
  have hf : scripted scripts c (req.headers, req.ext) =
      (c + 1, .ok (applyOps c sc.ops (req.headers, req.ext))) := by
    simp [scripted, hsc, hacc]
  exact ⟨_, (C12_accept (scripted scripts) inner c (c + 1) i req _ _ hf).1, rfl, rfl, rfl, rfl,
    C12_untouched c sc.ops (req.headers, req.ext) k hk⟩

/-- The same, as the oracle judges it on an observation: `Spec.Interceptor.untouchedOk` holds of
the original headers and the headers the wrapped service saw, with "touched" = mentioned by the
script. -/
theorem C12_scripted_frame_spec (count : Nat) (ops : List Op) (md : Hdrs) (x : Ext) :
    Spec.Interceptor.untouchedOk (fun k => ops.any (Op.mentions k)) md (applyOps count ops (md, x)).1 = true := by
  simp only [Spec.Interceptor.untouchedOk, List.all_eq_true, Bool.or_eq_true, beq_iff_eq]
  intro k _
  cases h : ops.any (Op.mentions k)
  · exact Or.inr (C12_untouched count ops (md, x) k fun op hop => by simpa using List.any_eq_false.mp h op hop)
  · exact Or.inl rfl

/-- What the interceptor *does* change arrives as changed: after a script ending in an insert /
append / remove of `n`, the wrapped service sees under `n` exactly `[v]` / the previous values
followed by `v` / nothing. -/
theorem C12_last_op_effect (count : Nat) (ops : List Op) (mx : Hdrs × Ext) (n : Bytes) (v : HVal) :
    getAll (normName n) (applyOps count (ops ++ [.hins n v]) mx).1 = [v] ∧
    getAll (normName n) (applyOps count (ops ++ [.happ n v]) mx).1 =
      getAll (normName n) (applyOps count ops mx).1 ++ [v] ∧
    getAll (normName n) (applyOps count (ops ++ [.hrem n]) mx).1 = [] := by
  simp only [applyOps, List.foldl_append, List.foldl_cons, List.foldl_nil]
  generalize List.foldl (fun acc op => op.apply count acc) mx ops = r
  obtain ⟨m, x⟩ := r
  simp [Op.apply, getAll_insert, getAll_append, getAll_remove]

/-! ### sequences of calls on one service value (the interceptor is `FnMut`) -/

/-- What the wrapped service must see over a sequence of calls, defined from the interceptor's
decisions alone (no mention of the wrapped service): the accepted requests, rebuilt. -/
def expectedSaw (f : Icpt σ) : σ → List (Request β) → List (Option (Request β))
  | _, [] => []
  | s, r :: rs =>
    match f s (r.headers, r.ext) with
    | (s', .ok (md, x)) => some { r with headers := md, ext := x } :: expectedSaw f s' rs
    | (s', .error _) => none :: expectedSaw f s' rs

/-- For every sequence of requests, every stateful interceptor and every wrapped service: call
by call, the wrapped service is invoked exactly for the accepted requests — with the
interceptor's metadata/extensions on the original request — and never for a rejected one; and
its final state is the one reached by serving only those, in order. -/
theorem C12_sequence (f : Icpt σ) (inner : Inner ι β ρ ε) (s : σ) (i : ι) (reqs : List (Request β)) :
    (runCalls f inner s i reqs).2.2.map (·.1) = expectedSaw f s reqs ∧
    (runCalls f inner s i reqs).2.1 =
      ((expectedSaw f s reqs).filterMap id).foldl (fun st r => (inner st r).1) i := by
  induction reqs generalizing s i with
  | nil => simp [runCalls, expectedSaw]
  | cons r rs ih =>
    simp only [runCalls, expectedSaw]
    cases hf : f s (r.headers, r.ext) with
    | mk s' d =>
      cases d with
      | ok p =>
        obtain ⟨md, x⟩ := p
        have := ih s' (inner i { r with headers := md, ext := x }).1
        rw [call_ok f inner s s' i r md x hf]
        simp [this.1, this.2]
      | error st =>
        have := ih s' i
        rw [call_error f inner s s' i r st hf]
        simp [this.1, this.2]

/-- Every element of a sequence run *is* a single call from SOME pair of states (existential: which
states — those reached by the earlier calls — is what `C12_sequence` says, not this lemma), so the
single-call theorems (`C12_accept`, `C12_reject`, `C12_response_passthrough`) apply to each call
of any sequence. -/
theorem C12_sequence_each (f : Icpt σ) (inner : Inner ι β ρ ε) (s : σ) (i : ι) (reqs : List (Request β))
    (k : Nat) (hk : k < reqs.length) :
    ∃ sk ik, (runCalls f inner s i reqs).2.2[k]? =
      some ((call f inner sk ik reqs[k]).innerSaw, (call f inner sk ik reqs[k]).out) := by
  induction reqs generalizing s i k with
  | nil => cases hk
  | cons r rs ih =>
    cases k with
    | zero => exact ⟨s, i, by simp [runCalls]⟩
    | succ k =>
      have hk' : k < rs.length := by simpa using hk
      obtain ⟨sk, ik, h⟩ := ih (call f inner s i r).icpt (call f inner s i r).inner k hk'
      exact ⟨sk, ik, by simpa [runCalls] using h⟩

/-! ### the `tonic::Request` ⇄ `http::Request` conversions used on the way (request.rs) -/

/-- `into_http(.., SanitizeHeaders::No)` after `from_http` gives back the request (so the path
through `tonic::Request` loses nothing when method / URI / version are re-supplied)
(Transcription lemma: it holds by unfolding the model's definition, so it pins the model's shape for the
correspondence run — its assurance about tonic is the tie, not this proof.) … -/
theorem C12_from_into_http_no (req : Request β) :
    intoHttp (fromHttp req) req.uri req.method req.version .no = req := by
  cases req; rfl

/-- … whereas `SanitizeHeaders::Yes` (used by the client when it builds the outgoing request,
*not* by the interceptor) drops exactly the six reserved names and keeps every other name. -/
theorem C12_into_http_yes (req : Request β) (k : Bytes) :
    getAll k (intoHttp (fromHttp req) req.uri req.method req.version .yes).headers =
      if k ∈ reservedHeaders then [] else getAll k req.headers := by
  simp only [intoHttp, fromHttp, metadataFromHeaders, intoSanitizedHeaders, getAll_removeAll]

/-! ### client side: `Grpc<InterceptedService<T, F>>` (prepare_request → interceptor → transport) -/

/-- What a client-side interceptor is shown: the request `prepare_request` built — `POST`,
HTTP/2, `te: trailers`, `content-type: application/grpc`, the caller's extensions and body, and
under every other name the caller's metadata except tonic's six reserved names (which
`SanitizeHeaders::Yes` drops *before* the interceptor; what the interceptor then adds under such
a name is kept, see `C12_accept`). -/
theorem C12_client_prepare (pre op : Bytes) (q : Bool) (path : Bytes) (t : TRequest β) (k : Bytes) :
    (prepareRequest pre op q path t).method = str "POST" ∧
    (prepareRequest pre op q path t).version = 2 ∧
    (prepareRequest pre op q path t).ext = t.extensions ∧
    (prepareRequest pre op q path t).body = t.message ∧
    getAll k (prepareRequest pre op q path t).headers =
      if k = nameContentType then [(grpcContentType, false)]
      else if k = str "te" then [(str "trailers", false)]
      else if k ∈ reservedHeaders then [] else getAll k t.metadata := by
  refine ⟨rfl, rfl, rfl, rfl, ?_⟩
  simp only [prepareRequest, intoHttp, intoSanitizedHeaders, getAll_insert, getAll_removeAll]

/-- Client side, reject, end to end through tonic's own response handling: when the interceptor
rejects with a non-OK status, the transport is never invoked and `Grpc::server_streaming`
returns `Err(status')` where `status'` has the same code, message and details, and the same
values under every non-reserved metadata name.  Hypotheses: the message is what Rust calls
UTF-8 (it is a `String`), and the status metadata does not use the name `grpc-encoding` (the
client would take it for a compressed response). -/
theorem C12_client_reject (utf8 : Bytes → Bool) (f : Icpt σ) (inner : Inner ι β ρ ε) (s s' : σ) (i : ι)
    (pre op : Bytes) (q : Bool) (path : Bytes) (t : TRequest β) (st : GStatus)
    (hcode : 1 ≤ st.code ∧ st.code ≤ 16) (hutf : utf8 st.message = true)
    (henc : getAll (str "grpc-encoding") st.metadata = [])
    (h : f s ((prepareRequest pre op q path t).headers, (prepareRequest pre op q path t).ext) = (s', .error st)) :
    (clientCall utf8 f inner s i pre op q path t).1.innerSaw = none ∧
    (clientCall utf8 f inner s i pre op q path t).1.inner = i ∧
    ∃ st', (clientCall utf8 f inner s i pre op q path t).2 = .err st' ∧
      st'.code = st.code ∧ st'.message = st.message ∧ st'.details = st.details ∧
      ∀ k, Spec.Interceptor.reserved k = false → getAll k st'.metadata = getAll k st.metadata := by
  obtain ⟨H, hH, hct, hst, hmsg, hdet, hrest⟩ := statusIntoHttp_headers () st
  simp only [clientCall, call_error f inner s s' i _ st h, rejectOutcome_eq st H hH, true_and]
  have henc' : getAll (str "grpc-encoding") H = [] := by
    obtain ⟨k4, k3, k2, k1, k5⟩ := ne_of_not_mem _ grpcEncoding_not_mem
    rw [hrest _ k4 k3 k2 k1, if_neg k5, henc]
  have hc : codeFromBytes (codeHeaderValue st.code) = st.code :=
    codeFromBytes_codeHeaderValue ⟨st.code, by omega⟩
  have hmsg' : messageFromHeaders utf8 H = some st.message := by
    rw [messageFromHeaders, hmsg]
    cases hm : st.message.isEmpty
    · simp [percentDecodeLenient_percentEncode, hutf]
    · simp [List.isEmpty_iff.mp hm]
  have hdet' : detailsFromHeaders H = some st.details := by
    rw [detailsFromHeaders, hdet]
    cases hd : st.details.isEmpty
    · simp [B64.decode_encode]
    · simp [List.isEmpty_iff.mp hd]
  have hne : (st.code != 0) = true := by simp; omega
  refine ⟨{ code := st.code, message := st.message, details := st.details,
            metadata := remove nameGrpcDetails (remove nameGrpcMessage (remove nameGrpcStatus H)) },
    ?_, rfl, rfl, rfl, ?_⟩
  · simp only [createResponse, henc', List.head?_nil, createResponse.go, statusFromHeaderMap, hst,
      List.head?_cons, hmsg', hdet', metadataFromHeaders, hc, hne, if_true]
  · intro k hk
    obtain ⟨k4, k3, k2, k1, k5⟩ := ne_of_not_mem k (not_mem_of_unreserved k hk)
    simp only
    rw [getAll_remove, if_neg k1, getAll_remove, if_neg k2, getAll_remove, if_neg k3,
      hrest k k4 k3 k2 k1, if_neg k5]

/-! ### server side: `Routes::add_service(InterceptedService<S, F>)` (`NAME = S::NAME`) -/

/-- A request whose path names the intercepted service (`/NAME/…`, gRPC's path grammar) is
exactly a call on the `InterceptedService` — so every theorem above holds through the router —
and a request whose path does not name it leaves interceptor and wrapped service untouched
(the `Routed` value carries no new states) … -/
theorem C12_routed (name other : Bytes) (hn : ∀ c ∈ name, c ≠ 47) (f : Icpt σ) (inner : Inner ι β ρ ε)
    (s : σ) (i : ι) (path : Bytes) (req : Request β) :
    (Spec.Interceptor.pathNamesService name path = true →
      routesCall name other f inner s i path req = .service (call f inner s i req)) ∧
    (Spec.Interceptor.pathNamesService name path = false →
      routesCall name other f inner s i path req = .other ∨
      routesCall name other f inner s i path req = .fallback unimplementedResponse) := by
  rw [← routeMatches_eq_spec name path hn]
  constructor
  · intro h; simp [routesCall, h]
  · intro h
    simp only [routesCall, h, Bool.false_eq_true, if_false]
    cases routeMatches other path <;> simp

/-- … and the fallback answer is a trailers-only UNIMPLEMENTED response for the spec's decoder
(ignoring the HTTP framing header `content-length: 0` the router adds). -/
theorem C12_unrouted_unimplemented :
    ∃ r, unimplementedResponse = some r ∧
      Spec.Interceptor.allOk (Spec.Interceptor.rejectClauses
        { code := 12, message := [], details := [], metadata := [] } false
        { status := r.status, headers := r.headers.filter (fun e => !Spec.Interceptor.httpFraming e.1),
          endStream := true, frames := 0 }) = true := by
  obtain ⟨H, hH, hview⟩ := statusIntoHttp_headers () ⟨12, [], [], []⟩
  refine ⟨_, by rw [unimplementedResponse, hH]; rfl, ?_⟩
  -- without the framing header the map is, per key, the one `into_http` wrote
  obtain ⟨c4, c3, c2, c1, _⟩ := ne_of_not_mem _ contentLength_not_mem
  have hH' : ∀ k, getAll k ((insert (str "content-length") (str "0", false) H).filter
      (fun e => !Spec.Interceptor.httpFraming e.1)) = getAll k H := by
    intro k
    rw [getAll_filter_key k (fun n => !Spec.Interceptor.httpFraming n), getAll_insert,
      Spec.Interceptor.httpFraming]
    by_cases hk : k = str "content-length"
    · rw [hk, hview.2.2.2.2 _ c4 c3 c2 c1]; simp [getAll_nil]
    · simp [hk]
  exact rejectClauses_ok _ (by decide) H _ hH hH'

/-! ### non-vacuity -/

private def exReq : Request Nat :=
  { method := str "OPTIONS", version := 11, uri := str "/a?b",
    headers := [(str "user-agent", (str "ua", false)), (str "te", (str "trailers", false)),
                (str "x-a", (str "1", false)), (str "x-a", (str "2", false))],
    ext := [(0, [1])], body := 42 }

private def exScript : Script :=
  { ops := [.mins (str "X-A") (str "9"), .happ (str "te") (str "x", true)], reject := none }

private def exInner : Inner Nat Nat Unit Unit := fun n _ => (n + 1, .error ())

/-- a script that rewrites `x-a`, appends to `te`, and leaves `user-agent` alone: hypotheses of
`C12_accept` / `C12_scripted_frame` are met and the conclusion is not trivial -/
example :
    (call (scripted [exScript]) exInner 0 0 exReq).innerSaw.map (fun q => (q.method, q.version, q.body)) =
      some (str "OPTIONS", 11, 42) := by decide +kernel
example :
    (call (scripted [exScript]) exInner 0 0 exReq).innerSaw.map (fun q =>
        (getAll (str "x-a") q.headers, getAll (str "te") q.headers, getAll (str "user-agent") q.headers)) =
      some ([(str "9", false)], [(str "trailers", false), (str "x", true)], [(str "ua", false)]) := by decide +kernel
example : (call (scripted [exScript]) exInner 0 0 exReq).inner = 1 := by decide +kernel

private def exStatus : GStatus :=
  { code := 16, message := [104, 195, 169, 37, 32], details := [251, 255],
    metadata := [(str "grpc-status", (str "0", false)), (str "x-a", (str "1", false)),
                 (str "grpc-status-details-bin", (str "AAAA", false)), (str "x-a", (str "2", false))] }

/-- the hypotheses of `C12_reject` are met by a status with a non-ASCII message, details and
metadata that tries to forge reserved names -/
example :
    exStatus.code ≤ 16 ∧
    (match statusIntoHttp () exStatus with
     | some r => (getAll (str "grpc-status") r.headers, getAll (str "grpc-message") r.headers,
                  getAll (str "x-a") r.headers, getAll (str "grpc-status-details-bin") r.headers)
     | none => ([], [], [], [])) =
      ([(str "16", false)], [(str "h%C3%A9%25%20", false)], [(str "1", false), (str "2", false)],
       [(str "+/8", false)]) := by decide +kernel

/-- the hypotheses of `C12_client_reject` are met (code 7, UTF-8 message, no `grpc-encoding`), and
the client-side decoding is exercised on a concrete status with forged names in its metadata -/
example :
    (clientCall (fun _ => true) (fun (_ : Unit) _ => ((), .error { exStatus with code := 7 }))
        (fun (n : Nat) (_ : Request Nat) => (n + 1, (.error () : Except Unit (Response Unit)))) () 0
        (str "http://h") [] false (str "/s/m")
        { metadata := [(str "user-agent", (str "ua", false)), (str "x-a", (str "1", false))],
          message := 5, extensions := [] }).2 =
      .err { code := 7, message := [104, 195, 169, 37, 32], details := [251, 255],
             metadata := [(str "content-type", (str "application/grpc", false)),
                          (str "x-a", (str "1", false)), (str "x-a", (str "2", false))] } := by decide +kernel

/-! ### futures polled later, in any order; pending wrapped futures; hints of the wrapped body
(audit aC12: the `async` cases) -/

private theorem resolve_future (d : Nat) (res : Except ε (Response ρ)) :
    RespFuture.resolveWith addHeader (d + 1) (.future d res) = some (wrapResult res, d) := by
  induction d with
  | zero => simp [RespFuture.resolveWith, RespFuture.pollWith]
  | succ n ih =>
    show RespFuture.resolveWith addHeader (n + 1 + 1) (.future (n + 1) res) = _
    rw [RespFuture.resolveWith]
    simp only [RespFuture.pollWith]
    rw [ih]
    rfl

/-- Polling a `ResponseFuture` until it is ready gives the value it stands for, after exactly the
wrapped future's own number of `Pending`s (none at all for a rejection) — for EVERY future value.
(ONE future, polled alone until ready; polls interleaved with those of other kept futures are the
subject of `C12_poll_order_invisible`.) -/
theorem C12_future_resolves (fut : RespFuture ρ ε) (h : fut ≠ .status none) :
    RespFuture.resolveWith addHeader (fut.pendingPolls + 1) fut =
      some (fut.outcomeWith addHeader, fut.pendingPolls) := by
  cases fut with
  | future d res => exact resolve_future d res
  | status st =>
    cases st with
    | none => exact absurd rfl h
    | some st => simp [RespFuture.resolveWith, RespFuture.pollWith, RespFuture.outcomeWith, RespFuture.pendingPolls]

/-- `InterceptedService::call` with a wrapped service whose futures complete later does, BEFORE the
returned future is polled, everything `call` does (interceptor run once, wrapped service invoked or
not, same states, same request handed on), and the future stands for exactly `call`'s outcome with
an at-once wrapped service; a rejection is never `Pending`. -/
theorem C12_future_resolves_to_call (f : Icpt σ) (inner : InnerD ι β ρ ε) (s : σ) (i : ι) (req : Request β) :
    let cf := callFut f inner s i req
    let c := call f inner.now s i req
    cf.icpt = c.icpt ∧ cf.inner = c.inner ∧ cf.innerSaw = c.innerSaw ∧
    cf.fut.outcomeWith addHeader = c.out ∧ cf.fut ≠ .status none ∧
    (cf.innerSaw = none → cf.fut.pendingPolls = 0) := by
  rcases hf : f s (req.headers, req.ext) with ⟨s', st | ⟨md, x⟩⟩
  · simp [call_error f inner.now s s' i req st hf, callFut, fromHttp, intoParts, fromParts,
      metadataFromHeaders, hf, RespFuture.outcomeWith, RespFuture.pendingPolls]
  · simp [call_ok f inner.now s s' i req md x hf, callFut, fromHttp, intoParts, fromParts,
      metadataFromHeaders, hf, intoHttp, metadataIntoHeaders, InnerD.now, RespFuture.outcomeWith]

private theorem runCallsFut_futs_ne (f : Icpt σ) (inner : InnerD ι β ρ ε) (reqs : List (Request β)) :
    ∀ (s : σ) (i : ι), ∀ p ∈ (runCallsFut f inner s i reqs).2.2, p.2 ≠ .status none := by
  induction reqs with
  | nil => intro s i p hp; simp [runCallsFut] at hp
  | cons r rs ih =>
    intro s i p hp
    simp only [runCallsFut, List.mem_cons] at hp
    rcases hp with rfl | hp
    · exact (C12_future_resolves_to_call f inner s i r).2.2.2.2.1
    · exact ih _ _ p hp

/-- The calls' effects happen in `call`, not in `poll`: make ALL calls of a sequence first and keep
the futures — the wrapped service saw exactly what it sees when every future is awaited before the
next call, the final states are the same, and every future stands for (`outcomeWith`) the outcome of
its own call.  (No poll occurs in this statement; the polling itself is `C12_poll_order_invisible`.) -/
theorem C12_calls_made_first_same_effects (f : Icpt σ) (inner : InnerD ι β ρ ε) (s : σ) (i : ι) (reqs : List (Request β)) :
    runCalls f inner.now s i reqs =
      ((runCallsFut f inner s i reqs).1, (runCallsFut f inner s i reqs).2.1,
       (runCallsFut f inner s i reqs).2.2.map (fun p => (p.1, p.2.outcomeWith addHeader))) := by
  induction reqs generalizing s i with
  | nil => simp [runCalls, runCallsFut]
  | cons r rs ih =>
    have h := C12_future_resolves_to_call f inner s i r
    simp only at h
    obtain ⟨h1, h2, h3, h4, _, _⟩ := h
    simp only [runCalls, runCallsFut]
    rw [← h1, ← h2, ih]
    simp [h3, h4]

/-- The moment and the order of polling are invisible: make ALL calls of a sequence first, keep the
futures and poll them afterwards by ANY schedule (`pollSchedule`: a list saying which kept future is
polled next — any interleaving, any number of polls of each, the service value no longer involved).
First conjunct: the wrapped service saw exactly what it sees when every future is awaited before
the next call, and the final states are the same (`C12_calls_made_first_same_effects`).  Second
conjunct, for EVERY schedule and every call `k` of the sequence: the owner of future `k` gets exactly
the outcome call `k` has in the sequential run as soon as the schedule has polled that future more
often than the wrapped future stays `Pending` — and nothing before that — whichever other futures
are polled in between, however often.
What is and is not proved: that one `poll` touches nothing but the future polled is how
`pollSchedule` is WRITTEN (it transcribes `ResponseFuture::poll(self: Pin<&mut Self>, cx)`, which has
no service and no sibling future in hand) — the theorem adds the quantifier over all schedules and
the link to the sequential run on top of that; that the real futures share nothing is what the
`async` cases (futures kept, polled in permuted order, after the service was dropped) establish. -/
theorem C12_poll_order_invisible (f : Icpt σ) (inner : InnerD ι β ρ ε) (s : σ) (i : ι) (reqs : List (Request β)) :
    runCalls f inner.now s i reqs =
      ((runCallsFut f inner s i reqs).1, (runCallsFut f inner s i reqs).2.1,
       (runCallsFut f inner s i reqs).2.2.map (fun p => (p.1, p.2.outcomeWith addHeader))) ∧
    ∀ (sched : List Nat) (k : Nat) (p : Option (Request β) × RespFuture ρ ε),
      (runCallsFut f inner s i reqs).2.2[k]? = some p →
      firstReady k (pollSchedule addHeader ((runCallsFut f inner s i reqs).2.2.map (·.2)) sched) =
        if p.2.pendingPolls < sched.count k then
          ((runCalls f inner.now s i reqs).2.2[k]?).map (·.2)
        else none := by
  refine ⟨C12_calls_made_first_same_effects f inner s i reqs, ?_⟩
  intro sched k p hk
  have hne : p.2 ≠ .status none :=
    runCallsFut_futs_ne f inner reqs s i p (List.mem_of_getElem? hk)
  rw [firstReady_pollSchedule addHeader sched _ k p.2 (by simp [hk]) hne,
    C12_calls_made_first_same_effects]
  simp [hk]

/-- Transcription lemma (definitional, `⟨rfl, rfl, rfl, rfl⟩`): `RespBody.isEndStream` / `sizeHintRange`
are written with one arm that hands the wrapped body to the caller's function and one constant arm, as
`ResponseBody`'s `Body` impl is — this unfolds the model; that the real `ResponseBody` delegates its
hints is established by the correspondence run (`async` cases with non-exact hints and bodies that
never report end-of-stream).  Twin of `C12_response_body_delegates`.
The wrapped body's hints are the caller's hints, whatever they are (non-exact bounds, a body that
never says "end"): `ResponseBody::Wrap` delegates; the rejection's body is exactly empty and at its end. -/
theorem C12_response_body_hints_delegate (eos : ρ → Bool) (hint : ρ → Nat × Option Nat) (b : ρ) :
    RespBody.isEndStream eos (RespBody.wrap b) = eos b ∧
    RespBody.sizeHintRange hint (RespBody.wrap b) = hint b ∧
    RespBody.isEndStream eos (RespBody.empty : RespBody ρ) = true ∧
    RespBody.sizeHintRange hint (RespBody.empty : RespBody ρ) = (0, some 0) := ⟨rfl, rfl, rfl, rfl⟩

/-- non-vacuity: a wrapped future that is `Pending` twice; three polls, two `Pending`s, then the answer -/
example :
    RespFuture.resolveWith addHeader 3
      (callFut (fun (_ : Unit) mx => ((), .ok mx))
        (fun (n : Nat) (_ : Request Nat) => (n + 1, 2, (.error 7 : Except Nat (Response Unit)))) () 0
        { method := str "POST", version := 2, uri := str "/s/m", headers := [], ext := [], body := 5 }).fut
      = some (.error 7, 2) := by rfl

/-- non-vacuity of the schedule half of `C12_poll_order_invisible`: three calls made first (the
second one rejected), the futures polled in the order 2, 0, 2, 1, 0, 0, 2 — future 0 (Pending
twice) is ready at its third poll, future 1 (a rejection) at its first, future 2 (Pending once) at
its second; each owner gets its own call's outcome -/
example :
    let inner : InnerD Nat Nat Unit Nat := fun n q => (n + 1, (if q.body = 0 then 2 else 1), .error (q.body + 10))
    let f : Icpt Nat := fun n mx => (n + 1, if n = 1 then .error { code := 7, message := [], details := [], metadata := [] } else .ok mx)
    let rq (b : Nat) : Request Nat := { method := str "POST", version := 2, uri := str "/s/m", headers := [], ext := [], body := b }
    let futs := (runCallsFut f inner 0 0 [rq 0, rq 1, rq 2]).2.2.map (·.2)
    (pollSchedule addHeader futs [2, 0, 2, 1, 0, 0, 2]).map (·.1) = [2, 1, 0, 2] ∧
    firstReady 0 (pollSchedule addHeader futs [2, 0, 2, 1, 0, 0, 2]) = some (.error 10) ∧
    firstReady 2 (pollSchedule addHeader futs [2, 0, 2, 1, 0, 0, 2]) = some (.error 12) ∧
    firstReady 0 (pollSchedule addHeader futs [2, 0, 2, 1, 0]) = none := by
  refine ⟨by rfl, by rfl, by rfl, by rfl⟩

end C12
