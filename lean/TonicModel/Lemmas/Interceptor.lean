import TonicModel.Model.Interceptor
import TonicModel.Spec.Interceptor
/-
Lemmas about `Model/Interceptor` for C12 and C03's header clauses.  The status on the wire: tonic's
percent-encoder against the spec's strict decoder, validity of the bytes `Status::add_header` writes (so
its `unwrap` cannot fire), and the header map `Status::into_http` produces, per key.  The service:
`InterceptedService::call` by what the interceptor answered, kept `ResponseFuture`s under any poll
schedule, and the route predicate against gRPC's path grammar.
-/
namespace Interceptor
open HMapLite HttpLite

theorem hexVal_hexUpper : ∀ n : Fin 16, Spec.Interceptor.hexVal (hexUpper n.val) = some n.val := by decide +kernel

theorem hexUpper_valid : ∀ n : Fin 16, validValueByte (hexUpper n.val) = true := by decide +kernel

theorem byte_split (b : UInt8) : Spec.Interceptor.byteOfHex (b.toNat / 16) (b.toNat % 16) = b := by
  have : b.toNat / 16 * 16 + b.toNat % 16 = b.toNat := by omega
  rw [Spec.Interceptor.byteOfHex, this]; exact UInt8.ofNat_toNat

theorem percentDecode_enc (a b : UInt8) (rest r : Bytes) (x y : Nat)
    (ha : Spec.Interceptor.hexVal a = some x) (hb : Spec.Interceptor.hexVal b = some y)
    (hr : Spec.Interceptor.percentDecode rest = some r) :
    Spec.Interceptor.percentDecode (37 :: a :: b :: rest) = some (Spec.Interceptor.byteOfHex x y :: r) := by
  rw [Spec.Interceptor.percentDecode.eq_def]; simp [ha, hb, hr]

theorem percentDecode_plain (c : UInt8) (rest r : Bytes) (h : c ≠ 37)
    (hu : Spec.Interceptor.unencodedOk c = true)
    (hr : Spec.Interceptor.percentDecode rest = some r) :
    Spec.Interceptor.percentDecode (c :: rest) = some (c :: r) := by
  rw [Spec.Interceptor.percentDecode.eq_def]; simp [h, hu, hr]

theorem not_inEncodeSet (b : UInt8) (h : inEncodeSet b = false) :
    Spec.Interceptor.unencodedOk b = true ∧ b ≠ 37 ∧ validValueByte b = true := by
  simp only [inEncodeSet, Bool.or_eq_false_iff, decide_eq_false_iff_not, beq_eq_false_iff_ne] at h
  refine ⟨?_, ?_, ?_⟩
  · simp only [Spec.Interceptor.unencodedOk, Bool.or_eq_true, Bool.and_eq_true, decide_eq_true_eq]
    omega
  · rintro rfl
    simp at h
  · simp only [validValueByte, Bool.or_eq_true, Bool.and_eq_true, decide_eq_true_eq, bne_iff_ne, beq_iff_eq]
    omega

theorem percentDecode_percentEncode (m : Bytes) :
    Spec.Interceptor.percentDecode (percentEncode m) = some m := by
  induction m with
  | nil => simp [percentEncode, Spec.Interceptor.percentDecode]
  | cons b bs ih =>
    have hlt := b.toNat_lt
    cases h : inEncodeSet b
    · have ⟨h1, h2, _⟩ := not_inEncodeSet b h
      simp [percentEncode, h, percentDecode_plain b _ _ h2 h1 ih]
    · have e1 := hexVal_hexUpper ⟨b.toNat / 16, by omega⟩
      have e2 := hexVal_hexUpper ⟨b.toNat % 16, by omega⟩
      simp only at e1 e2
      simp [percentEncode, h, percentDecode_enc _ _ _ _ _ _ e1 e2 ih, byte_split]

theorem percentEncode_valid (m : Bytes) : (percentEncode m).all validValueByte = true := by
  induction m with
  | nil => rfl
  | cons b bs ih =>
    have hlt := b.toNat_lt
    cases h : inEncodeSet b
    · simp [percentEncode, h, (not_inEncodeSet b h).2.2, ih]
    · have e1 := hexUpper_valid ⟨b.toNat / 16, by omega⟩
      have e2 := hexUpper_valid ⟨b.toNat % 16, by omega⟩
      simp only at e1 e2
      have e3 : validValueByte 37 = true := by decide
      simp [percentEncode, h, e1, e2, e3, ih]

theorem b64char_valid (n : Nat) : validValueByte (B64.b64char n) = true := by
  have visible : ∀ m, 32 ≤ m → m < 127 → validValueByte (UInt8.ofNat m) = true := by
    intro m h1 h2
    have : (UInt8.ofNat m).toNat = m := by rw [UInt8.toNat_ofNat']; omega
    simp only [validValueByte, this, Bool.or_eq_true, Bool.and_eq_true, decide_eq_true_eq, bne_iff_ne]
    omega
  unfold B64.b64char
  by_cases h1 : n < 26
  · rw [if_pos h1]; exact visible _ (by omega) (by omega)
  · rw [if_neg h1]
    by_cases h2 : n < 52
    · rw [if_pos h2]; exact visible _ (by omega) (by omega)
    · rw [if_neg h2]
      by_cases h3 : n < 62
      · rw [if_pos h3]; exact visible _ (by omega) (by omega)
      · rw [if_neg h3]
        by_cases h4 : n = 62
        · rw [if_pos h4]; rfl
        · rw [if_neg h4]; rfl

theorem b64encode_valid (d : Bytes) : (B64.encode false d).all validValueByte = true := by
  fun_induction B64.encode false d with
  | case1 a b c rest ih => simp [b64char_valid, ih]
  | case2 a b => simp [b64char_valid]
  | case3 a => simp [b64char_valid]
  | case4 => rfl

theorem hdrsEq_iff (a b : Hdrs) :
    Spec.Interceptor.hdrsEq a b = true ↔ ∀ k, getAll k a = getAll k b := by
  simp only [Spec.Interceptor.hdrsEq, Spec.Interceptor.hdrsEqOn, List.all_eq_true, beq_iff_eq]
  refine ⟨fun h k => ?_, fun h k _ => h k⟩
  by_cases hk : k ∈ keys a ++ keys b
  · exact h k hk
  · rw [List.mem_append, not_or] at hk
    rw [getAll_of_not_mem_keys k a hk.1, getAll_of_not_mem_keys k b hk.2]

theorem hdrsEq_refl (a : Hdrs) : Spec.Interceptor.hdrsEq a a = true :=
  (hdrsEq_iff a a).mpr fun _ => rfl

theorem extEq_refl (a : Ext) : Spec.Interceptor.extEq a a = true := by
  simp [Spec.Interceptor.extEq]

/-- Evaluating a `str` literal is what costs when a fact about the concrete header names is checked,
so all such facts the proofs need stand in one statement, closed by one kernel evaluation.
Membership of a name in `reservedHeaders` needs no evaluation: the list is written with `str`. -/
theorem header_names :
    (nameGrpcDetails ≠ nameGrpcMessage ∧ nameGrpcDetails ≠ nameGrpcStatus ∧
     nameGrpcMessage ≠ nameGrpcStatus ∧ nameContentType ≠ nameGrpcStatus ∧
     nameContentType ≠ nameGrpcMessage ∧ nameContentType ≠ nameGrpcDetails) ∧
    (∀ k ∈ nameGrpcDetails :: reservedHeaders, Spec.Interceptor.reserved k = true) ∧
    str "grpc-encoding" ∉ nameGrpcDetails :: reservedHeaders ∧
    str "content-length" ∉ nameGrpcDetails :: reservedHeaders ∧
    str "te" ≠ nameContentType := by
  rw [reservedHeaders, nameGrpcDetails, nameGrpcMessage, nameGrpcStatus, nameContentType]
  repeat rw [str_lit]
  decide +kernel

theorem names_ne :
    nameGrpcDetails ≠ nameGrpcMessage ∧ nameGrpcDetails ≠ nameGrpcStatus ∧
    nameGrpcMessage ≠ nameGrpcStatus ∧ nameContentType ≠ nameGrpcStatus ∧
    nameContentType ≠ nameGrpcMessage ∧ nameContentType ≠ nameGrpcDetails := header_names.1

theorem grpcEncoding_not_mem : str "grpc-encoding" ∉ nameGrpcDetails :: reservedHeaders :=
  header_names.2.2.1

theorem contentLength_not_mem : str "content-length" ∉ nameGrpcDetails :: reservedHeaders :=
  header_names.2.2.2.1

theorem reservedHeaders_mem :
    nameContentType ∈ reservedHeaders ∧ nameGrpcMessage ∈ reservedHeaders ∧
    nameGrpcStatus ∈ reservedHeaders := by
  simp [reservedHeaders, nameContentType, nameGrpcMessage, nameGrpcStatus]

theorem ne_of_not_mem (k : Bytes) (h : k ∉ nameGrpcDetails :: reservedHeaders) :
    k ≠ nameContentType ∧ k ≠ nameGrpcStatus ∧ k ≠ nameGrpcMessage ∧ k ≠ nameGrpcDetails ∧
    k ∉ reservedHeaders := by
  obtain ⟨c, m, s⟩ := reservedHeaders_mem
  rw [List.mem_cons, not_or] at h
  exact ⟨fun e => h.2 (e ▸ c), fun e => h.2 (e ▸ s), fun e => h.2 (e ▸ m), h.1, h.2⟩

theorem not_mem_of_unreserved (k : Bytes) (h : Spec.Interceptor.reserved k = false) :
    k ∉ nameGrpcDetails :: reservedHeaders :=
  fun hm => by
    obtain ⟨_, reserved_of_mem, _⟩ := header_names
    rw [reserved_of_mem k hm] at h
    cases h

theorem code_table : ∀ c : Fin 17,
    ((codeHeaderValue c.val).isEmpty = false ∧ (codeHeaderValue c.val).all Ascii.isDigit = true ∧
     digitsVal (codeHeaderValue c.val) = c.val) := by decide +kernel

theorem statusMetadataHeaders_getAll (st : GStatus) (k : Bytes) :
    getAll k (statusMetadataHeaders st) =
      if k = nameGrpcDetails ∨ k ∈ reservedHeaders then [] else getAll k st.metadata := by
  rw [statusMetadataHeaders, intoSanitizedHeaders, getAll_remove, getAll_removeAll]
  by_cases hd : k = nameGrpcDetails <;> simp [hd]

theorem addHeaderWith_getAll (md : Hdrs) (st : GStatus) (h : Hdrs) :
    ∃ H, addHeaderWith md st h = some H ∧ ∀ k, getAll k H =
      if k = nameGrpcDetails ∧ st.details.isEmpty = false then [(B64.encode false st.details, false)]
      else if k = nameGrpcMessage ∧ st.message.isEmpty = false then [(percentEncode st.message, false)]
      else if k = nameGrpcStatus then [(codeHeaderValue st.code, false)]
      else getAll k (extend h md) := by
  simp only [addHeaderWith, percentEncode_valid, b64encode_valid, if_true]
  -- `getAll_insert` puts each insertion's test in front of the earlier ones, so the statement
  -- asks for the keys in the reverse of the order they go in: details, message, status
  cases st.message.isEmpty <;> cases st.details.isEmpty <;>
    exact ⟨_, rfl, fun k => by simp [getAll_insert]⟩

/-- `Status::into_http` never panics; per key its header map holds: the fixed content type, the
code, the percent-encoded message (absent iff empty), the base64 details (absent iff empty), and
under every other name the status's metadata unless the name is one of tonic's reserved six. -/
theorem statusIntoHttp_headers {ρ : Type} (dflt : ρ) (st : GStatus) :
    ∃ H, statusIntoHttp dflt st = some { status := 200, version := 11, headers := H, ext := [], body := dflt } ∧
      getAll nameContentType H = [(grpcContentType, false)] ∧
      getAll nameGrpcStatus H = [(codeHeaderValue st.code, false)] ∧
      getAll nameGrpcMessage H =
        (if st.message.isEmpty = false then [(percentEncode st.message, false)] else []) ∧
      getAll nameGrpcDetails H =
        (if st.details.isEmpty = false then [(B64.encode false st.details, false)] else []) ∧
      ∀ k, k ≠ nameContentType → k ≠ nameGrpcStatus → k ≠ nameGrpcMessage → k ≠ nameGrpcDetails →
        getAll k H = if k ∈ reservedHeaders then [] else getAll k st.metadata := by
  obtain ⟨H, hH, hget⟩ :=
    addHeaderWith_getAll (statusMetadataHeaders st) st (insert nameContentType (grpcContentType, false) [])
  obtain ⟨n1, n2, n3, n4, n5, n6⟩ := names_ne
  obtain ⟨mc, mm, _⟩ := reservedHeaders_mem
  -- below the three status fields: the content type, then the sanitised metadata
  have hother : ∀ k, getAll k (extend (insert nameContentType (grpcContentType, false) ([] : Hdrs))
      (statusMetadataHeaders st)) =
      if k = nameContentType then [(grpcContentType, false)]
      else if k = nameGrpcDetails ∨ k ∈ reservedHeaders then [] else getAll k st.metadata := by
    intro k
    by_cases hk : k = nameContentType
    · rw [getAll_extend_of_nil _ _ _ (by simp [statusMetadataHeaders_getAll, hk, mc]), getAll_insert,
        if_pos hk, if_pos hk]
    · rw [getAll_extend_of_nil_left _ _ _ (by simp [getAll_insert, hk, getAll_nil]),
        statusMetadataHeaders_getAll, if_neg hk]
  refine ⟨H, ?_, ?_, ?_, ?_, ?_, ?_⟩
  · simp [statusIntoHttp, statusIntoHttpWith, responseNew, addHeader, hH]
  · simp [hget, hother, n4, n5, n6]
  · simp [hget, Ne.symm n2, Ne.symm n3]
  · simp [hget, hother, Ne.symm n1, n3, Ne.symm n5, mm]
  · simp [hget, hother, n1, n2, Ne.symm n6]
  · intro k k4 k3 k2 k1
    simp [hget, hother, k1, k2, k3, k4]

section Call
variable {σ ι β ρ ε : Type} (f : Icpt σ) (inner : Inner ι β ρ ε) (s s' : σ) (i : ι) (req : Request β)

theorem call_ok (md' : Hdrs) (ext' : Ext) (h : f s (req.headers, req.ext) = (s', .ok (md', ext'))) :
    call f inner s i req =
      { icpt := s', inner := (inner i { req with headers := md', ext := ext' }).1,
        innerSaw := some { req with headers := md', ext := ext' },
        out := wrapResult (inner i { req with headers := md', ext := ext' }).2 } := by
  simp only [call, callWith, fromHttp, intoParts, fromParts, metadataFromHeaders, h, intoHttp,
    metadataIntoHeaders]
  cases inner i { req with headers := md', ext := ext' } with
  | mk i' r => cases r <;> rfl

theorem call_error (st : GStatus) (h : f s (req.headers, req.ext) = (s', .error st)) :
    call f inner s i req =
      { icpt := s', inner := i, innerSaw := none, out := rejectOutcomeWith addHeader st } := by
  simp only [call, callWith, fromHttp, intoParts, fromParts, metadataFromHeaders, h]

theorem call_icpt : (call f inner s i req).icpt = (f s (req.headers, req.ext)).1 := by
  rcases hf : f s (req.headers, req.ext) with ⟨s', st | ⟨md, x⟩⟩
  · rw [call_error f inner s s' i req st hf]
  · rw [call_ok f inner s s' i req md x hf]

end Call

theorem rejectOutcome_eq {ρ ε : Type} (st : GStatus) (H : Hdrs)
    (h : statusIntoHttp () st = some { status := 200, version := 11, headers := H, ext := [], body := () }) :
    rejectOutcomeWith addHeader (ρ := ρ) (ε := ε) st =
      .response { status := 200, version := 11, headers := H, ext := [], body := RespBody.empty } := by
  rw [statusIntoHttp] at h
  rw [rejectOutcomeWith, h]

/-- The reject clauses hold of a response known only per key (`H'`, say the wire's map with a
framing header filtered out) to carry what `Status::into_http` wrote. `false`: the wrapped service
was not invoked; `frames := 0`: the body is empty; `hcode`: `code_table` is over gRPC's 17 codes. -/
theorem rejectClauses_ok (st : GStatus) (hcode : st.code ≤ 16) (H H' : Hdrs)
    (hH : statusIntoHttp () st = some { status := 200, version := 11, headers := H, ext := [], body := () })
    (hH' : ∀ k, getAll k H' = getAll k H) :
    Spec.Interceptor.allOk (Spec.Interceptor.rejectClauses st false
      { status := 200, headers := H', endStream := true, frames := 0 }) = true := by
  obtain ⟨H0, h0, hct, hst, hmsg, hdet, hrest⟩ := statusIntoHttp_headers () st
  cases hH.symm.trans h0
  have hcode := code_table ⟨st.code, by omega⟩
  have e1 : str "content-type" = nameContentType := rfl
  have e2 : str "grpc-status" = nameGrpcStatus := rfl
  have e3 : str "grpc-message" = nameGrpcMessage := rfl
  have e4 : str "grpc-status-details-bin" = nameGrpcDetails := rfl
  simp only [Spec.Interceptor.allOk, Spec.Interceptor.rejectClauses, List.all_cons,
    List.all_nil, Bool.and_true, Bool.and_eq_true]
  refine ⟨rfl, rfl, ?_, ?_, ?_, ?_, ?_, trivial, rfl⟩
  · rw [e1, hH', hct]; decide +kernel
  · rw [e2, hH', hst]; simp [hcode.1, hcode.2.1, hcode.2.2]
  · rw [e3, hH', hmsg]
    cases hm : st.message.isEmpty <;> simp [percentDecode_percentEncode]
  · rw [e4, hH', hdet]
    cases hd : st.details.isEmpty <;> simp [B64.decode_encode]
  · simp only [List.all_eq_true, Bool.or_eq_true, beq_iff_eq]
    intro k _
    cases hr : Spec.Interceptor.reserved k
    · obtain ⟨k4, k3, k2, k1, k5⟩ := ne_of_not_mem k (not_mem_of_unreserved k hr)
      exact Or.inr (by rw [hH', hrest k k4 k3 k2 k1, if_neg k5])
    · exact Or.inl rfl

/-- `hexDigitVal` / `byteOfNibbles` are the spec's `hexVal` / `byteOfHex` written a second time, and
where the lenient decoder keeps a byte the strict one refuses the value. -/
theorem percentDecodeLenient_of_strict (w : Bytes) :
    ∀ r, Spec.Interceptor.percentDecode w = some r → percentDecodeLenient w = r := by
  fun_induction percentDecodeLenient w with
  | case1 => intro r h; simpa [Spec.Interceptor.percentDecode] using h
  | case2 a b rest' x y hb ha ih =>
    intro r h
    have ha' : Spec.Interceptor.hexVal a = some x := ha
    have hb' : Spec.Interceptor.hexVal b = some y := hb
    rw [Spec.Interceptor.percentDecode] at h
    cases hr : Spec.Interceptor.percentDecode rest' with
    | none => simp [ha', hb', hr] at h
    | some r' =>
      simp only [if_true, ha', hb', hr, Option.some.injEq] at h
      rw [ih r' hr, ← h]; rfl
  | case3 a b rest' hne ih =>
    intro r h
    rw [Spec.Interceptor.percentDecode] at h
    cases ha : Spec.Interceptor.hexVal a with
    | none => simp [ha] at h
    | some x =>
      cases hb : Spec.Interceptor.hexVal b with
      | none => simp [ha, hb] at h
      | some y => exact (hne x y ha hb).elim
  | case4 a => intro r h; simp [Spec.Interceptor.percentDecode] at h
  | case5 => intro r h; simp [Spec.Interceptor.percentDecode] at h
  | case6 c rest hc ih =>
    intro r h
    rw [Spec.Interceptor.percentDecode.eq_def] at h
    cases hr : Spec.Interceptor.percentDecode rest with
    | none => simp [hc, hr] at h
    | some r' =>
      simp only [hc, if_false, hr] at h
      split at h
      · rw [ih r' hr, ← Option.some.inj h]
      · cases h

theorem percentDecodeLenient_percentEncode (m : Bytes) :
    percentDecodeLenient (percentEncode m) = m :=
  percentDecodeLenient_of_strict _ m (percentDecode_percentEncode m)

theorem codeFromBytes_codeHeaderValue : ∀ c : Fin 17, codeFromBytes (codeHeaderValue c.val) = c.val := by
  decide +kernel

theorem splitSlash_ne_nil (p : Bytes) : Spec.Interceptor.splitSlash p ≠ [] := by
  induction p with
  | nil => simp [Spec.Interceptor.splitSlash]
  | cons c rest ih =>
    rw [Spec.Interceptor.splitSlash]
    cases h : Spec.Interceptor.splitSlash rest with
    | nil => simp
    | cons seg segs => by_cases hc : c = 47 <;> simp [hc]

theorem splitSlash_cons (c : UInt8) (rest : Bytes) :
    ∃ seg segs, Spec.Interceptor.splitSlash rest = seg :: segs ∧
      Spec.Interceptor.splitSlash (c :: rest) = if c = 47 then [] :: seg :: segs else (c :: seg) :: segs := by
  cases h : Spec.Interceptor.splitSlash rest with
  | nil => exact absurd h (splitSlash_ne_nil rest)
  | cons seg segs => exact ⟨seg, segs, rfl, by rw [Spec.Interceptor.splitSlash, h]; simp⟩

theorem splitSlash_seg (seg rest : Bytes) (h : ∀ c ∈ seg, c ≠ 47) :
    Spec.Interceptor.splitSlash (seg ++ 47 :: rest) = seg :: Spec.Interceptor.splitSlash rest := by
  induction seg with
  | nil =>
    obtain ⟨sg, sgs, hr, e⟩ := splitSlash_cons 47 rest
    rw [List.nil_append, e, hr, if_pos rfl]
  | cons c cs ih =>
    obtain ⟨sg, sgs, hr, e⟩ := splitSlash_cons c (cs ++ 47 :: rest)
    rw [ih fun x hx => h x (List.mem_cons_of_mem _ hx)] at hr
    obtain ⟨rfl, rfl⟩ := List.cons.inj hr
    rw [List.cons_append, e, if_neg (h c List.mem_cons_self)]

theorem splitSlash_single (p : Bytes) (h : Spec.Interceptor.splitSlash p = [[]]) : p = [] := by
  cases p with
  | nil => rfl
  | cons c rest =>
    obtain ⟨sg, sgs, _, e⟩ := splitSlash_cons c rest
    rw [e] at h
    split at h <;> simp at h

theorem splitSlash_inv (p seg s2 : Bytes) (tl : List Bytes) (h : Spec.Interceptor.splitSlash p = seg :: s2 :: tl) :
    ∃ rest, p = seg ++ 47 :: rest ∧ Spec.Interceptor.splitSlash rest = s2 :: tl := by
  induction p generalizing seg with
  | nil => simp [Spec.Interceptor.splitSlash] at h
  | cons c rest ih =>
    obtain ⟨sg, sgs, hr, e⟩ := splitSlash_cons c rest
    rw [e] at h
    by_cases hc : c = 47
    · simp [hc] at h
      obtain ⟨h1, h2, h3⟩ := h
      subst h1 h2 h3
      exact ⟨rest, by simp [hc], hr⟩
    · simp [hc] at h
      obtain ⟨h1, h2⟩ := h
      subst h1
      rw [h2] at hr
      obtain ⟨r, hr1, hr2⟩ := ih sg hr
      exact ⟨r, by simp [hr1], hr2⟩

theorem routeMatches_iff (name path : Bytes) :
    routeMatches name path = true ↔ ∃ rest, rest ≠ [] ∧ path = 47 :: (name ++ 47 :: rest) := by
  simp only [routeMatches, Bool.and_eq_true, decide_eq_true_eq]
  constructor
  · rintro ⟨hp, hl⟩
    obtain ⟨t, ht⟩ := List.isPrefixOf_iff_prefix.mp hp
    refine ⟨t, ?_, ?_⟩
    · intro e; subst e; rw [← ht] at hl; simp at hl
    · rw [← ht]; simp
  · rintro ⟨rest, hne, rfl⟩
    constructor
    · apply List.isPrefixOf_iff_prefix.mpr
      exact ⟨rest, by simp⟩
    · cases rest with
      | nil => exact absurd rfl hne
      | cons r rs => simp

theorem routeMatches_eq_spec (name path : Bytes) (hn : ∀ c ∈ name, c ≠ 47) :
    routeMatches name path = Spec.Interceptor.pathNamesService name path := by
  apply Bool.eq_iff_iff.mpr
  rw [routeMatches_iff]
  constructor
  · rintro ⟨rest, hne, rfl⟩
    have h1 : Spec.Interceptor.splitSlash (47 :: (name ++ 47 :: rest)) = [] :: name :: Spec.Interceptor.splitSlash rest := by
      rw [← splitSlash_seg name rest hn]; exact splitSlash_seg [] _ nofun
    cases hs : Spec.Interceptor.splitSlash rest with
    | nil => exact absurd hs (splitSlash_ne_nil rest)
    | cons m more =>
      simp only [Spec.Interceptor.pathNamesService, h1, hs]
      have : ¬ (m = [] ∧ more = []) := by
        rintro ⟨rfl, rfl⟩
        exact hne (splitSlash_single rest hs)
      simp
      exact Decidable.not_and_iff_or_not.mp this
  · intro h
    simp only [Spec.Interceptor.pathNamesService] at h
    split at h
    · rename_i first svc m more hsp
      simp only [Bool.and_eq_true, List.isEmpty_iff, beq_iff_eq] at h
      obtain ⟨⟨hf, hsvc⟩, hm⟩ := h
      subst hf hsvc
      obtain ⟨r1, hp1, hs1⟩ := splitSlash_inv path [] svc (m :: more) hsp
      obtain ⟨r2, hp2, hs2⟩ := splitSlash_inv r1 svc m more hs1
      refine ⟨r2, ?_, ?_⟩
      · intro e; subst e
        simp [Spec.Interceptor.splitSlash] at hs2
        obtain ⟨rfl, rfl⟩ := hs2
        simp at hm
      · rw [hp1, hp2]; simp
    · cases h

section Sched
variable {ρ ε : Type}

theorem firstReady_pollSchedule (add : GStatus → Hdrs → Option Hdrs) (sched : List Nat) :
    ∀ (futs : List (RespFuture ρ ε)) (k : Nat) (fut : RespFuture ρ ε),
      futs[k]? = some fut → fut ≠ .status none →
      firstReady k (pollSchedule add futs sched) =
        if fut.pendingPolls < sched.count k then some (fut.outcomeWith add) else none := by
  induction sched with
  | nil => intro futs k fut _ _; simp [pollSchedule, firstReady]
  | cons j ks ih =>
    intro futs k fut hk hne
    by_cases hjk : j = k
    · -- the future's own poll: ready now, or one `Pending` fewer to go
      subst hjk
      rw [pollSchedule, hk, List.count_cons_self]
      match fut, hne with
      | .future (n + 1) res, _ =>
        have hlt : j < futs.length := (List.getElem?_eq_some_iff.mp hk).1
        simp only [RespFuture.pollWith, List.nil_append]
        rw [ih (futs.set j (.future n res)) j (.future n res) (by simp [hlt]) (by simp)]
        exact ite_congr (propext Nat.succ_lt_succ_iff.symm) (fun _ => rfl) (fun _ => rfl)
      | .future 0 res, _ | .status (some st), _ =>
        simp [RespFuture.pollWith, firstReady, RespFuture.pendingPolls, RespFuture.outcomeWith]
    · -- a poll of another future logs under another index and leaves this one as it is
      rw [pollSchedule, List.count_cons_of_ne hjk]
      cases hj : futs[j]? with
      | none => exact ih futs k fut hk hne
      | some fj =>
        have := ih (futs.set j (fj.pollWith add).1) k fut (by rw [List.getElem?_set_ne hjk]; exact hk) hne
        cases h : (fj.pollWith add).2 <;> simpa [firstReady, hjk, h] using this

end Sched

end Interceptor
