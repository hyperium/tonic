import TonicModel.Model.Framing
import TonicModel.Spec.Framing
/-
Refinement of the streaming decoder model to the reference batch decoder (`Spec.Framing.batch`):
what `decodeChunk` does to a buffer is what `batch` does to the same bytes followed by *any*
continuation `X`; likewise for `Spec.Framing.held`, what the receiver is left holding when the
input ends.  Both readings are built from the reference decoder's verdicts on a prefix (`header`)
and on a payload (`payload`); the model is compared with those verdicts once and the readings, and
with them one `poll_next`, follow.
-/
namespace Framing
open Spec.Framing
variable {α : Type}

/-! ### The reference decoder: unfolding, and payloads in front of a continuation -/

theorem be32_eq_readU32 (a b c d : UInt8) : be32 a b c d = readU32 a b c d := by
  unfold be32 readU32; omega

theorem lt5_or_cons5 {β : Type} : ∀ l : List β, l.length < 5 ∨ ∃ f a b c d r, l = f :: a :: b :: c :: d :: r
  | [] | [_] | [_, _] | [_, _, _] | [_, _, _, _] => Or.inl (by simp)
  | f :: a :: b :: c :: d :: r => Or.inr ⟨f, a, b, c, d, r, rfl⟩

theorem batch_nil (p : Recv α) : batch p [] = ([], .clean) := by rw [batch]

theorem batch_cons5 (p : Recv α) (f a b c d : UInt8) (r : Bytes) :
    batch p (f :: a :: b :: c :: d :: r) =
      match header p f (be32 a b c d) with
      | .error e => ([], .bad e)
      | .ok comp => batchBody p (be32 a b c d) comp r := by
  rw [batch]
  cases header p f (be32 a b c d) with
  | error e => rfl
  | ok comp => simp only [batchBody]

theorem batch_short (p : Recv α) (bs : Bytes) (h1 : bs ≠ []) (h5 : bs.length < 5) :
    batch p bs = ([], .incomplete) := by
  rw [batch]
  · exact h1
  · rintro f a b c d r rfl
    simp only [List.length_cons] at h5; omega

theorem held_nil (p : Recv α) : held p [] = [] := by rw [held]

theorem held_cons5 (p : Recv α) (f a b c d : UInt8) (r : Bytes) :
    held p (f :: a :: b :: c :: d :: r) =
      match header p f (be32 a b c d) with
      | .error _ => []
      | .ok comp => heldBody p (be32 a b c d) comp r := by
  rw [held]
  cases header p f (be32 a b c d) with
  | error e => rfl
  | ok comp => simp only [heldBody]

theorem held_short (p : Recv α) (bs : Bytes) (h5 : bs.length < 5) : held p bs = bs := by
  cases bs with
  | nil => exact held_nil p
  | cons x xs =>
    rw [held]
    · exact List.cons_ne_nil x xs
    · rintro f a b c d r h
      rw [h] at h5
      simp only [List.length_cons] at h5; omega

def consRes (m : α) (r : List α × Stop) : List α × Stop := (m :: r.1, r.2)

theorem payload_short (p : Recv α) {len : Nat} {bs : Bytes} (h : bs.length < len) (c : Bool) :
    Spec.Framing.payload p len c bs = .error .incomplete := by
  rw [Spec.Framing.payload, if_pos h]

theorem payload_append (p : Recv α) {len : Nat} {bs : Bytes} (h : len ≤ bs.length) (c : Bool) (X : Bytes) :
    Spec.Framing.payload p len c (bs ++ X) = Spec.Framing.payload p len c bs := by
  have h1 : ¬ bs.length < len := by omega
  have h2 : ¬ (bs ++ X).length < len := by rw [List.length_append]; omega
  simp only [Spec.Framing.payload, h1, h2, ↓reduceIte, List.take_append_of_le_length h]

theorem payload_complete {p : Recv α} {len : Nat} {c : Bool} {bs : Bytes} {r : Except Stop α}
    (h : Spec.Framing.payload p len c bs = r) (hr : r ≠ .error .incomplete) : len ≤ bs.length :=
  Nat.le_of_not_lt fun hlt => hr (h ▸ payload_short p hlt c)

theorem body_short (p : Recv α) {len : Nat} {bs : Bytes} (h : bs.length < len) (c : Bool) :
    batchBody p len c bs = ([], .incomplete) ∧ heldBody p len c bs = bs := by
  simp only [batchBody, heldBody, payload_short p h c, and_self]

theorem body_bad {p : Recv α} {len : Nat} {c : Bool} {bs : Bytes} {b : Bad}
    (h : Spec.Framing.payload p len c bs = .error (.bad b)) (X : Bytes) :
    batchBody p len c (bs ++ X) = ([], .bad b) ∧ heldBody p len c (bs ++ X) = [] := by
  simp only [batchBody, heldBody, payload_append p (payload_complete h (by simp)) c X, h, and_self]

theorem body_ok {p : Recv α} {len : Nat} {c : Bool} {bs : Bytes} {m : α}
    (h : Spec.Framing.payload p len c bs = .ok m) (X : Bytes) :
    batchBody p len c (bs ++ X) = consRes m (batch p (bs.drop len ++ X)) ∧
    heldBody p len c (bs ++ X) = held p (bs.drop len ++ X) := by
  have hle := payload_complete h (by simp)
  simp only [batchBody, heldBody, payload_append p hle c X, h, consRes,
    List.drop_append_of_le_length hle, and_self]

/-! ### `decode_chunk` by the reference decoder's verdicts -/

def recvOf (cd : Codec α) (cfg : DecCfg) : Recv α where
  limit := cfg.limit
  hasEnc := cfg.enc.isSome
  dz := fun b => match cfg.enc with | some e => cd.dz e b | none => none
  de := cd.de

def stOfBad (cd : Codec α) : Bad → St
  | .flag => ⟨13, .badFlag⟩
  | .noEncoding => ⟨13, .noEncoding⟩
  | .tooLarge => ⟨11, .tooLargeDec⟩
  | .decompress => ⟨13, .decompress⟩
  | .codec => ⟨cd.deErr, .codec⟩

/-- `hc`: the phase remembers identity or the negotiated encoding, so that model and reference use
the same decompressor. -/
theorem readBody_cases (cd : Codec α) (cfg : DecCfg) (s : DecSt) (len : Nat) (comp : Option Enc)
    (hc : comp = none ∨ comp = cfg.enc) :
    (s.buf.length < len ∧ Dec.readBody cd s len comp = ({ s with ph := .body len comp }, .more)) ∨
    (∃ m, Spec.Framing.payload (recvOf cd cfg) len comp.isSome s.buf = .ok m ∧
      Dec.readBody cd s len comp = ({ s with buf := s.buf.drop len, ph := .hdr }, .item m)) ∨
    (∃ b, Spec.Framing.payload (recvOf cd cfg) len comp.isSome s.buf = .error (.bad b) ∧
      (Dec.readBody cd s len comp).2 = .fail (stOfBad cd b) ∧
      (Dec.readBody cd s len comp).1.trailers = s.trailers ∧
      (Dec.readBody cd s len comp).1.ph = .body len comp) := by
  unfold Dec.readBody Spec.Framing.payload
  by_cases hlt : s.buf.length < len
  · exact Or.inl ⟨hlt, by rw [if_pos hlt]⟩
  · refine Or.inr ?_
    simp only [hlt, ↓reduceIte]
    cases comp with
    | none =>
      simp only [Option.isSome_none, Bool.false_eq_true, ↓reduceIte, recvOf]
      cases cd.de (s.buf.take len) with
      | none => exact Or.inr ⟨.codec, rfl, rfl, rfl, rfl⟩
      | some m => exact Or.inl ⟨m, rfl, rfl⟩
    | some e =>
      have hce : cfg.enc = some e := by
        rcases hc with h | h
        · cases h
        · exact h.symm
      simp only [Option.isSome_some, ↓reduceIte, recvOf, hce]
      cases cd.dz e (s.buf.take len) with
      | none => exact Or.inr ⟨.decompress, rfl, rfl, rfl, rfl⟩
      | some raw =>
        dsimp only
        cases cd.de raw with
        | none => exact Or.inr ⟨.codec, rfl, rfl, rfl, rfl⟩
        | some m => exact Or.inl ⟨m, rfl, rfl⟩

theorem decodeChunk_short (cd : Codec α) (cfg : DecCfg) (tr : Option Tr) : ∀ {buf : Bytes}, buf.length < 5 →
    Dec.decodeChunk cd cfg ⟨buf, .hdr, tr⟩ = (⟨buf, .hdr, tr⟩, .more)
  | [], _ | [_], _ | [_, _], _ | [_, _, _], _ | [_, _, _, _], _ => rfl
  | _ :: _ :: _ :: _ :: _ :: _, h => by simp only [List.length_cons] at h; omega

/-- A refusal leaves the length bytes in the buffer unless it was the length that was refused: the
flag is judged before the length is read. -/
theorem decodeChunk_cons5 (cd : Codec α) (cfg : DecCfg) (f a b c d : UInt8) (rest : Bytes) (tr : Option Tr) :
    match header (recvOf cd cfg) f (readU32 a b c d) with
    | .ok z => Dec.decodeChunk cd cfg ⟨f :: a :: b :: c :: d :: rest, .hdr, tr⟩ =
        Dec.readBody cd ⟨rest, .hdr, tr⟩ (readU32 a b c d) (if z then cfg.enc else none)
    | .error x => Dec.decodeChunk cd cfg ⟨f :: a :: b :: c :: d :: rest, .hdr, tr⟩ =
        (⟨if x = .tooLarge then rest else a :: b :: c :: d :: rest, .hdr, tr⟩, .fail (stOfBad cd x)) := by
  obtain ⟨enc, mx, dir⟩ := cfg
  simp only [Dec.decodeChunk, header, recvOf]
  by_cases h0 : f = 0
  · by_cases hl : readU32 a b c d > DecCfg.limit ⟨enc, mx, dir⟩ <;> simp [h0, hl, stOfBad]
  · by_cases h1 : f = 1
    · cases enc with
      | none => simp [h1, stOfBad]
      | some e => by_cases hl : readU32 a b c d > DecCfg.limit ⟨some e, mx, dir⟩ <;> simp [h1, hl, stOfBad]
    · simp [h0, h1, stOfBad]

theorem header_ok_true {p : Recv α} {f : UInt8} {len : Nat} (h : header p f len = .ok true) :
    p.hasEnc = true := by
  cases he : p.hasEnc with
  | true => rfl
  | false =>
    simp only [header, he, Bool.false_eq_true, ↓reduceIte] at h
    -- without an encoding no branch that is left answers `.ok true`
    repeat' split at h
    all_goals cases h

/-! ### The two readings of a decoder state -/

/-- The decoder has not failed, and a `body` phase remembers either "identity" or the negotiated
encoding. -/
def PhaseOk (cfg : DecCfg) (s : DecSt) : Prop :=
  match s.ph with
  | .hdr => True
  | .body _ comp => comp = none ∨ comp = cfg.enc
  | .failed _ => False

theorem phaseOk_init (cfg : DecCfg) : PhaseOk cfg Dec.init := trivial

/-- The reference decoder's verdict on the buffer followed by `X`. -/
def specFrom (cd : Codec α) (cfg : DecCfg) (s : DecSt) (X : Bytes) : List α × Stop :=
  match s.ph with
  | .hdr => batch (recvOf cd cfg) (s.buf ++ X)
  | .body len comp => batchBody (recvOf cd cfg) len comp.isSome (s.buf ++ X)
  | .failed _ => ([], .clean)

/-- what the receiver would still hold of the buffer followed by `X`, should the input end there -/
def heldFrom (cd : Codec α) (cfg : DecCfg) (s : DecSt) (X : Bytes) : Bytes :=
  match s.ph with
  | .hdr => held (recvOf cd cfg) (s.buf ++ X)
  | .body len comp => heldBody (recvOf cd cfg) len comp.isSome (s.buf ++ X)
  | .failed _ => []

theorem specFrom_init (cd : Codec α) (cfg : DecCfg) (X : Bytes) :
    specFrom cd cfg Dec.init X = batch (recvOf cd cfg) X := rfl

theorem heldFrom_init (cd : Codec α) (cfg : DecCfg) (X : Bytes) :
    heldFrom cd cfg Dec.init X = held (recvOf cd cfg) X := rfl

/-- The disjunction under `.more` (again in `PreGood` and `starved_reading`) reads the new state
with `X = []`, which is to say what an end of the input at this point would mean: between two
frames with nothing buffered, or inside one. `pollNext_nil` is decided by it. -/
def ChunkGood (cd : Codec α) (cfg : DecCfg) (s s' : DecSt) (r : DC α) : Prop :=
  s'.trailers = s.trailers ∧
  match r with
  | .item m => PhaseOk cfg s' ∧ ∀ X, specFrom cd cfg s X = consRes m (specFrom cd cfg s' X)
  | .fail st => ∃ b, stOfBad cd b = st ∧ ∀ X, specFrom cd cfg s X = ([], .bad b)
  | .more => PhaseOk cfg s' ∧ (∀ X, specFrom cd cfg s X = specFrom cd cfg s' X) ∧
      ((s'.buf = [] ∧ s'.ph = .hdr ∧ specFrom cd cfg s' [] = ([], .clean)) ∨
       specFrom cd cfg s' [] = ([], .incomplete))

def HeldGood (cd : Codec α) (cfg : DecCfg) (s s' : DecSt) (r : DC α) : Prop :=
  match r with
  | .item _ => ∀ X, heldFrom cd cfg s X = heldFrom cd cfg s' X
  | .fail _ => True
  | .more => (∀ X, heldFrom cd cfg s X = heldFrom cd cfg s' X) ∧
      (specFrom cd cfg s' [] = ([], .incomplete) → heldFrom cd cfg s' [] = s'.buf)

/-- `s0` is any state that reads as "a payload of `len` bytes comes next": the `body` phase itself,
or the header phase in front of an accepted prefix. -/
theorem readBody_read (cd : Codec α) (cfg : DecCfg) (s0 s : DecSt) (len : Nat) (comp : Option Enc)
    (hc : comp = none ∨ comp = cfg.enc) (ht : s.trailers = s0.trailers)
    (hx : ∀ X, specFrom cd cfg s0 X = batchBody (recvOf cd cfg) len comp.isSome (s.buf ++ X))
    (hh : ∀ X, heldFrom cd cfg s0 X = heldBody (recvOf cd cfg) len comp.isSome (s.buf ++ X)) :
    ChunkGood cd cfg s0 (Dec.readBody cd s len comp).1 (Dec.readBody cd s len comp).2 ∧
    HeldGood cd cfg s0 (Dec.readBody cd s len comp).1 (Dec.readBody cd s len comp).2 := by
  rcases readBody_cases cd cfg s len comp hc with ⟨hlt, h⟩ | ⟨m, hp, h⟩ | ⟨b, hp, h, htr, _⟩
  · rw [h]
    have hs := body_short (recvOf cd cfg) hlt comp.isSome
    refine ⟨⟨ht, hc, hx, Or.inr ?_⟩, hh, fun _ => ?_⟩
    · simpa only [specFrom, List.append_nil] using hs.1
    · simpa only [heldFrom, List.append_nil] using hs.2
  · rw [h]
    refine ⟨⟨ht, trivial, fun X => ?_⟩, fun X => ?_⟩
    · rw [hx, (body_ok hp X).1]; rfl
    · rw [hh, (body_ok hp X).2]; rfl
  · rw [h]
    exact ⟨⟨htr.trans ht, b, rfl, fun X => (hx X).trans (body_bad hp X).1⟩, trivial⟩

theorem decodeChunk_read (cd : Codec α) (cfg : DecCfg) (s : DecSt) (h : PhaseOk cfg s) :
    ChunkGood cd cfg s (Dec.decodeChunk cd cfg s).1 (Dec.decodeChunk cd cfg s).2 ∧
    HeldGood cd cfg s (Dec.decodeChunk cd cfg s).1 (Dec.decodeChunk cd cfg s).2 := by
  obtain ⟨buf, ph, tr⟩ := s
  cases ph with
  | failed st => exact h.elim
  | body len comp =>
    exact readBody_read cd cfg _ ⟨buf, .body len comp, tr⟩ len comp h rfl (fun _ => rfl) (fun _ => rfl)
  | hdr =>
    rcases lt5_or_cons5 buf with hs | ⟨f, a, b, c, d, rest, rfl⟩
    · rw [decodeChunk_short cd cfg tr hs]
      refine ⟨⟨rfl, trivial, fun _ => rfl, ?_⟩, fun _ => rfl, fun _ => ?_⟩
      · by_cases hb : buf = []
        · subst hb; exact Or.inl ⟨rfl, rfl, batch_nil _⟩
        · exact Or.inr (by simpa only [specFrom, List.append_nil] using batch_short _ buf hb hs)
      · simpa only [heldFrom, List.append_nil] using held_short _ buf hs
    · have hd := decodeChunk_cons5 cd cfg f a b c d rest tr
      cases hh : header (recvOf cd cfg) f (readU32 a b c d) with
      | error x =>
        rw [hh] at hd
        rw [hd]
        refine ⟨⟨rfl, x, rfl, fun X => ?_⟩, trivial⟩
        simp only [specFrom, List.cons_append, batch_cons5, be32_eq_readU32, hh]
      | ok z =>
        rw [hh] at hd
        rw [hd]
        have hz : (if z then cfg.enc else none).isSome = z := by
          cases z with
          | false => rfl
          | true => exact header_ok_true hh
        refine readBody_read cd cfg _ ⟨rest, .hdr, tr⟩ _ _ (by cases z <;> simp) rfl (fun X => ?_) (fun X => ?_)
        · simp only [specFrom, List.cons_append, batch_cons5, be32_eq_readU32, hh, hz]
        · simp only [heldFrom, List.cons_append, held_cons5, be32_eq_readU32, hh, hz]

theorem decodeChunk_good (cd : Codec α) (cfg : DecCfg) (s : DecSt) (h : PhaseOk cfg s) :
    ChunkGood cd cfg s (Dec.decodeChunk cd cfg s).1 (Dec.decodeChunk cd cfg s).2 :=
  (decodeChunk_read cd cfg s h).1

def dataOf : List BodyEv → Bytes
  | [] => []
  | .data b :: r => b ++ dataOf r
  | _ :: r => dataOf r

/-- the data bytes the decoder takes into its buffer: all of them, except for a response whose
HTTP status is not 200 (`DecCfg.skipsBody`), whose body is dropped unread -/
def accepted (cfg : DecCfg) : List BodyEv → Bytes
  | [] => []
  | .data b :: r => cfg.accept b ++ accepted cfg r
  | _ :: r => accepted cfg r

theorem accept_keep {cfg : DecCfg} (h : cfg.skipsBody = false) (c : Bytes) : cfg.accept c = c := by
  simp [DecCfg.accept, h]

theorem accept_skip {cfg : DecCfg} (h : cfg.skipsBody = true) (c : Bytes) : cfg.accept c = [] := by
  simp [DecCfg.accept, h]

theorem accepted_keep {cfg : DecCfg} (h : cfg.skipsBody = false) (evs : List BodyEv) :
    accepted cfg evs = dataOf evs := by
  induction evs with
  | nil => rfl
  | cons ev r ih => cases ev <;> simp [accepted, dataOf, ih, accept_keep h]

theorem accepted_skip {cfg : DecCfg} (h : cfg.skipsBody = true) (evs : List BodyEv) :
    accepted cfg evs = [] := by
  induction evs with
  | nil => rfl
  | cons ev r ih => cases ev <;> simp [accepted, ih, accept_skip h]

theorem specFrom_push (cd : Codec α) (cfg : DecCfg) (s : DecSt) (c X : Bytes) :
    specFrom cd cfg { s with buf := s.buf ++ c } X = specFrom cd cfg s (c ++ X) := by
  simp only [specFrom]
  cases s.ph <;> simp [List.append_assoc]

theorem specFrom_trailers (cd : Codec α) (cfg : DecCfg) (s : DecSt) (t : Option Tr) (X : Bytes) :
    specFrom cd cfg { s with trailers := t } X = specFrom cd cfg s X := by
  simp only [specFrom]

theorem heldFrom_push (cd : Codec α) (cfg : DecCfg) (s : DecSt) (c X : Bytes) :
    heldFrom cd cfg { s with buf := s.buf ++ c } X = heldFrom cd cfg s (c ++ X) := by
  simp only [heldFrom]
  cases s.ph <;> simp [List.append_assoc]

/-- `ChunkGood` (and `PreHeld` below, `HeldGood`) in terms of the result type of `Dec.pre`. -/
def PreGood (cd : Codec α) (cfg : DecCfg) (s : DecSt) : Pre α → Prop
  | .out s' (.msg m) => PhaseOk cfg s' ∧ s'.trailers = s.trailers ∧
      ∀ X, specFrom cd cfg s X = consRes m (specFrom cd cfg s' X)
  | .out s' (.err st) => s'.ph = .failed none ∧ ∃ b, stOfBad cd b = st ∧ ∀ X, specFrom cd cfg s X = ([], .bad b)
  | .out _ _ => False
  | .need s' => PhaseOk cfg s' ∧ s'.trailers = s.trailers ∧ (∀ X, specFrom cd cfg s X = specFrom cd cfg s' X) ∧
      ((s'.buf = [] ∧ s'.ph = .hdr ∧ specFrom cd cfg s' [] = ([], .clean)) ∨
       specFrom cd cfg s' [] = ([], .incomplete))

def PreHeld (cd : Codec α) (cfg : DecCfg) (s : DecSt) : Pre α → Prop
  | .out s' (.msg _) => ∀ X, heldFrom cd cfg s X = heldFrom cd cfg s' X
  | .out _ _ => True
  | .need s' => (∀ X, heldFrom cd cfg s X = heldFrom cd cfg s' X) ∧
      (specFrom cd cfg s' [] = ([], .incomplete) → heldFrom cd cfg s' [] = s'.buf)

theorem pre_read (cd : Codec α) (cfg : DecCfg) (s : DecSt) (h : PhaseOk cfg s) :
    PreGood cd cfg s (Dec.pre cd cfg s) ∧ PreHeld cd cfg s (Dec.pre cd cfg s) := by
  have hg := decodeChunk_read cd cfg s h
  unfold Dec.pre
  split
  · rename_i st hst
    simp [PhaseOk, hst] at h
  · generalize Dec.decodeChunk cd cfg s = r at hg
    obtain ⟨s', dc⟩ := r
    obtain ⟨hc, hh⟩ := hg
    cases dc with
    | item m => exact ⟨⟨hc.2.1, hc.1, hc.2.2⟩, hh⟩
    | fail st => exact ⟨⟨rfl, hc.2⟩, trivial⟩
    | more => exact ⟨⟨hc.2.1, hc.1, hc.2.2.1, hc.2.2.2⟩, hh⟩

theorem pre_good (cd : Codec α) (cfg : DecCfg) (s : DecSt) (h : PhaseOk cfg s) :
    PreGood cd cfg s (Dec.pre cd cfg s) :=
  (pre_read cd cfg s h).1

section equations
variable (cd : Codec α) (cfg : DecCfg) {s s' : DecSt}

theorem pollNext_out {o : Item α} (h : Dec.pre cd cfg s = .out s' o) (evs : List BodyEv) :
    Dec.pollNext cd cfg s evs = (s', evs, o) := by
  cases evs <;> simp only [Dec.pollNext, h]

theorem pollNext_nil (h : Dec.pre cd cfg s = .need s') :
    Dec.pollNext cd cfg s [] =
      if s'.buf.isEmpty then Dec.finish cfg s' [] else ({ s' with ph := .failed none }, [], .err ⟨13, .eof⟩) := by
  simp only [Dec.pollNext, h]

theorem pollNext_pending (h : Dec.pre cd cfg s = .need s') (rest : List BodyEv) :
    Dec.pollNext cd cfg s (.pending :: rest) = (s', rest, .pending) := by
  simp only [Dec.pollNext, h]

theorem pollNext_data (h : Dec.pre cd cfg s = .need s') (c : Bytes) (rest : List BodyEv) :
    Dec.pollNext cd cfg s (.data c :: rest) =
      Dec.pollNext cd cfg { s' with buf := s'.buf ++ cfg.accept c } rest := by
  simp only [Dec.pollNext, h]

theorem pollNext_trailers (h : Dec.pre cd cfg s = .need s') (t : Tr) (rest : List BodyEv) :
    Dec.pollNext cd cfg s (.trailers t :: rest) =
      Dec.finish cfg { s' with trailers := mergeTr s'.trailers t } rest := by
  simp only [Dec.pollNext, h]

theorem pollNext_err (h : Dec.pre cd cfg s = .need s') (st : St) (rest : List BodyEv) :
    Dec.pollNext cd cfg s (.err st :: rest) =
      if cfg.dir = .request ∧ st.code = 1 then Dec.finish cfg s' rest
      else ({ s' with ph := .failed none }, rest, .err st) := by
  simp only [Dec.pollNext, h]

end equations

/-! ### One poll over an arbitrary body -/

def PollGood (cd : Codec α) (cfg : DecCfg) (s : DecSt) (evs : List BodyEv)
    (s' : DecSt) (evs' : List BodyEv) (o : Item α) : Prop :=
  evs'.length ≤ evs.length ∧
  match o with
  | .msg m => PhaseOk cfg s' ∧
      specFrom cd cfg s (accepted cfg evs) = consRes m (specFrom cd cfg s' (accepted cfg evs'))
  | .pending => PhaseOk cfg s' ∧ evs'.length < evs.length ∧
      specFrom cd cfg s (accepted cfg evs) = specFrom cd cfg s' (accepted cfg evs')
  | .none => PhaseOk cfg s' ∧ specFrom cd cfg s (accepted cfg evs) = specFrom cd cfg s' (accepted cfg evs')
  | .err _ => s'.ph = .failed none

theorem finish_good (cd : Codec α) (cfg : DecCfg) (s0 s : DecSt) (evs0 evs : List BodyEv)
    (hp : PhaseOk cfg s) (hl : evs.length ≤ evs0.length)
    (hx : specFrom cd cfg s0 (accepted cfg evs0) = specFrom cd cfg s (accepted cfg evs)) :
    PollGood cd cfg s0 evs0 (Dec.finish (α := α) cfg s evs).1 (Dec.finish (α := α) cfg s evs).2.1
      (Dec.finish (α := α) cfg s evs).2.2 := by
  unfold Dec.finish
  cases Dec.response cfg s with
  | none => exact ⟨hl, hp, hx⟩
  | some e => exact ⟨hl, rfl⟩

theorem good_of_out (cd : Codec α) (cfg : DecCfg) (s s' : DecSt) (o : Item α) (evs : List BodyEv)
    (hp : PreGood cd cfg s (.out s' o)) : PollGood cd cfg s evs s' evs o := by
  cases o with
  | msg m => exact ⟨Nat.le_refl _, hp.1, hp.2.2 _⟩
  | err st => exact ⟨Nat.le_refl _, hp.1⟩
  | none => exact hp.elim
  | pending => exact hp.elim

theorem pollNext_good (cd : Codec α) (cfg : DecCfg) (evs : List BodyEv) : ∀ (s : DecSt),
    PhaseOk cfg s →
    PollGood cd cfg s evs (Dec.pollNext cd cfg s evs).1 (Dec.pollNext cd cfg s evs).2.1
      (Dec.pollNext cd cfg s evs).2.2 := by
  induction evs with
  | nil =>
    intro s h
    have hp := pre_good cd cfg s h
    cases hpre : Dec.pre cd cfg s with
    | out s' o => rw [pollNext_out cd cfg hpre]; exact good_of_out cd cfg s s' o [] (hpre ▸ hp)
    | need s' =>
      rw [hpre] at hp
      obtain ⟨hok, _, hx, _⟩ := hp
      rw [pollNext_nil cd cfg hpre]
      by_cases hb : s'.buf.isEmpty = true
      · rw [if_pos hb]
        exact finish_good cd cfg s s' [] [] hok (Nat.le_refl _) (hx _)
      · rw [if_neg hb]
        exact ⟨Nat.le_refl _, rfl⟩
  | cons ev rest ih =>
    intro s h
    have hp := pre_good cd cfg s h
    cases hpre : Dec.pre cd cfg s with
    | out s' o => rw [pollNext_out cd cfg hpre]; exact good_of_out cd cfg s s' o _ (hpre ▸ hp)
    | need s' =>
      rw [hpre] at hp
      obtain ⟨hok, _, hx, _⟩ := hp
      cases ev with
      | pending =>
        rw [pollNext_pending cd cfg hpre]
        exact ⟨Nat.le_succ _, hok, Nat.lt_succ_self _, hx _⟩
      | data c =>
        rw [pollNext_data cd cfg hpre]
        have hx' : specFrom cd cfg s (accepted cfg (.data c :: rest))
            = specFrom cd cfg { s' with buf := s'.buf ++ cfg.accept c } (accepted cfg rest) := by
          rw [specFrom_push]; exact hx _
        obtain ⟨hl, hcase⟩ := ih { s' with buf := s'.buf ++ cfg.accept c } hok
        refine ⟨Nat.le_succ_of_le hl, ?_⟩
        generalize Dec.pollNext cd cfg { s' with buf := s'.buf ++ cfg.accept c } rest = r at hl hcase
        obtain ⟨s2, evs2, o⟩ := r
        cases o with
        | msg m => exact ⟨hcase.1, hx'.trans hcase.2⟩
        | pending => exact ⟨hcase.1, Nat.lt_succ_of_lt hcase.2.1, hx'.trans hcase.2.2⟩
        | none => exact ⟨hcase.1, hx'.trans hcase.2⟩
        | err st => exact hcase
      | trailers t =>
        rw [pollNext_trailers cd cfg hpre]
        exact finish_good cd cfg s _ _ rest hok (Nat.le_succ _) (hx _)
      | err st =>
        rw [pollNext_err cd cfg hpre]
        by_cases hc : cfg.dir = .request ∧ st.code = 1
        · rw [if_pos hc]
          exact finish_good cd cfg s s' _ rest hok (Nat.le_succ _) (hx _)
        · rw [if_neg hc]
          exact ⟨Nat.le_succ _, rfl⟩

/-! ### One poll over a clean body (data chunks and `Pending`s, then at most one trailers frame)

Here the result is determined exactly by the reference decoder's reading `(ms, stop)` of the bytes
still to come, by what it would hold of them at the end of the input (`hb`), and by the trailers the
stream will hold at the end of the body. -/

def CleanEvs : List BodyEv → Bool
  | [] => true
  | [.trailers _] => true
  | .data _ :: r => CleanEvs r
  | .pending :: r => CleanEvs r
  | _ => false

/-- a clean body without trailers: it simply ends -/
def PlainEvs : List BodyEv → Bool
  | [] => true
  | .data _ :: r => PlainEvs r
  | .pending :: r => PlainEvs r
  | _ => false

theorem clean_of_plain : ∀ evs, PlainEvs evs = true → CleanEvs evs = true
  | [], _ => rfl
  | .data _ :: r, h => clean_of_plain r h
  | .pending :: r, h => clean_of_plain r h

/-- the trailers the stream will hold once the body has been read to its end -/
def endTr (tr : Option Tr) : List BodyEv → Option Tr
  | [] => tr
  | .trailers t :: _ => mergeTr tr t
  | _ :: r => endTr tr r

theorem endTr_plain (tr : Option Tr) : ∀ evs, PlainEvs evs = true → endTr tr evs = tr
  | [], _ => rfl
  | .data _ :: r, h => endTr_plain tr r h
  | .pending :: r, h => endTr_plain tr r h

/-- `Dec.response` only looks at the trailers -/
def respTr (cfg : DecCfg) (tr : Option Tr) : Option St :=
  match cfg.dir with
  | .response http => inferStatus tr http
  | _ => none

theorem response_eq (cfg : DecCfg) (s : DecSt) : Dec.response cfg s = respTr cfg s.trailers := rfl

/-- The trailers held at the end of the body make `Dec.response` infer no error: the hypothesis
under which a clean body ends cleanly (`run_clean`, Props/C01). -/
def EndOk (cfg : DecCfg) (s : DecSt) (evs : List BodyEv) : Prop :=
  respTr cfg (endTr s.trailers evs) = none

/-- how the stream of a plain body ends after its messages: `some e` = the error `e` (then `None`
for ever), `none` = the clean end -/
def plainTail (cd : Codec α) (cfg : DecCfg) (tr : Option Tr) (stop : Stop) (hb : Bytes) : Option St :=
  match stop with
  | .bad b => some (stOfBad cd b)
  | .incomplete => if hb = [] then respTr cfg tr else some ⟨13, .eof⟩
  | .clean => respTr cfg tr

theorem consRes_inj {m : α} {r : List α × Stop} {ms : List α} {st : Stop}
    (h : consRes m r = (ms, st)) : ∃ ms', ms = m :: ms' ∧ r = (ms', st) := by
  obtain ⟨a, b⟩ := r
  simp only [consRes, Prod.mk.injEq] at h
  exact ⟨a, h.1.symm, by simp [h.2]⟩

/-- One poll of a clean body, given the trailers `tr` at the end of the body and whether the body
is plain: a message is the head of `ms`, and after it or after `Pending` the readings of what is left
are the same; an error or the end comes with `ms = []` and is `plainTail`. -/
def ExactPoll (cd : Codec α) (cfg : DecCfg) (tr : Option Tr) (plain : Bool) (ms : List α) (stop : Stop)
    (hb : Bytes) (s' : DecSt) (evs' : List BodyEv) (o : Item α) : Prop :=
  CleanEvs evs' = true ∧ (plain = true → PlainEvs evs' = true) ∧
  match o with
  | .msg m => endTr s'.trailers evs' = tr ∧ heldFrom cd cfg s' (accepted cfg evs') = hb ∧
      ∃ ms', ms = m :: ms' ∧ specFrom cd cfg s' (accepted cfg evs') = (ms', stop)
  | .pending => endTr s'.trailers evs' = tr ∧ heldFrom cd cfg s' (accepted cfg evs') = hb ∧
      specFrom cd cfg s' (accepted cfg evs') = (ms, stop)
  | .err st => ms = [] ∧ plainTail cd cfg tr stop hb = some st
  | .none => ms = [] ∧ plainTail cd cfg tr stop hb = none ∧ evs' = [] ∧ s'.trailers = tr ∧
      specFrom cd cfg s' [] = ([], stop) ∧ heldFrom cd cfg s' [] = hb

/-- `hst`, `hhe`: what `PreGood` and `PreHeld` say of a state in which `Dec.pre` needs more input. -/
theorem starved_reading {cd : Codec α} {cfg : DecCfg} {s : DecSt} {ms : List α} {stop : Stop} {hb : Bytes}
    (hx : specFrom cd cfg s [] = (ms, stop)) (hh : heldFrom cd cfg s [] = hb)
    (hst : (s.buf = [] ∧ s.ph = .hdr ∧ specFrom cd cfg s [] = ([], .clean)) ∨
       specFrom cd cfg s [] = ([], .incomplete))
    (hhe : specFrom cd cfg s [] = ([], .incomplete) → heldFrom cd cfg s [] = s.buf) :
    ms = [] ∧ ((stop = .clean ∧ s.buf = []) ∨ (stop = .incomplete ∧ hb = s.buf)) := by
  rcases hst with ⟨hbuf, _, hcl⟩ | hinc
  · rw [hcl] at hx
    exact ⟨(Prod.mk.inj hx).1.symm, Or.inl ⟨(Prod.mk.inj hx).2.symm, hbuf⟩⟩
  · have := hhe hinc
    rw [hinc] at hx
    exact ⟨(Prod.mk.inj hx).1.symm, Or.inr ⟨(Prod.mk.inj hx).2.symm, by rw [← hh, this]⟩⟩

/-- `ht`: both callers stand at a clean end or at a break with no bytes held, where the stream
ends as the trailers alone say; and the trailers are all `Dec.finish` looks at. -/
theorem finish_exact (cd : Codec α) (cfg : DecCfg) (s : DecSt) (plain : Bool) (stop : Stop) (hb : Bytes)
    (hx : specFrom cd cfg s [] = ([], stop)) (hh : heldFrom cd cfg s [] = hb)
    (ht : plainTail cd cfg s.trailers stop hb = respTr cfg s.trailers) :
    ExactPoll cd cfg s.trailers plain [] stop hb (Dec.finish (α := α) cfg s []).1
      (Dec.finish (α := α) cfg s []).2.1 (Dec.finish (α := α) cfg s []).2.2 := by
  unfold Dec.finish
  rw [response_eq]
  cases hr : respTr cfg s.trailers with
  | none => exact ⟨rfl, fun _ => rfl, rfl, ht.trans hr, rfl, rfl, hx, hh⟩
  | some e => exact ⟨rfl, fun _ => rfl, rfl, ht.trans hr⟩

theorem exact_of_out (cd : Codec α) (cfg : DecCfg) (s s' : DecSt) (o : Item α) (evs : List BodyEv)
    (ms : List α) (stop : Stop) (hb : Bytes) (hc : CleanEvs evs = true)
    (hx : specFrom cd cfg s (accepted cfg evs) = (ms, stop)) (hh : heldFrom cd cfg s (accepted cfg evs) = hb)
    (hp : PreGood cd cfg s (.out s' o)) (hq : PreHeld cd cfg s (.out s' o)) :
    ExactPoll cd cfg (endTr s.trailers evs) (PlainEvs evs) ms stop hb s' evs o := by
  cases o with
  | msg m =>
    obtain ⟨_, htr, hX⟩ := hp
    rw [hX] at hx
    obtain ⟨ms', rfl, hr⟩ := consRes_inj hx
    exact ⟨hc, id, by rw [htr], (hq _).symm.trans hh, ms', rfl, hr⟩
  | err st =>
    obtain ⟨_, b, rfl, hX⟩ := hp
    rw [hX] at hx
    obtain ⟨rfl, rfl⟩ := Prod.mk.inj hx
    exact ⟨hc, id, rfl, rfl⟩
  | none => exact hp.elim
  | pending => exact hp.elim

/-- `hw` (the third hypothesis): a body that breaks off inside a frame the receiver holds bytes of
sends no trailers after that.  If it did, this poll would end the stream as the trailers say and a
LATER poll would report the unexpected end. -/
theorem pollNext_exact (cd : Codec α) (cfg : DecCfg) (ms : List α) (stop : Stop) (hb : Bytes) (evs : List BodyEv) :
    ∀ (s : DecSt), PhaseOk cfg s → CleanEvs evs = true →
    (stop = .incomplete → hb ≠ [] → PlainEvs evs = true) →
    specFrom cd cfg s (accepted cfg evs) = (ms, stop) → heldFrom cd cfg s (accepted cfg evs) = hb →
    ExactPoll cd cfg (endTr s.trailers evs) (PlainEvs evs) ms stop hb (Dec.pollNext cd cfg s evs).1
      (Dec.pollNext cd cfg s evs).2.1 (Dec.pollNext cd cfg s evs).2.2 := by
  induction evs with
  | nil =>
    intro s h hc _ hx hh
    obtain ⟨hp, hq⟩ := pre_read cd cfg s h
    cases hpre : Dec.pre cd cfg s with
    | out s' o =>
      rw [pollNext_out cd cfg hpre]
      exact exact_of_out cd cfg s s' o [] ms stop hb hc hx hh (hpre ▸ hp) (hpre ▸ hq)
    | need s' =>
      rw [hpre] at hp hq
      obtain ⟨_, htr, hX, hst⟩ := hp
      obtain ⟨hH, hhe⟩ := hq
      have hx' : specFrom cd cfg s' [] = (ms, stop) := (hX _).symm.trans hx
      have hh' : heldFrom cd cfg s' [] = hb := (hH _).symm.trans hh
      obtain ⟨rfl, hcase⟩ := starved_reading hx' hh' hst hhe
      rw [pollNext_nil cd cfg hpre, ← htr]
      by_cases hbuf : s'.buf.isEmpty = true
      · rw [if_pos hbuf]
        refine finish_exact cd cfg s' _ stop hb hx' hh' ?_
        rcases hcase with ⟨rfl, _⟩ | ⟨rfl, rfl⟩
        · rfl
        · simp only [plainTail, List.isEmpty_iff.mp hbuf, ↓reduceIte]
      · rw [if_neg hbuf]
        rcases hcase with ⟨_, hb0⟩ | ⟨rfl, rfl⟩
        · simp [hb0] at hbuf
        · exact ⟨rfl, fun _ => rfl, rfl, if_neg fun e => hbuf (by rw [e]; rfl)⟩
  | cons ev rest ih =>
    intro s h hc hw hx hh
    obtain ⟨hp, hq⟩ := pre_read cd cfg s h
    cases hpre : Dec.pre cd cfg s with
    | out s' o =>
      rw [pollNext_out cd cfg hpre]
      exact exact_of_out cd cfg s s' o _ ms stop hb hc hx hh (hpre ▸ hp) (hpre ▸ hq)
    | need s' =>
      rw [hpre] at hp hq
      obtain ⟨hok, htr, hX, hst⟩ := hp
      obtain ⟨hH, hhe⟩ := hq
      cases ev with
      | pending =>
        rw [pollNext_pending cd cfg hpre, ← htr]
        exact ⟨hc, id, rfl, (hH _).symm.trans hh, (hX _).symm.trans hx⟩
      | data c =>
        rw [pollNext_data cd cfg hpre, ← htr]
        refine ih { s' with buf := s'.buf ++ cfg.accept c } hok hc hw ?_ ?_
        · rw [specFrom_push]; exact (hX _).symm.trans hx
        · rw [heldFrom_push]; exact (hH _).symm.trans hh
      | trailers t =>
        have hrest : rest = [] := by
          cases rest with
          | nil => rfl
          | cons _ _ => simp [CleanEvs] at hc
        subst hrest
        have hx' : specFrom cd cfg s' [] = (ms, stop) := (hX _).symm.trans hx
        have hh' : heldFrom cd cfg s' [] = hb := (hH _).symm.trans hh
        obtain ⟨rfl, hcase⟩ := starved_reading hx' hh' hst hhe
        rw [pollNext_trailers cd cfg hpre, ← htr]
        refine finish_exact cd cfg { s' with trailers := mergeTr s'.trailers t } _ stop hb hx' hh' ?_
        rcases hcase with ⟨rfl, _⟩ | ⟨rfl, _⟩
        · rfl
        · by_cases hbe : hb = []
          · simp only [plainTail, hbe, ↓reduceIte]
          · exact absurd (hw rfl hbe) (by simp [PlainEvs])
      | err st => simp [CleanEvs] at hc

end Framing
