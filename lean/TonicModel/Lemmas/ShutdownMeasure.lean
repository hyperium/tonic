import TonicModel.Lemmas.Shutdown
/-
The termination measure of C13: a number that every step the server takes on its own strictly
decreases, so its own steps cannot go on for ever.  It counts the one-shot flags not yet set and,
per call, what its handler has still to produce and what is still to be delivered.
-/
namespace Shutdown

def b2n (b : Bool) : Nat := if b then 1 else 0

/-- Where the coefficients come from: `produce` moves a chunk from `todo` to undelivered `sent`, so
an item still to come weighs 2 against 1 for an item written and not yet received, and `todo.length`
makes an empty chunk count too; `expire` drops `todo`, writes one item and is paid for by the
`expired` flag (2, since the item it writes adds 1). -/
def Call.weight (k : Call) : Nat :=
  b2n (!k.started) + k.todo.length + 2 * k.todo.flatten.length + (k.sent.length - k.recv)
  + 2 * b2n (!k.expired)

/-- One per one-shot step the connection can still take (a flag not yet set, the watcher not yet
dropped); `pending` weighs 2 because `loopAccept` clears it and may raise `watcher`. -/
def Conn.weight (cn : Conn) : Nat :=
  2 * b2n cn.pending + b2n cn.watcher + b2n (!cn.hs) + b2n (!cn.sawSig) + b2n (!cn.ageFired)
  + b2n (!cn.final) + b2n (!cn.closed) + b2n (!cn.inSet) + b2n (!cn.tlsOk)
  + (cn.calls.map Call.weight).sum

/-- Upper bound on the number of internal steps the server can still take without new input. -/
def weight (s : State) : Nat :=
  b2n s.loopRunning + s.pendingErrs + b2n (!s.afterDone) + b2n (!s.resolved)
  + (s.conns.map Conn.weight).sum

theorem b2n_true : b2n true = 1 := rfl

theorem b2n_false : b2n false = 0 := rfl

theorem sum_set_lt {α} (w : α → Nat) {l : List α} {i : Nat} {a b : α} (h : l[i]? = some a)
    (hw : w b < w a) : ((l.set i b).map w).sum < (l.map w).sum := by
  induction l generalizing i with
  | nil => cases h
  | cons x xs ih =>
    cases i with
    | zero =>
      cases h
      simp only [List.set_cons_zero, List.map_cons, List.sum_cons]
      omega
    | succ i =>
      have := ih (List.getElem?_cons_succ ▸ h)
      simp only [List.set_cons_succ, List.map_cons, List.sum_cons]
      omega

theorem sum_map_le {α} (w : α → Nat) (f : α → α) (hf : ∀ a, w (f a) ≤ w a) (l : List α) :
    ((l.map f).map w).sum ≤ (l.map w).sum := by
  induction l with
  | nil => exact Nat.le_refl _
  | cons x xs ih =>
    have := hf x
    simp only [List.map_cons, List.sum_cons]
    omega

theorem weight_updConn {s s' : State} {c : Nat} {g : Conn → Bool} {f : Conn → Conn}
    (h : updConn s c g f = some s') (hf : ∀ cn, g cn = true → (f cn).weight < cn.weight) :
    weight s' < weight s := by
  obtain ⟨cn, hc, hgd, rfl⟩ := updConn_some h
  exact Nat.add_lt_add_left (sum_set_lt Conn.weight hc (hf cn hgd)) _

theorem weight_updCall {s s' : State} {c j : Nat} {g : Conn → Call → Bool} {f : Call → Call}
    (h : updCall s c j g f = some s') (hf : ∀ cn k, g cn k = true → (f k).weight < k.weight) :
    weight s' < weight s := by
  obtain ⟨cn, k, hc, hk, hgd, rfl⟩ := updCall_some h
  have h1 := sum_set_lt Call.weight hk (hf cn k hgd)
  have h2 : ({ cn with calls := cn.calls.set j (f k) } : Conn).weight < cn.weight :=
    Nat.add_lt_add_left h1 _
  exact Nat.add_lt_add_left (sum_set_lt Conn.weight hc h2) _

/-- Each guard finds some counted flag up (or something left to produce or deliver) and the step
takes it down.
ENUMERATES THE LABELS: a new internal label needs a case here (and perhaps a term in the measure);
a new environment label must also be listed in `Label.internal`, which ends in `| _ => true`. -/
theorem internal_step_decreases {s s' : State} {l : Label} (hi : l.internal = true)
    (h : step s l = some s') : weight s' < weight s := by
  cases l with
  | offer | offerTls | clientHello | sigFire | endIncoming | acceptErr | issue | reqSend | permit
  | freeRun | peerDrop | cancel | ageTick | deadlineTick => cases hi
  | loopSig | loopEnd | afterLoop =>
    obtain ⟨hc, h⟩ := Option.ite_none_right_eq_some.1 h
    cases h
    simp only [incomingBranch, Bool.and_eq_true, Bool.not_eq_true'] at hc
    simp only [weight, hc, Bool.not_true, Bool.not_false, b2n_true, b2n_false]
    omega
  | loopErr =>
    obtain ⟨hc, h⟩ := Option.ite_none_right_eq_some.1 h
    cases h
    simp only [Bool.and_eq_true, decide_eq_true_eq] at hc
    simp only [weight]
    omega
  | loopAccept c =>
    refine weight_updConn (Option.ite_none_right_eq_some.1 h).2 fun cn hg => ?_
    simp only [Bool.and_eq_true] at hg
    have : b2n s.cfgGraceful ≤ 1 := by cases s.cfgGraceful <;> decide
    simp only [Conn.weight, hg.1, b2n_true, b2n_false]
    omega
  | resolve =>
    obtain ⟨hc, h⟩ := Option.ite_none_right_eq_some.1 h
    cases h
    simp only [Bool.and_eq_true, Bool.not_eq_true'] at hc
    have := sum_map_le Conn.weight (fun cn => { cn with pending := false })
      (fun cn => by simp only [Conn.weight, b2n_false]; omega) s.conns
    simp only [weight, hc.1.2, Bool.not_true, Bool.not_false, b2n_true, b2n_false]
    omega
  | tlsTake c =>
    refine weight_updConn (Option.ite_none_right_eq_some.1 h).2 fun cn hg => ?_
    simp only [Bool.and_eq_true, Bool.not_eq_true'] at hg
    simp only [Conn.weight, hg, Bool.not_true, Bool.not_false, b2n_true, b2n_false,
      Nat.add_lt_add_iff_right, Nat.lt_add_one]
  | tlsDone c | connSig c | connAge c | final c | connBreak c | connDropWatcher c | hsDone c =>
    refine weight_updConn h fun cn hg => ?_
    simp only [Bool.and_eq_true, Bool.not_eq_true'] at hg
    simp only [Conn.weight, hg, Bool.not_true, Bool.not_false, b2n_true, b2n_false,
      Nat.add_lt_add_iff_right, Nat.lt_add_one]
  | tlsFail c =>
    refine weight_updConn h fun cn hg => ?_
    simp only [Bool.and_eq_true, Bool.not_eq_true'] at hg
    simp only [Conn.weight, hg.1.1.2, b2n_true, b2n_false]
    omega
  | callStart c j =>
    refine weight_updCall h fun cn k hg => ?_
    simp only [Bool.and_eq_true, Bool.not_eq_true'] at hg
    simp only [Call.weight, hg.1.2, Bool.not_true, Bool.not_false, b2n_true, b2n_false,
      Nat.add_lt_add_iff_right, Nat.lt_add_one]
  | produce c j =>
    refine weight_updCall h fun cn k hg => ?_
    simp only [Bool.and_eq_true, Bool.not_eq_true', List.isEmpty_eq_false_iff] at hg
    unfold Call.produce
    split
    · next ch rest htodo =>
      simp only [Call.weight, htodo, List.length_cons, List.flatten_cons, List.length_append]
      omega
    · next htodo => exact absurd htodo hg.2
  | deliver c j =>
    refine weight_updCall h fun cn k hg => ?_
    simp only [Bool.and_eq_true, decide_eq_true_eq] at hg
    exact Nat.add_lt_add_right (Nat.add_lt_add_left (Nat.sub_succ_lt_self _ _ hg.2) _) _
  | expire c j =>
    refine weight_updCall (Option.ite_none_right_eq_some.1 h).2 fun cn k hg => ?_
    simp only [Bool.and_eq_true, Bool.not_eq_true'] at hg
    simp only [Call.weight, Call.expire, hg.2, Bool.not_true, Bool.not_false, b2n_true, b2n_false,
      List.length_append, List.length_nil, List.flatten_nil, List.length_cons]
    omega

theorem internal_run_bounded {ls : List Label} {s s' : State}
    (hall : ∀ l ∈ ls, l.internal = true) (h : run s ls = some s') :
    ls.length + weight s' ≤ weight s := by
  induction ls generalizing s with
  | nil => cases h; exact Nat.le_of_eq (Nat.zero_add _)
  | cons l ls ih =>
    obtain ⟨s1, h1, h⟩ := run_cons.1 h
    have := internal_step_decreases (hall l List.mem_cons_self) h1
    have := ih (fun x hx => hall x (List.mem_cons_of_mem _ hx)) h
    simp only [List.length_cons]
    omega

end Shutdown
