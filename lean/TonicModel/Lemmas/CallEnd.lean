import TonicModel.Lemmas.CallWire
/-
The two directions of the end-to-end call model (C02): handler script → `map_response`/`into_http`
→ server `EncodeBody` → ANY delivery allowed by the transport relation → `create_response` →
`Streaming` → client API result; and symmetrically caller → client `EncodeBody` → any delivery →
`map_request_*` → what the handler is given. Last, `http_map`: the framing model's table from
HTTP status to code is the status model's.
-/
namespace Call
open Framing Spec.Framing
variable {α : Type}

theorem num_eq_zero (c : Status.Code) : c.num = 0 ↔ c = .ok := by cases c <;> decide

theorem okTrailers_eq (c : Cfg α) (sc : Script α) : trailersOfSt c sc St.okSt = Metadata.okTrailers := by
  simp only [trailersOfSt, St.okSt, Status.toHeaderMap, Status.addHeader_eq]
  rfl

theorem userTrailers_eq (c : Cfg α) (sc : Script α) (st : FSt) (n : Nat) (hf : sc.final = some st) :
    trailersOfSt c sc ⟨n, .user⟩ = Status.wire .fixed st [] := by
  simp [trailersOfSt, hf, Status.toHeaderMap, Status.addHeader_eq]

theorem trOf_wire (st : FSt) (hutf : Utf8.valid st.message = true) :
    trOf (Status.wire .fixed st []) = some st.code.num := by
  obtain ⟨st', hr, hsame⟩ := status_roundtrip st [] hutf (fun _ _ => rfl) rfl rfl
  simp only [trOf, hr, hsame.1]

theorem trOf_okTrailers : trOf Metadata.okTrailers = some 0 := trOf_wire (mkSt .ok []) rfl

theorem encodingCheck_wire (st : FSt) (h0 : HMap) (hmd : noEncodingName st.metadata)
    (h0e : HMap.getAll GRPC_ENCODING h0 = []) : encodingCheck (Status.wire .fixed st h0) = none := by
  have n := custom_name encoding_custom
  apply encodingCheck_none
  rw [Status.getAll_wire, if_neg n.ne_status, if_neg (fun h => n.ne_message h.1), if_neg (fun h => n.ne_details h.1),
    if_neg (fun h => h.2 hmd)]
  exact h0e

theorem createResponse_body (d : RespDelivery) (md : HMap) (hmd : noEncodingName md)
    (hh : d.headers = Metadata.responseWire md) :
    createResponse d = .ok { enc := none, maxSize := none, dir := .response d.status } := by
  simp [createResponse, hh, encodingCheck_responseWire md hmd, fromHeaderMap_responseWire]

/-- a trailers-only response written from `st`: either client entry point fails with `st` -/
theorem clientReceive_trailersOnly (c : Cfg α) (cliStream : Bool) (d : RespDelivery) (st : FSt)
    (hcode : st.code ≠ .ok) (hutf : Utf8.valid st.message = true) (hmd : noEncodingName st.metadata)
    (hh : d.headers = (statusIntoHttp st).headers) :
    ∃ st', clientReceive c cliStream d = .err st' ∧ SameStatus st st' := by
  have hw : (statusIntoHttp st).headers = Status.wire .fixed st [(Status.CONTENT_TYPE, Metadata.GRPC_CONTENT_TYPE)] := by
    simp only [statusIntoHttp, Metadata.errorResponseWire, Status.addHeader_eq]
  obtain ⟨_, hm, hd⟩ := Status.contentType_ne
  obtain ⟨st', hr, hsame⟩ := status_roundtrip st [(Status.CONTENT_TYPE, Metadata.GRPC_CONTENT_TYPE)] hutf
    (fun k hk => HMap.getAll_singleton_ne (custom_name hk).ne_contentType _) (HMap.getAll_singleton_ne hm.symm _)
    (HMap.getAll_singleton_ne hd.symm _)
  refine ⟨st', ?_, hsame⟩
  have hc : st'.code ≠ .ok := by rw [hsame.1]; exact hcode
  have he := encodingCheck_wire st [(Status.CONTENT_TYPE, Metadata.GRPC_CONTENT_TYPE)] hmd
    (HMap.getAll_singleton_ne (custom_name encoding_custom).ne_contentType _)
  have hcr : createResponse d = .error st' := by simp [createResponse, hh, hw, he, hr, hc]
  cases cliStream <;> simp [clientReceive, clientStream, clientSingle, hcr]

/-- `hn`: `n` polls see the server's body to its end, for `handlerSrc` has at most
`sc.body.length + 1` events (the final status is one) and `run_server` wants more polls than
events. `hfuel` bounds two loops by `c.fuel`: one `message()` call may poll through all of
`respEvs d` (the chunks and the trailers frame), and `drain` reads the messages one by one. -/
theorem response_delivered (c : Cfg α) (laws : CodecLaws c.cd) (respStream : Bool) (sc : Script α)
    (hearly : sc.early = none) (ok : ScriptOk c.cd sc) (n : Nat) (hn : sc.body.length + 2 < n)
    (d : RespDelivery) (ht : RespTransports (handlerResponse c n respStream sc) d)
    (hfuel : d.chunks.length + 1 + sc.body.msgs.length < c.fuel) :
    d.headers = Metadata.responseWire sc.initMd ∧
    d.trailers = some (trailersOfSt c sc (owedOf respStream sc)) ∧
    Holds c.cd { enc := none, maxSize := none, dir := .response d.status } c.fuel Dec.init (respEvs d)
      (respMsgs respStream sc) (some (trOf (trailersOfSt c sc (owedOf respStream sc)))) ∧
    (respMsgs respStream sc).length < c.fuel := by
  obtain ⟨h1, h2, h3, h4⟩ := handlerResponse_ok c n respStream sc hearly ok.msgs hn
  obtain ⟨t1, t2, t3, t4⟩ := ht
  have hsub := respMsgs_sublist respStream sc
  have hlen := hsub.length_le
  have htr : d.trailers = some (trailersOfSt c sc (owedOf respStream sc)) := t4.trans h4
  refine ⟨t2.trans h2, htr, ?_, by omega⟩
  rw [respEvs, htr]
  exact holds_chunkEvs (by simp [DecCfg.skipsBody, t1.trans h1]) d.chunks _ rfl rfl
    ((t3.trans h3) ▸ spec_wire c.cd laws _ _ fun m hm => ok.msgs m (hsub.subset hm))
    (Nat.lt_of_le_of_lt (Nat.le_add_right _ _) hfuel)

theorem respTr_ok (http : Nat) :
    respTr { enc := none, maxSize := none, dir := .response http } (some (some 0)) = none := rfl

theorem respTr_user (http n : Nat) (hn : n ≠ 0) :
    respTr { enc := none, maxSize := none, dir := .response http } (some (some n)) = some ⟨n, .user⟩ := if_neg hn

/-- A stream that the handler ended with error status `st`, as the client meets it in delivery `d`:
`st'` is the status `from_header_map` reads from the trailers — the handler's; the framing model
reports its code as a `user` error, and the call model (`respErr`) turns that back into `st'`. -/
structure StreamedError (c : Cfg α) (sc : Script α) (st : FSt) (d : RespDelivery) (st' : FSt) : Prop where
  readBack : Status.fromHeaderMap .fixed (Status.wire .fixed st []) = some (.status st')
  same : SameStatus st st'
  code : trOf (trailersOfSt c sc (owedOf true sc)) = some st.code.num
  isErr : respTr { enc := none, maxSize := none, dir := .response d.status } (some (some st.code.num)) =
    some ⟨st.code.num, .user⟩
  full : respErr c.deMsg d ⟨st.code.num, .user⟩ = st'

theorem streamed_error_end (c : Cfg α) (sc : Script α) (st : FSt) (hf : sc.final = some st) (ok : ScriptOk c.cd sc)
    (d : RespDelivery) (htr : d.trailers = some (trailersOfSt c sc (owedOf true sc))) :
    ∃ st', StreamedError c sc st d st' := by
  obtain ⟨hcode, hutf⟩ := ok.final st hf
  have howed : owedOf true sc = ⟨st.code.num, .user⟩ := by simp only [owedOf, hf, ↓reduceIte]
  rw [howed, userTrailers_eq c sc st _ hf] at htr
  obtain ⟨st', hr, hsame⟩ := status_roundtrip st [] hutf (fun _ _ => rfl) rfl rfl
  exact ⟨st', hr, hsame, by rw [howed, userTrailers_eq c sc st _ hf]; exact trOf_wire st hutf,
    respTr_user _ _ fun h => hcode ((num_eq_zero _).mp h), by simp only [respErr, htr, Option.bind_some, hr]⟩

theorem clientStream_sees (c : Cfg α) (laws : CodecLaws c.cd) (sc : Script α)
    (hearly : sc.early = none) (ok : ScriptOk c.cd sc) (n : Nat) (hn : sc.body.length + 2 < n)
    (d : RespDelivery) (ht : RespTransports (handlerResponse c n true sc) d)
    (hfuel : d.chunks.length + 1 + sc.body.msgs.length < c.fuel) :
    ∃ ended tr, clientStream c d = .stream (Metadata.responseWire sc.initMd) sc.body.msgs ended tr ∧
      match sc.final with
      | none => ended = none ∧ tr = some Metadata.okTrailers
      | some st => tr = none ∧ ∃ st', ended = some st' ∧
          Status.fromHeaderMap .fixed (Status.wire .fixed st []) = some (.status st') ∧ SameStatus st st' := by
  obtain ⟨hh, htr, hold, hm⟩ := response_delivered c laws true sc hearly ok n hn d ht hfuel
  have hcr := createResponse_body d sc.initMd ok.initMd hh
  obtain ⟨s', hd, hs'⟩ := drain_end hold hm
  rw [show respMsgs true sc = sc.body.msgs from rfl] at hd
  cases hf : sc.final with
  | none =>
    have howed : owedOf true sc = St.okSt := by simp only [owedOf, hf, ↓reduceIte]
    rw [howed, okTrailers_eq] at htr hd hs'
    rw [trOf_okTrailers] at hd hs'
    rw [endOf_none (respTr_ok _)] at hd
    exact ⟨none, some Metadata.okTrailers, by simp only [clientStream, hcr, hd, hs' (respTr_ok _), htr, hh], rfl, rfl⟩
  | some st =>
    obtain ⟨st', e⟩ := streamed_error_end c sc st hf ok d htr
    rw [e.code, endOf_some e.isErr] at hd
    exact ⟨some st', none, by simp only [clientStream, hcr, hd, e.full, hh], rfl, st', rfl, e.readBack, e.same⟩

theorem client_sees_early (c : Cfg α) (respStream : Bool) (sc : Script α) (st : FSt)
    (hearly : sc.early = some st) (ok : ScriptOk c.cd sc) (n : Nat)
    (d : RespDelivery) (ht : RespTransports (handlerResponse c n respStream sc) d) (cliStream : Bool) :
    ∃ st', clientReceive c cliStream d = .err st' ∧ SameStatus st st' := by
  obtain ⟨hcode, hutf, hmd⟩ := ok.early st hearly
  refine clientReceive_trailersOnly c cliStream d st hcode hutf hmd ?_
  rw [ht.2.1]
  simp only [handlerResponse, hearly]

theorem clientSingle_sees (c : Cfg α) (laws : CodecLaws c.cd) (sc : Script α) (m : α)
    (hearly : sc.early = none) (hone : sc.body.msgs = [m]) (ok : ScriptOk c.cd sc)
    (n : Nat) (hn : sc.body.length + 2 < n)
    (d : RespDelivery) (ht : RespTransports (handlerResponse c n false sc) d)
    (hfuel : d.chunks.length + 1 + sc.body.msgs.length < c.fuel) :
    clientSingle c d = .single (Metadata.clientUnaryMetadata sc.initMd) m := by
  obtain ⟨hh, htr, hold, _⟩ := response_delivered c laws false sc hearly ok n hn d ht hfuel
  rw [show owedOf false sc = St.okSt from rfl, okTrailers_eq] at hold htr
  rw [show respMsgs false sc = [m] by simp [respMsgs, hone], trOf_okTrailers] at hold
  obtain ⟨s1, evs1, hi, hold1⟩ := nextItem_cons hold
  obtain ⟨s2, hd, hs2⟩ := drain_end hold1 (Nat.lt_of_le_of_lt (Nat.zero_le _) hold.fuel)
  rw [endOf_none (respTr_ok _)] at hd
  simp only [clientSingle, createResponse_body d sc.initMd ok.initMd hh, hi, hd, hs2 (respTr_ok _), htr, hh]
  rfl

/-- The single-response entry point against a handler that streams and ends in error `st`. With
no message before it the error is the first item, and there tonic merges the response headers into
the status (`status.metadata_mut().merge(parts.clone())`); after a message it surfaces in the drain
for the trailers, unmerged. -/
theorem clientSingle_sees_streamed_error (c : Cfg α) (laws : CodecLaws c.cd) (sc : Script α) (st : FSt)
    (hearly : sc.early = none) (hf : sc.final = some st) (ok : ScriptOk c.cd sc)
    (n : Nat) (hn : sc.body.length + 2 < n)
    (d : RespDelivery) (ht : RespTransports (handlerResponse c n true sc) d)
    (hfuel : d.chunks.length + 1 + sc.body.msgs.length < c.fuel) :
    ∃ st', SameStatus st st' ∧
      clientSingle c d = .err (if sc.body.msgs = [] then
        { st' with metadata := HMap.extend st'.metadata (Metadata.responseWire sc.initMd) } else st') := by
  obtain ⟨hh, htr, hold, hm⟩ := response_delivered c laws true sc hearly ok n hn d ht hfuel
  obtain ⟨st', e⟩ := streamed_error_end c sc st hf ok d htr
  rw [show respMsgs true sc = sc.body.msgs from rfl] at hold hm
  rw [e.code] at hold
  refine ⟨st', e.same, ?_⟩
  simp only [clientSingle, createResponse_body d sc.initMd ok.initMd hh]
  cases hb : sc.body.msgs with
  | nil =>
    obtain ⟨s1, evs1, hi, _⟩ := nextItem_nil (hb ▸ hold)
    rw [e.isErr] at hi
    simp only [hi, e.full, hh, ↓reduceIte]
  | cons m ms =>
    obtain ⟨s1, evs1, hi, hold1⟩ := nextItem_cons (hb ▸ hold)
    obtain ⟨s2, hd, _⟩ := drain_end hold1 (Nat.lt_of_succ_lt (hb ▸ hm :))
    rw [endOf_some e.isErr] at hd
    simp only [hi, hd, e.full, reduceCtorEq, ↓reduceIte]

/-- The bounds are as in `response_delivered`; here the source is `srcOf r.msgs`, and a request
body ends without a trailers frame. -/
theorem request_delivered (c : Cfg α) (laws : CodecLaws c.cd) (r : CallReq α)
    (hm : ∀ m ∈ r.msgs.msgs, MsgOk c.cd m) (nc : Nat) (hnc : r.msgs.length + 1 < nc)
    (d : ReqDelivery) (ht : ReqTransports (clientRequest c nc r) d) (hfuel : d.chunks.length < c.fuel) :
    d.headers = Metadata.requestWire r.md ∧
    Holds c.cd reqDecCfg c.fuel Dec.init (reqEvs d) r.msgs.msgs none := by
  obtain ⟨h1, h2, _⟩ := clientRequest_ok c nc r hm hnc
  obtain ⟨t1, t2, _⟩ := ht
  refine ⟨t1.trans h1, ?_⟩
  rw [reqEvs, ← List.append_nil (chunkEvs d.chunks)]
  exact holds_chunkEvs rfl d.chunks [] rfl rfl ((t2.trans h2) ▸ spec_wire c.cd laws .request _ hm) hfuel

theorem respTr_request (tr : Option Tr) : respTr reqDecCfg tr = none := rfl

theorem endOf_request (tr : Option Tr) : endOf reqDecCfg tr = .done := rfl

theorem serve_stream_sees (c : Cfg α) (laws : CodecLaws c.cd) (r : CallReq α)
    (hm : ∀ m ∈ r.msgs.msgs, MsgOk c.cd m) (hmd : noEncodingName r.md)
    (nc : Nat) (hnc : r.msgs.length + 1 < nc)
    (d : ReqDelivery) (ht : ReqTransports (clientRequest c nc r) d)
    (hfuel : d.chunks.length < c.fuel)
    (ns : Nat) (respStream : Bool) (sc : Script α) :
    serve c ns true respStream sc d =
      (.stream (Metadata.requestWire r.md) (r.msgs.msgs.take sc.reads)
         (if sc.reads ≤ r.msgs.msgs.length then none else some none),
       handlerResponse c ns respStream sc) := by
  obtain ⟨hh, hold⟩ := request_delivered c laws r hm nc hnc d ht hfuel
  obtain ⟨r1, r2, _⟩ := readN_holds sc.reads hold
  simp only [serve, ↓reduceIte, hh, encodingCheck_requestWire r.md hmd, r1, r2, endOf_request]
  by_cases hk : sc.reads ≤ r.msgs.msgs.length <;> simp only [hk, ↓reduceIte, endedFull]

theorem serve_unary_sees (c : Cfg α) (laws : CodecLaws c.cd) (r : CallReq α) (m : α)
    (hone : r.msgs.msgs = [m]) (hm : ∀ m ∈ r.msgs.msgs, MsgOk c.cd m) (hmd : noEncodingName r.md)
    (nc : Nat) (hnc : r.msgs.length + 1 < nc)
    (d : ReqDelivery) (ht : ReqTransports (clientRequest c nc r) d)
    (hfuel : d.chunks.length < c.fuel)
    (ns : Nat) (respStream : Bool) (sc : Script α) :
    serve c ns false respStream sc d =
      (.unary (Metadata.requestWire r.md) m, handlerResponse c ns respStream sc) := by
  obtain ⟨hh, hold⟩ := request_delivered c laws r hm nc hnc d ht hfuel
  obtain ⟨s1, evs1, hi, hold1⟩ := nextItem_cons (hone ▸ hold)
  obtain ⟨s2, hd, _⟩ := drain_end hold1 (Nat.lt_of_le_of_lt (Nat.zero_le _) hfuel)
  simp only [serve, mapRequestUnary, Bool.false_eq_true, ↓reduceIte, hh, encodingCheck_requestWire r.md hmd, hi, hd,
    endOf_request]

/-- HTTP status → code: the framing model's table is the status model's table. -/
theorem http_map (http : Nat) :
    match Status.httpToCode http with
    | none => Framing.inferStatus none http = none ∧ Framing.inferStatus (some none) http = none
    | some c => Framing.inferStatus none http = some ⟨c.num, .http⟩ ∧
        Framing.inferStatus (some none) http = some ⟨c.num, .http⟩ ∧ Status.Code.ofNum c.num = c := by
  by_cases h0 : http = 200
  · subst h0; exact ⟨rfl, rfl⟩
  by_cases h1 : http = 400
  · subst h1; exact ⟨rfl, rfl, rfl⟩
  by_cases h2 : http = 401
  · subst h2; exact ⟨rfl, rfl, rfl⟩
  by_cases h3 : http = 403
  · subst h3; exact ⟨rfl, rfl, rfl⟩
  by_cases h4 : http = 404
  · subst h4; exact ⟨rfl, rfl, rfl⟩
  by_cases h5 : http = 429 ∨ http = 502 ∨ http = 503 ∨ http = 504
  · rcases h5 with rfl | rfl | rfl | rfl <;> exact ⟨rfl, rfl, rfl⟩
  · simp only [Status.httpToCode, Framing.inferStatus, h0, h1, h2, h3, h4, h5, ↓reduceIte]
    exact ⟨rfl, rfl, rfl⟩

end Call
