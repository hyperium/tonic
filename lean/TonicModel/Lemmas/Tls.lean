import TonicModel.Model.Tls
import TonicModel.Spec.Tls
/-
Lemmas for C15: the builder folds of `Model/Tls` agree with the direct readings of `Spec/Tls`
(last call wins; roots accumulate), and what a success of `TlsConnector::new`,
`Endpoint::tls_config`, `Connector::call`, `tls_acceptor` or of a whole `scenario` implies.
-/
namespace Tls
open Spec.Tls
variable {Root Chain : Type}

section Fold
variable {σ ω β : Type} (step : σ → ω → σ) (ops : List ω) (s : σ)

theorem foldl_last_opt (get : σ → Option β) (sel : ω → Option β)
    (h : ∀ s o, get (step s o) = (sel o).or (get s)) :
    get (ops.foldl step s) = ((ops.filterMap sel).getLast?).or (get s) := by
  induction ops generalizing s with
  | nil => rfl
  | cons o rest ih =>
    rw [List.foldl_cons, ih, h, List.filterMap_cons]
    cases sel o with
    | none => rfl
    | some b =>
      rw [List.getLast?_cons]
      cases (List.filterMap sel rest).getLast? <;> rfl

theorem foldl_last (get : σ → β) (sel : ω → Option β) (h : ∀ s o, get (step s o) = (sel o).getD (get s)) :
    get (ops.foldl step s) = ((ops.filterMap sel).getLast?).getD (get s) :=
  -- `foldl_last_opt` read at `some ∘ get`, where `or` is `getD`
  Option.some.inj <| (foldl_last_opt step ops s (some <| get ·) sel
    fun s o => (congrArg some (h s o)).trans Option.or_some.symm).trans Option.or_some

theorem foldl_flag (get : σ → Bool) (sel : ω → Bool) (h : ∀ s o, get (step s o) = (sel o || get s)) :
    get (ops.foldl step s) = (ops.any sel || get s) := by
  induction ops generalizing s with
  | nil => rfl
  | cons o rest ih => rw [List.foldl_cons, ih, h, List.any_cons, Bool.or_left_comm, Bool.or_assoc]

end Fold

section ClientBuilder
variable (ops : List (ClientOp Root Chain))

theorem build_native : (ClientTlsConfig.build ops).withNativeRoots = asksNative ops :=
  (foldl_flag ClientOp.apply ops {} (·.withNativeRoots) asksNativeOp fun _ o => by cases o <;> rfl).trans
    (Bool.or_false _)

theorem build_domain : (ClientTlsConfig.build ops).domain = configuredDomain ops :=
  (foldl_last_opt ClientOp.apply ops {} (·.domain) domainOfOp fun _ o => by cases o <;> rfl).trans Option.or_none

theorem build_assume : (ClientTlsConfig.build ops).assumeHttp2 = assumes ops :=
  (foldl_last ClientOp.apply ops {} (·.assumeHttp2) assumeOfOp fun _ o => by cases o <;> rfl).trans <| by
    unfold assumes
    cases (ops.filterMap assumeOfOp).getLast? <;> rfl

theorem build_identity : (ClientTlsConfig.build ops).identity = configuredIdentity ops :=
  (foldl_last_opt ClientOp.apply ops {} (·.identity) identityOfOp fun _ o => by cases o <;> rfl).trans Option.or_none

end ClientBuilder

/-- The set of roots a configuration stands for (before PEM parse errors are considered). -/
def cfgRoots (sys : Sys Root) (c : ClientTlsConfig Root Chain) (r : Root) : Prop :=
  r ∈ c.trustAnchors ∨ r ∈ c.certs.flatMap pemRoots ∨
  (sys.featNative = true ∧ c.withNativeRoots = true ∧ r ∈ sys.nativeCerts) ∨
  (sys.featWebpki = true ∧ c.withWebpkiRoots = true ∧ r ∈ sys.webpkiRoots)

section CfgRoots
variable (sys : Sys Root) (c : ClientTlsConfig Root Chain) (r : Root)

theorem cfgRoots_anchors (xs : List Root) :
    cfgRoots sys { c with trustAnchors := c.trustAnchors ++ xs } r ↔ cfgRoots sys c r ∨ r ∈ xs := by
  simp only [cfgRoots, List.mem_append]
  exact or_right_comm

theorem cfgRoots_certs (ps : List (Pem Root)) :
    cfgRoots sys { c with certs := c.certs ++ ps } r ↔ cfgRoots sys c r ∨ r ∈ ps.flatMap pemRoots := by
  simp only [cfgRoots, List.flatMap_append, List.mem_append]
  exact (or_congr_right or_right_comm).trans or_assoc.symm

theorem cfgRoots_native :
    cfgRoots sys { c with withNativeRoots := true } r ↔
      cfgRoots sys c r ∨ r ∈ (if sys.featNative then sys.nativeCerts else []) := by
  simp only [cfgRoots, List.mem_ite_nil_right]
  generalize (r ∈ c.trustAnchors) = a, (r ∈ c.certs.flatMap pemRoots) = b
  grind

theorem cfgRoots_webpki :
    cfgRoots sys { c with withWebpkiRoots := true } r ↔
      cfgRoots sys c r ∨ r ∈ (if sys.featWebpki then sys.webpkiRoots else []) := by
  simp only [cfgRoots, List.mem_ite_nil_right]
  generalize (r ∈ c.trustAnchors) = a, (r ∈ c.certs.flatMap pemRoots) = b
  grind

theorem cfgRoots_apply (op : ClientOp Root Chain) :
    cfgRoots sys (op.apply c) r ↔ cfgRoots sys c r ∨ r ∈ rootsOfOp sys op := by
  cases op with
  | caCertificate p =>
    exact (cfgRoots_certs sys c r [p]).trans (by rw [List.flatMap_singleton]; rfl)
  | caCertificates ps => exact cfgRoots_certs sys c r ps
  | trustAnchor x => exact cfgRoots_anchors sys c r [x]
  | trustAnchors xs => exact cfgRoots_anchors sys c r xs
  | withNativeRoots => exact cfgRoots_native sys c r
  | withWebpkiRoots => exact cfgRoots_webpki sys c r
  | withEnabledRoots =>
    exact (cfgRoots_webpki sys { c with withNativeRoots := true } r).trans <| by
      rw [cfgRoots_native, or_assoc, ← List.mem_append]; rfl
  -- the other calls touch none of the four fields and contribute no roots
  | _ => exact (or_iff_left List.not_mem_nil).symm

theorem cfgRoots_foldl (ops : List (ClientOp Root Chain)) :
    cfgRoots sys (ops.foldl ClientOp.apply c) r ↔ cfgRoots sys c r ∨ r ∈ configuredRoots sys ops := by
  induction ops generalizing c with
  | nil => exact (or_iff_left List.not_mem_nil).symm
  | cons o rest ih =>
    rw [List.foldl_cons, ih, cfgRoots_apply, or_assoc, configuredRoots, configuredRoots, List.flatMap_cons,
      List.mem_append]

theorem cfgRoots_build (ops : List (ClientOp Root Chain)) (r : Root) :
    cfgRoots sys (ClientTlsConfig.build ops) r ↔ r ∈ configuredRoots sys ops :=
  (cfgRoots_foldl sys {} r ops).trans (or_iff_right (by simp [cfgRoots]))

end CfgRoots

theorem addCaCerts_mem (roots : List Root) (ps : List (Pem Root)) (out : List Root)
    (h : addCaCerts roots ps = .ok out) (r : Root) :
    r ∈ out ↔ r ∈ roots ∨ r ∈ ps.flatMap pemRoots := by
  induction ps generalizing roots with
  | nil => cases h; exact (or_iff_left List.not_mem_nil).symm
  | cons p rest ih =>
    cases p with
    | none => cases h
    | some rs => rw [ih _ h, List.mem_append, or_assoc, List.flatMap_cons, List.mem_append]; rfl

section Connector
variable (sys : Sys Root) (cfg : ClientTlsConfig Root Chain)

theorem nativeStep_mem (out : List Root) (h : nativeStep sys cfg = .ok out) (r : Root) :
    r ∈ out ↔ r ∈ cfg.trustAnchors ∨
      (sys.featNative = true ∧ cfg.withNativeRoots = true ∧ r ∈ sys.nativeCerts) := by
  unfold nativeStep at h
  rw [← and_assoc, ← Bool.and_eq_true]
  split at h
  · split at h
    · cases h
    · cases h; simp [*]
  · cases h; simp [*]

theorem webpkiStep_mem (roots : List Root) (r : Root) :
    r ∈ webpkiStep sys cfg roots ↔ r ∈ roots ∨
      (sys.featWebpki = true ∧ cfg.withWebpkiRoots = true ∧ r ∈ sys.webpkiRoots) := by
  unfold webpkiStep
  cases sys.featWebpki <;> cases cfg.withWebpkiRoots <;> simp

theorem connector_new_ok (d : String) (t : TlsConnector Root Chain) (h : TlsConnector.new sys cfg d = .ok t) :
    (∀ r, r ∈ t.roots ↔ cfgRoots sys cfg r) ∧ t.domain = d ∧ t.assumeHttp2 = cfg.assumeHttp2 ∧
    loadOptIdentity cfg.identity = .ok t.identity ∧ sys.validServerName d = true := by
  unfold TlsConnector.new at h
  split at h
  · cases h
  rename_i roots1 hn
  split at h
  · cases h
  rename_i roots3 hc
  split at h
  · cases h
  rename_i ident hi
  split at h
  · rename_i hv
    cases h
    refine ⟨fun r => ?_, rfl, rfl, hi, hv⟩
    rw [addCaCerts_mem _ _ _ hc, webpkiStep_mem, nativeStep_mem sys cfg _ hn, cfgRoots]
    exact or_assoc.trans <| or_assoc.trans <| or_congr_right <| or_assoc.symm.trans or_comm
  · cases h

/-- The `TlsConnector::new` behind a successful `tls_config`; `tlsConfig_ok` goes on to say what
that connector holds. -/
theorem tlsConfig_new_ok (ep ep' : Endpoint Root Chain) (h : ep.tlsConfig sys cfg = .ok ep') :
    ∃ t d, ep' = { ep with tls := some t } ∧ cfg.domain.or ep.uri.host = some d ∧
      TlsConnector.new sys cfg d = .ok t := by
  unfold Endpoint.tlsConfig at h
  split at h
  · rename_i t ht
    cases h
    unfold ClientTlsConfig.intoTlsConnector at ht
    split at ht
    · rename_i d hd; exact ⟨t, d, rfl, by rw [hd]; rfl, ht⟩
    · rename_i hd
      split at ht
      · rename_i host hh; exact ⟨t, host, rfl, by rw [hd, hh]; rfl, ht⟩
      · cases ht
  · cases h

theorem tlsConfig_ok (ep ep' : Endpoint Root Chain) (h : ep.tlsConfig sys cfg = .ok ep') :
    ∃ t, ep' = { ep with tls := some t } ∧ cfg.domain.or ep.uri.host = some t.domain ∧
      sys.validServerName t.domain = true ∧ (∀ r, r ∈ t.roots ↔ cfgRoots sys cfg r) ∧
      t.assumeHttp2 = cfg.assumeHttp2 ∧ loadOptIdentity cfg.identity = .ok t.identity := by
  obtain ⟨t, d, hep, hname, hnew⟩ := tlsConfig_new_ok sys cfg ep ep' h
  obtain ⟨hr, hdom, ha, hi, hv⟩ := connector_new_ok sys cfg d t hnew
  subst hdom
  exact ⟨t, hep, hname, hv, hr, ha, hi⟩

end Connector

theorem connect_ok_iff (t : TlsConnector Root Chain) (hs : ClientHello Root Chain → ClientView) (io : Io) :
    t.connect hs = .ok io ↔
      ∃ a, hs t.hello = .done a ∧ (a = some alpnH2 ∨ t.assumeHttp2 = true) ∧ io = .tls a := by
  unfold TlsConnector.connect
  cases hs t.hello with
  | done a =>
    simp only [ClientView.done.injEq, exists_eq_left', Bool.or_eq_true, decide_eq_true_eq]
    split
    · rename_i h; exact ⟨fun e => ⟨h, (Except.ok.inj e).symm⟩, fun e => e.2 ▸ rfl⟩
    · rename_i h; exact ⟨fun e => (nomatch e), fun e => absurd e.1 h⟩
  | _ => simp

theorem call_ok_iff (ep : Endpoint Root Chain) (dialOk : Bool) (hs : ClientHello Root Chain → ClientView)
    (io : Io) :
    Connector.call ep dialOk hs = .ok io ↔ dialOk = true ∧
      if ep.uri.scheme = some .https then ∃ t, ep.tls = some t ∧ t.connect hs = .ok io
      else io = .plain := by
  unfold Connector.call
  cases dialOk with
  | false => simp
  | true =>
    simp only [Bool.not_true, Bool.false_eq_true, if_false, true_and]
    split
    · cases ep.tls <;> simp
    · simp [eq_comm]

section Scenario
variable (ep : Endpoint Root Chain) (inner : InnerInfo) (hs : Handshake Root Chain)

theorem scenario_failed_or_served (srv : ServerKind Root Chain) :
    (∃ w p, scenario ep srv inner hs = .failed w p) ∨ (∃ e p, scenario ep srv inner hs = .served e p) := by
  unfold scenario
  dsimp only
  generalize Connector.call ep true _ = r
  split
  · exact .inl ⟨_, _, rfl⟩
  · split
    · exact .inr ⟨_, _, rfl⟩
    · exact .inl ⟨_, _, rfl⟩
  · split
    · split
      · exact .inr ⟨_, _, rfl⟩
      · exact .inl ⟨_, _, rfl⟩
    · split
      · exact .inr ⟨_, _, rfl⟩
      · exact .inl ⟨_, _, rfl⟩
    · exact .inl ⟨_, _, rfl⟩

theorem scenario_plaintext (srv : ServerKind Root Chain) (h : ∀ cv, Connector.call ep true cv ≠ .ok .plain) :
    (scenario ep srv inner hs).plaintext = false := by
  unfold scenario
  dsimp only
  split
  · rfl
  · rename_i hp; exact absurd hp (h _)
  · split
    · split <;> rfl
    · split <;> rfl
    · rfl

theorem scenario_tonicTls_ok (s : ServerHello Root Chain) (hok : (scenario ep (.tonicTls s) inner hs).ok = true) :
    ∃ a t peer, Connector.call ep true (fun c => (hs c s).client) = .ok (.tls a) ∧ ep.tls = some t ∧
      (hs t.hello s).server = some peer ∧
      scenario ep (.tonicTls s) inner hs = .served (extensionsTlsIo (tlsStreamConnectInfo inner peer)) false := by
  unfold scenario at hok ⊢
  dsimp only at hok ⊢
  generalize hr : Connector.call ep true _ = r at hok ⊢
  replace hr : Connector.call ep true (fun c => (hs c s).client) = r := hr
  cases r with
  | error e => cases hok
  | ok io =>
    cases io with
    | plain => cases hok
    | tls a =>
      cases ht : ep.tls with
      | none => rw [ht] at hok; cases hok
      | some t =>
        rw [ht] at hok
        dsimp only at hok ⊢
        cases hsv : (hs t.hello s).server with
        | none => rw [hsv] at hok; cases hok
        | some peer => exact ⟨a, t, peer, hr, rfl, hsv, rfl⟩

end Scenario

theorem sbuild_ca (ops : List (ServerOp Root Chain)) : (ServerTlsConfig.build ops).clientCaRoot = clientCa ops :=
  (foldl_last_opt ServerOp.apply ops {} (·.clientCaRoot) caOfOp fun _ o => by cases o <;> rfl).trans Option.or_none

theorem sbuild_optional (ops : List (ServerOp Root Chain)) :
    (ServerTlsConfig.build ops).clientAuthOptional = authOptional ops :=
  (foldl_last ServerOp.apply ops {} (·.clientAuthOptional) optionalOfOp fun _ o => by cases o <;> rfl).trans <| by
    unfold authOptional
    cases (ops.filterMap optionalOfOp).getLast? <;> rfl

theorem clientAuthMode_ok (ca : Option (Pem Root)) (optional : Bool) (m : ClientAuth Root)
    (h : clientAuthMode ca optional = .ok m) :
    match (generalizing := false) ca with
    | none => m = .off
    | some pem => pemRoots pem ≠ [] ∧
        m = if optional then .optional (pemRoots pem) else .required (pemRoots pem) := by
  unfold clientAuthMode at h
  split at h
  · exact (Except.ok.inj h).symm
  · cases h
  · rename_i rs
    split at h
    · cases h
    · rename_i hne
      refine ⟨fun (e : rs = []) => hne (e ▸ rfl), ?_⟩
      cases optional <;> exact (Except.ok.inj h).symm

theorem acceptor_ok (cfg : ServerTlsConfig Root Chain) (s : ServerHello Root Chain)
    (h : cfg.tlsAcceptor = .ok s) :
    s.alpn = [alpnH2] ∧ clientAuthMode cfg.clientCaRoot cfg.clientAuthOptional = .ok s.clientAuth ∧
    ∃ i, cfg.identity = some i ∧ i.load = .ok s.chain := by
  unfold ServerTlsConfig.tlsAcceptor at h
  split at h
  · cases h
  rename_i i hi
  split at h
  · cases h
  rename_i mode hm
  split at h
  · cases h
  rename_i ch hl
  cases h
  exact ⟨rfl, hm, i, hi, hl⟩

theorem runFrom_last (steps : List (ServerStep Root Chain)) (t0 tls : Option (ServerHello Root Chain))
    (h : ServerBuilder.runFrom t0 steps = .ok tls) :
    match (steps.filterMap fun st => match st with | .tlsConfig ops => some ops | .layer => none).getLast? with
    | none => tls = t0
    | some ops => ∃ s, (ServerTlsConfig.build ops).tlsAcceptor = .ok s ∧ tls = some s := by
  induction steps generalizing t0 with
  | nil => exact (Built.ok.inj h).symm
  | cons st rest ih =>
    cases st with
    | layer => exact ih t0 h
    | tlsConfig ops =>
      simp only [List.filterMap_cons, List.getLast?_cons]
      simp only [ServerBuilder.runFrom, ServerStep.apply] at h
      cases ha : (ServerTlsConfig.build ops).tlsAcceptor with
      | ok s =>
        rw [ha] at h
        have := ih (some s) h
        cases hl : (rest.filterMap _).getLast? with
        | none => rw [hl] at this; exact ⟨s, ha, this⟩
        | some ops' => rw [hl] at this; exact this
      | err e => rw [ha] at h; cases h
      | panic => rw [ha] at h; cases h

end Tls
