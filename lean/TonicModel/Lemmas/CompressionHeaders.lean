import TonicModel.Lemmas.CompressionTokens
/-
The two header decisions against the oracle: `from_encoding_header` takes the decision `recv`
describes (and a refusal carries the rendered accept list); `from_accept_encoding_header` picks
the first token of the first line that names an encoding enabled for sending (`firstMutual`).
-/
namespace Compression
open CompObs Spec.Compression

variable {s : Slots} {l : List Enc} {v : Bytes} {rest : List Bytes}

theorem recv_identity : recv l (identity :: rest) = .identity := rfl

theorem recv_name (e : Enc) :
    recv l (name e :: rest) = if l.contains e then .use e else .refuse := by
  rw [recv, if_neg (mt eq_of_beq (name_ne_identity e)), nameOf_name]

theorem recv_other (hi : v ≠ identity) (hn : nameOf? v = none) : recv l (v :: rest) = .refuse := by
  rw [recv, if_neg (mt eq_of_beq hi), hn]

theorem acceptHeader_getD (s : Slots) :
    (acceptHeaderValue s).getD identityName = acceptValueBody s ++ identityName := by
  rw [acceptHeaderValue]
  cases h : acceptValueBody s <;> rfl

theorem fromEncodingHeader_identity :
    fromEncodingHeader (identity :: rest) s = .ok none := rfl

theorem fromEncodingHeader_name (e : Enc) :
    fromEncodingHeader (name e :: rest) s =
      if isEnabled s e then .ok (some e) else .error (acceptValueBody s ++ identityName) := by
  rw [← acceptHeader_getD]
  cases e <;> rw [fromEncodingHeader] <;> cases isEnabled s _ <;> rfl

theorem fromEncodingHeader_other (hi : v ≠ identity) (hn : nameOf? v = none) :
    fromEncodingHeader (v :: rest) s = .error (acceptValueBody s ++ identityName) := by
  have h (e : Enc) : decide (v = name e) = false := decide_eq_false (nameOf_eq_none hn e)
  rw [fromEncodingHeader, show gzipName = name .gzip from rfl, show deflateName = name .deflate from rfl,
    show zstdName = name .zstd from rfl, h, h, h, acceptHeader_getD]
  simp only [Bool.false_and, Bool.false_eq_true, if_false]
  exact if_neg hi

theorem fromEncodingHeader_eq (h : Agree s l) (vals : List Bytes) :
    fromEncodingHeader vals s =
      if recv l vals = .refuse then .error (acceptValueBody s ++ identityName)
      else .ok (recv l vals).enc := by
  cases vals with
  | nil => rfl
  | cons v rest =>
    rcases value_cases v with rfl | ⟨e, rfl⟩ | ⟨hi, hn⟩
    · rw [fromEncodingHeader_identity, recv_identity]
      rfl
    · rw [fromEncodingHeader_name, recv_name, h e]
      cases l.contains e <;> rfl
    · rw [fromEncodingHeader_other hi hn, recv_other hi hn, if_pos rfl]

theorem acceptListOk_model (h : Agree s l) :
    acceptListOk l [acceptValueBody s ++ identityName] = true := by
  have hmem (e : Enc) : e ∈ enabledList s ↔ e ∈ l := by
    rw [mem_enabledList, h e, List.contains_iff_mem]
  rw [acceptListOk, acceptValue_tokens, Bool.and_eq_true, List.all_eq_true, List.all_eq_true]
  constructor
  · intro t ht
    rcases List.mem_append.mp ht with ht | ht
    · obtain ⟨e, he, rfl⟩ := List.mem_map.mp ht
      rw [nameOf_name]
      exact Bool.or_eq_true_iff.mpr (Or.inr (List.contains_iff_mem.mpr ((hmem e).mp he)))
    · rw [List.mem_singleton.mp ht, beq_self_eq_true, Bool.true_or]
  · intro e he
    exact List.contains_iff_mem.mpr
      (List.mem_append_left _ (List.mem_map_of_mem ((hmem e).mpr he)))

theorem matchToken_eq (s : Slots) (t : Bytes) :
    matchToken s t = (nameOf? t).filter (isEnabled s) := by
  cases hn : nameOf? t with
  | some e =>
    obtain rfl := nameOf_eq_some hn
    cases e <;> rfl
  | none =>
    have h (e : Enc) : t ≠ name e := nameOf_eq_none hn e
    rw [matchToken, if_neg (c := t = gzipName) (h .gzip), if_neg (c := t = deflateName) (h .deflate),
      if_neg (c := t = zstdName) (h .zstd)]
    rfl

theorem isEmpty_no_enabled (s : Slots) (h : isEmpty s = true) (e : Enc) : isEnabled s e = false := by
  induction s with
  | nil => rfl
  | cons a s ih =>
    rw [isEmpty, List.all_cons, Bool.and_eq_true] at h
    cases a with
    | some x => cases h.1
    | none => exact ih h.2

theorem fromAccept_nil : fromAcceptEncodingHeader [] s = none := by
  unfold fromAcceptEncodingHeader
  split <;> rfl

theorem fromAccept_eq :
    fromAcceptEncodingHeader (v :: rest) s =
      if toStrOk v then (tokens v).findSome? fun t => (nameOf? t).filter (isEnabled s) else none := by
  unfold fromAcceptEncodingHeader
  split
  · rename_i he
    have : ((tokens v).findSome? fun t => (nameOf? t).filter (isEnabled s)) = none :=
      List.findSome?_eq_none_iff.mpr fun t _ =>
        Option.filter_eq_none_iff.mpr fun e _ => by rw [isEmpty_no_enabled s he e]; nofun
    rw [this, ite_self]
  · dsimp only
    by_cases hv : toStrOk v = true
    · rw [if_pos hv, if_pos hv, ← tokens_eq v hv, List.findSome?_map]
      exact congrArg (List.findSome? · _) (funext fun t => matchToken_eq s (trim t))
    · rw [if_neg hv, if_neg hv]

theorem fromAccept_spec {send : List Enc} (h : Agree s send) (hv : toStrOk v = true) :
    fromAcceptEncodingHeader (v :: rest) s = firstMutual send v := by
  rw [fromAccept_eq, if_pos hv, firstMutual, show isEnabled s = fun e => send.contains e from funext h]

theorem fromAccept_some {vals : List Bytes} {e : Enc} (h : fromAcceptEncodingHeader vals s = some e) :
    isEnabled s e = true ∧ ∃ v rest, vals = v :: rest ∧ name e ∈ tokens v := by
  cases vals with
  | nil => rw [fromAccept_nil] at h; cases h
  | cons v rest =>
    rw [fromAccept_eq] at h
    split at h
    · obtain ⟨t, ht, hm⟩ := List.exists_of_findSome?_eq_some h
      obtain ⟨hn, he⟩ := Option.filter_eq_some_iff.mp hm
      exact ⟨he, v, rest, rfl, nameOf_eq_some hn ▸ ht⟩
    · cases h

end Compression
