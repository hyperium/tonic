import TonicModel.Model.HealthLife
import TonicModel.Lemmas.Health
/-
Lemmas for the handle / pair layer (`Model/HealthLife`): a pair's table evolves by the health
operations that happened on that pair and by nothing else.
-/
namespace Health

theorem sideAnswers_cons (p : Nat) (x : Nat × LAns) (l : List (Nat × LAns)) :
    sideAnswers p (x :: l) = sideAnswers p [x] ++ sideAnswers p l :=
  List.filterMap_append (l := [x])

theorem sideAnswers_single (p : Nat) (a : LAns) :
    sideAnswers p [(p, a)] = match a with | .eff r => [r] | _ => [] := by
  cases a <;> simp [sideAnswers]

theorem sideStep_is_own_history (p : Nat) (sd : Side) (op : LOp) :
    (∀ its, effective p sd.reps sd.clis (⟨p, op⟩ :: its) =
      effective p sd.reps sd.clis [⟨p, op⟩] ++
        effective p (sideStep sd op).1.reps (sideStep sd op).1.clis its) ∧
    sideAnswers p [(p, (sideStep sd op).2)] = run sd.h (effective p sd.reps sd.clis [⟨p, op⟩]) ∧
    (sideStep sd op).1.h = exec sd.h (effective p sd.reps sd.clis [⟨p, op⟩]) := by
  rw [sideAnswers_single]
  cases op with
  | str o => simp only [effective, if_true]; exact ⟨fun _ => rfl, rfl, rfl⟩
  | _ =>
    -- `sideStep` and `effective` make the same test of the handle variables; decide it
    simp only [effective, sideStep, if_true]
    split <;> exact ⟨fun _ => rfl, rfl, rfl⟩

theorem side_is_own_history (p : Nat) (items : List LItem) : ∀ s : L,
    sideAnswers p (lrun s items) = run (s p).h (effective p (s p).reps (s p).clis items) ∧
    ((lexec s items) p).h = exec (s p).h (effective p (s p).reps (s p).clis items) := by
  induction items with
  | nil => exact fun s => ⟨rfl, rfl⟩
  | cons it its ih =>
    intro s
    obtain ⟨q, op⟩ := it
    have ih' := ih (lstep s ⟨q, op⟩).1
    rw [lrun, lexec, sideAnswers_cons]
    by_cases hq : q = p
    · subst hq
      have hsame : (lstep s ⟨q, op⟩).1 q = (sideStep (s q) op).1 := if_pos rfl
      obtain ⟨h0, h1, h2⟩ := sideStep_is_own_history q (s q) op
      rw [hsame, h2] at ih'
      rw [h0, run_append, exec_append, ← ih'.1, ← ih'.2, ← h1]
      exact ⟨rfl, rfl⟩
    · have hother : (lstep s ⟨q, op⟩).1 p = s p := if_neg fun e => hq e.symm
      rw [hother] at ih'
      have hskip : effective p (s p).reps (s p).clis (⟨q, op⟩ :: its) =
          effective p (s p).reps (s p).clis its := by rw [effective, if_neg hq]
      rw [hskip]
      exact ⟨by simpa [sideAnswers, hq] using ih'.1, ih'.2⟩

end Health
