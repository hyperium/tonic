import TonicModel.Model.FramingOps
import TonicModel.Lemmas.FramingRun
/-
Consumers of a `Streaming` that use `message()` and `trailers()` besides `poll_next` (C07 audit):
the drain loop inside `trailers()` is a prefix of `Dec.run`, it terminates with the fuel
`#events + #messages + 1`, it reports exactly the stream's own first terminal result, and the
first error — whichever call returns it — is final for every later call.
-/
namespace Framing
open Spec.Framing
variable {α : Type}

def Op.isPoll : Op → Bool
  | .trailers => false
  | _ => true

theorem runOps_polls (cd : Codec α) (cfg : DecCfg) (fuel : Nat) : ∀ (ops : List Op) (s : DecSt) (evs : List BodyEv),
    (∀ op ∈ ops, op.isPoll = true) →
    Dec.runOps cd cfg fuel ops s evs = (Dec.run cd cfg ops.length s evs).map .item := by
  intro ops
  induction ops with
  | nil => intros; rfl
  | cons op ops ih =>
    intro s evs h
    have hop := h op (by simp)
    have ih' := fun s' evs' => ih s' evs' (fun o ho => h o (List.mem_cons_of_mem _ ho))
    cases op with
    | trailers => simp [Op.isPoll] at hop
    | next | message => simp [Dec.runOps, Dec.stepOp, Dec.run, ih']

def endItem : DrainEnd → Item α
  | none => .none
  | some e => .err e

def pendingsOf : List (Item α) → Nat
  | [] => 0
  | .pending :: r => pendingsOf r + 1
  | _ :: r => pendingsOf r

theorem drain_spec (cd : Codec α) (cfg : DecCfg) (n : Nat) : ∀ (s : DecSt) (evs : List BodyEv) (k : Nat)
    (s' : DecSt) (evs' : List BodyEv) (k' : Nat) (r : DrainEnd),
    Dec.drain cd cfg n s evs k = some (s', evs', k', r) →
    ∃ j pre, j ≤ n ∧ Dec.run cd cfg j s evs = pre ++ [endItem r] ∧ (∀ o ∈ pre, o.isTerminal = false) ∧
      k' = k + pendingsOf pre := by
  induction n with
  | zero => intro s evs k s' evs' k' r h; simp [Dec.drain] at h
  | succ n ih =>
    intro s evs k s' evs' k' r h
    simp only [Dec.drain] at h
    generalize hp : Dec.pollNext cd cfg s evs = p at h
    obtain ⟨s1, evs1, o⟩ := p
    cases o with
    | msg m =>
      obtain ⟨j, pre, hj, hrun, hpre, hk⟩ := ih s1 evs1 k s' evs' k' r h
      exact ⟨j + 1, .msg m :: pre, by omega, by simp [Dec.run, hp, hrun], List.forall_mem_cons.mpr ⟨rfl, hpre⟩,
        by simpa [pendingsOf] using hk⟩
    | pending =>
      obtain ⟨j, pre, hj, hrun, hpre, hk⟩ := ih s1 evs1 (k + 1) s' evs' k' r h
      exact ⟨j + 1, .pending :: pre, by omega, by simp [Dec.run, hp, hrun], List.forall_mem_cons.mpr ⟨rfl, hpre⟩,
        by simp [pendingsOf]; omega⟩
    | none | err e =>
      cases h
      exact ⟨1, [], by omega, by simp [Dec.run, hp, endItem], by simp, by simp [pendingsOf]⟩

theorem drain_isSome (cd : Codec α) (cfg : DecCfg) (n : Nat) : ∀ (s : DecSt) (evs : List BodyEv) (k : Nat),
    (∃ o ∈ Dec.run cd cfg n s evs, o.isTerminal = true) → (Dec.drain cd cfg n s evs k).isSome = true := by
  induction n with
  | zero => intro s evs k h; simp [Dec.run] at h
  | succ n ih =>
    intro s evs k h
    simp only [Dec.run] at h
    simp only [Dec.drain]
    generalize Dec.pollNext cd cfg s evs = p at h
    obtain ⟨s1, evs1, o⟩ := p
    cases o with
    | msg m | pending =>
      obtain ⟨o, ho, ht⟩ := h
      rcases List.mem_cons.mp ho with rfl | ho
      · cases ht
      · exact ih _ _ _ ⟨o, ho, ht⟩
    | none | err e => rfl

theorem drain_terminates (cd : Codec α) (cfg : DecCfg) (n : Nat) (s : DecSt) (evs : List BodyEv) (k : Nat)
    (hs : StateOk cfg s) (hn : evs.length + (specFrom cd cfg s (accepted cfg evs)).1.length < n) :
    (Dec.drain cd cfg n s evs k).isSome = true := by
  rcases stateOk_cases hs with hp | ⟨st, hf⟩
  · exact drain_isSome cd cfg n s evs k (run_reaches_end cd cfg n s evs hp hn)
  · cases n with
    | zero => omega
    | succ n =>
      simp only [Dec.drain, pollNext_failed cd cfg s st evs hf]
      cases st <;> rfl

theorem stateOk_setTrailers {cfg : DecCfg} {s : DecSt} (t : Option Tr) (h : StateOk cfg s) :
    StateOk cfg { s with trailers := t } := fun len comp hb => h len comp hb

theorem drain_state (cd : Codec α) (cfg : DecCfg) (n : Nat) : ∀ (s : DecSt) (evs : List BodyEv) (k : Nat)
    (s' : DecSt) (evs' : List BodyEv) (k' : Nat) (r : DrainEnd), StateOk cfg s →
    Dec.drain cd cfg n s evs k = some (s', evs', k', r) →
    StateOk cfg s' ∧ (∀ e, r = some e → s'.ph = .failed none) := by
  induction n with
  | zero => intro s evs k s' evs' k' r _ h; simp [Dec.drain] at h
  | succ n ih =>
    intro s evs k s' evs' k' r hs h
    simp only [Dec.drain] at h
    obtain ⟨hstep, hl⟩ := pollNext_stateOk cd cfg s evs hs
    generalize Dec.pollNext cd cfg s evs = p at h hstep hl
    obtain ⟨s1, evs1, o⟩ := p
    cases o with
    | msg m => exact ih s1 evs1 k s' evs' k' r hstep h
    | pending => exact ih s1 evs1 (k + 1) s' evs' k' r hstep h
    | none =>
      cases h
      exact ⟨hstep, fun _ he => nomatch he⟩
    | err e =>
      cases h
      exact ⟨hstep, fun _ _ => hl e rfl⟩

def OpOut.isErr : OpOut α → Bool
  | .item (.err _) => true
  | .tr (.err _ _) => true
  | _ => false

/-- what a latched stream answers: `None` to a poll, at once `Ok(..)` to `trailers()` -/
def OpOut.isQuiet : OpOut α → Bool
  | .item .none => true
  | .tr (.ok 0 _) => true
  | _ => false

theorem stepOp_stateOk (cd : Codec α) (cfg : DecCfg) (fuel : Nat) (s : DecSt) (evs : List BodyEv) (op : Op)
    (hs : StateOk cfg s) :
    StateOk cfg (Dec.stepOp cd cfg fuel s evs op).1 ∧
    ((Dec.stepOp cd cfg fuel s evs op).2.2.isErr = true → (Dec.stepOp cd cfg fuel s evs op).1.ph = .failed none) := by
  have hpoll : StateOk cfg (Dec.pollNext cd cfg s evs).1 ∧
      (OpOut.isErr (.item (Dec.pollNext cd cfg s evs).2.2) = true → (Dec.pollNext cd cfg s evs).1.ph = .failed none) := by
    obtain ⟨hstep, hl⟩ := pollNext_stateOk cd cfg s evs hs
    refine ⟨hstep, fun he => ?_⟩
    generalize Dec.pollNext cd cfg s evs = p at he hl
    obtain ⟨s1, evs1, o⟩ := p
    cases o <;> simp [OpOut.isErr] at he
    exact hl _ rfl
  cases op with
  | next | message => simpa [Dec.stepOp] using hpoll
  | trailers =>
    simp only [Dec.stepOp, Dec.trailersCall]
    cases ht : s.trailers with
    | some t => exact ⟨stateOk_setTrailers none hs, by simp [OpOut.isErr]⟩
    | none =>
      simp only
      cases hd : Dec.drain cd cfg fuel s evs 0 with
      | none => exact ⟨hs, by simp [OpOut.isErr]⟩
      | some q =>
        obtain ⟨s', evs', k', r⟩ := q
        have := drain_state cd cfg fuel s evs 0 s' evs' k' r hs hd
        cases r with
        | none => exact ⟨stateOk_setTrailers none this.1, by simp [OpOut.isErr]⟩
        | some e => exact ⟨this.1, fun _ => this.2 e rfl⟩

theorem stepOp_latched (cd : Codec α) (cfg : DecCfg) (fuel : Nat) (hf : 0 < fuel) (s : DecSt) (evs : List BodyEv) (op : Op)
    (h : s.ph = .failed none) :
    (Dec.stepOp cd cfg fuel s evs op).1.ph = .failed none ∧ (Dec.stepOp cd cfg fuel s evs op).2.2.isQuiet = true := by
  cases op with
  | next | message => simp [Dec.stepOp, pollNext_failed cd cfg s none evs h, OpOut.isQuiet]
  | trailers =>
    simp only [Dec.stepOp, Dec.trailersCall]
    cases ht : s.trailers with
    | some t => simp [h, OpOut.isQuiet]
    | none =>
      obtain ⟨n, rfl⟩ : ∃ n, fuel = n + 1 := ⟨fuel - 1, by omega⟩
      simp [Dec.drain, pollNext_failed cd cfg s none evs h, OpOut.isQuiet]

theorem runOps_latched (cd : Codec α) (cfg : DecCfg) (fuel : Nat) (hf : 0 < fuel) : ∀ (ops : List Op) (s : DecSt) (evs : List BodyEv),
    s.ph = .failed none → ∀ x ∈ Dec.runOps cd cfg fuel ops s evs, x.isQuiet = true := by
  intro ops
  induction ops with
  | nil => intro s evs _ x hx; simp [Dec.runOps] at hx
  | cons op ops ih =>
    intro s evs h x hx
    have hl := stepOp_latched cd cfg fuel hf s evs op h
    simp only [Dec.runOps] at hx
    generalize Dec.stepOp cd cfg fuel s evs op = p at hx hl
    obtain ⟨s1, evs1, o⟩ := p
    rcases List.mem_cons.mp hx with rfl | hx
    · exact hl.2
    · exact ih s1 evs1 hl.1 x hx

theorem runOps_first_error_final (cd : Codec α) (cfg : DecCfg) (fuel : Nat) (hf : 0 < fuel) :
    ∀ (ops : List Op) (s : DecSt) (evs : List BodyEv) (pre post : List (OpOut α)) (o : OpOut α), StateOk cfg s →
      Dec.runOps cd cfg fuel ops s evs = pre ++ o :: post → o.isErr = true → ∀ x ∈ post, x.isQuiet = true := by
  intro ops
  induction ops with
  | nil => intro s evs pre post o _ h; simp [Dec.runOps] at h
  | cons op ops ih =>
    intro s evs pre post o hs h he
    simp only [Dec.runOps] at h
    have hst := stepOp_stateOk cd cfg fuel s evs op hs
    generalize Dec.stepOp cd cfg fuel s evs op = p at h hst
    obtain ⟨s1, evs1, o1⟩ := p
    cases pre with
    | nil =>
      simp only [List.nil_append, List.cons.injEq] at h
      obtain ⟨rfl, hrest⟩ := h
      rw [← hrest]
      exact runOps_latched cd cfg fuel hf ops s1 evs1 (hst.2 he)
    | cons p pre' =>
      simp only [List.cons_append, List.cons.injEq] at h
      exact ih s1 evs1 pre' post o hst.1 h.2 he

/-! ### `Grpc::unary` / `map_request_unary` are consumers of the kind above -/

theorem firstItem_runOps (cd : Codec α) (cfg : DecCfg) (fuel : Nat) (n : Nat) : ∀ (s : DecSt) (evs : List BodyEv) (k : Nat)
    (s' : DecSt) (evs' : List BodyEv) (k' : Nat) (o : Item α),
    Dec.firstItem cd cfg n s evs k = some (s', evs', k', o) →
    o.isPending = false ∧ ∃ j, k' = k + j ∧ ∀ rest, Dec.runOps cd cfg fuel (List.replicate (j + 1) .message ++ rest) s evs
      = List.replicate j (.item .pending) ++ .item o :: Dec.runOps cd cfg fuel rest s' evs' := by
  induction n with
  | zero => intro s evs k s' evs' k' o h; simp [Dec.firstItem] at h
  | succ n ih =>
    intro s evs k s' evs' k' o h
    simp only [Dec.firstItem] at h
    generalize hp : Dec.pollNext cd cfg s evs = p at h
    obtain ⟨s1, evs1, o1⟩ := p
    cases o1 with
    | pending =>
      obtain ⟨hnp, j, hk, hrun⟩ := ih s1 evs1 (k + 1) s' evs' k' o h
      refine ⟨hnp, j + 1, by omega, ?_⟩
      intro rest
      have := hrun rest
      simp only [List.replicate_succ, List.cons_append, Dec.runOps, Dec.stepOp, hp] at this ⊢
      rw [this]
    | msg m | none | err e =>
      cases h
      exact ⟨rfl, 0, rfl, fun rest => by simp [Dec.runOps, Dec.stepOp, hp]⟩

/-- how the result of a unary call reads off the consumer `message()ʲ⁺¹ ; trailers()`: `j` `Pending`s,
then the first ready result `o`, then the answer `x` of `trailers()` -/
def UnaryView (u : UnOut α) (j : Nat) (o : Item α) (x : OpOut α) : Prop :=
  match u with
  | .fuel => False
  | .missing p => p = j ∧ o = .none
  | .err p e => (p = j ∧ o = .err e) ∨ (∃ m k2, o = .msg m ∧ x = .tr (.err k2 e) ∧ p = j + k2)
  | .ok p m => ∃ k2 t, o = .msg m ∧ x = .tr (.ok k2 t) ∧ p = j + k2

theorem unaryCall_view (cd : Codec α) (cfg : DecCfg) (fuel : Nat) (s : DecSt) (evs : List BodyEv)
    (h : Dec.unaryCall cd cfg fuel s evs ≠ .fuel) :
    ∃ j o x, Dec.runOps cd cfg fuel (List.replicate (j + 1) .message ++ [.trailers]) s evs
        = List.replicate j (.item .pending) ++ [.item o, x] ∧
      UnaryView (Dec.unaryCall cd cfg fuel s evs) j o x := by
  unfold Dec.unaryCall at h ⊢
  cases hf : Dec.firstItem cd cfg fuel s evs 0 with
  | none => simp [hf] at h
  | some q =>
    obtain ⟨s', evs', k, o⟩ := q
    obtain ⟨hnp, j, hk, hrun⟩ := firstItem_runOps cd cfg fuel fuel s evs 0 s' evs' k o hf
    have hk : k = j := by omega
    subst hk
    have hr := hrun [.trailers]
    simp only [Dec.runOps, Dec.stepOp] at hr
    refine ⟨k, o, .tr (Dec.trailersCall cd cfg fuel s' evs').2.2, hr, ?_⟩
    simp only [hf] at h ⊢
    cases o with
    | pending => simp [Item.isPending] at hnp
    | none => exact And.intro rfl rfl
    | err e => exact Or.inl ⟨rfl, rfl⟩
    | msg m =>
      simp only at h ⊢
      cases ht : (Dec.trailersCall cd cfg fuel s' evs').2.2 with
      | fuel => simp [ht] at h
      | ok k2 t => exact ⟨k2, t, rfl, rfl, rfl⟩
      | err k2 e => exact Or.inr ⟨m, k2, rfl, rfl, rfl⟩

end Framing
