import TonicModel.Model.Reflection
import TonicModel.Spec.Reflection
/-
Lemmas for C19.  The indexer (`process_*`) and the registration loop are each described once,
by an `Outcome`: when the step succeeds, what then holds of its result, and that it never fails
with a decode error.  For the loop the result is `Built`, a description of the whole state in
terms of the files examined; everything `Props/C19` says about a built service is read off it.
-/
namespace Reflection
open Refl Spec.Reflection

theorem isName_iff {n : Name} {o : Option Name} : isName n o = true ↔ o = some n := by
  cases o <;> simp [isName, eq_comm]

theorem any_isName_iff {n : Name} {g : Name → Name} {l : List (Option Name)} :
    l.any (fun v => isName n (v.map g)) = true ↔ ∃ v, some v ∈ l ∧ n = g v := by
  simp only [List.any_eq_true, isName_iff, Option.map_eq_some_iff]
  constructor
  · rintro ⟨_, hx, v, rfl, h⟩
    exact ⟨v, hx, h.symm⟩
  · rintro ⟨v, hv, rfl⟩
    exact ⟨_, hv, v, rfl, rfl⟩

theorem declE_iff {scope : Name} {e : EnumD} {n : Name} :
    declE scope e n = true ↔ DeclE scope e n := by
  obtain ⟨name, values⟩ := e
  cases name with
  | none => exact ⟨(nomatch ·), fun h => by cases h <;> contradiction⟩
  | some en =>
    simp only [declE, Bool.or_eq_true, decide_eq_true_eq, any_isName_iff]
    constructor
    · rintro (rfl | ⟨v, hv, rfl⟩)
      · exact .self rfl
      · exact .value rfl hv
    · rintro (h | ⟨h, hv⟩)
      · cases h
        exact .inl rfl
      · cases h
        exact .inr ⟨_, hv, rfl⟩

mutual
theorem declM_iff {scope : Name} {m : Msg} {n : Name} : declM scope m n = true ↔ DeclM scope m n :=
  match m with
  | .mk none _ _ _ _ => ⟨(nomatch ·), (nomatch ·)⟩
  | .mk (some mn) nested enums fields oneofs => by
    have ih : declL (qual scope mn) nested n = true ↔ DeclL (qual scope mn) nested n := declL_iff
    simp only [declM, Bool.or_eq_true, decide_eq_true_eq, any_isName_iff, ih]
    simp only [List.any_eq_true, declE_iff]
    constructor
    · rintro ((((rfl | h) | ⟨e, he, h⟩) | ⟨f, hf, rfl⟩) | ⟨o, ho, rfl⟩)
      · exact .self
      · exact .nested h
      · exact .enum he h
      · exact .field hf
      · exact .oneof ho
    · rintro (_ | h | ⟨he, h⟩ | hf | ho)
      · exact .inl (.inl (.inl (.inl rfl)))
      · exact .inl (.inl (.inl (.inr h)))
      · exact .inl (.inl (.inr ⟨_, he, h⟩))
      · exact .inl (.inr ⟨_, hf, rfl⟩)
      · exact .inr ⟨_, ho, rfl⟩
theorem declL_iff {scope : Name} {ms : MsgList} {n : Name} : declL scope ms n = true ↔ DeclL scope ms n :=
  match ms with
  | .nil => ⟨(nomatch ·), (nomatch ·)⟩
  | .cons m ms => by
    have ih1 : declM scope m n = true ↔ DeclM scope m n := declM_iff
    have ih2 : declL scope ms n = true ↔ DeclL scope ms n := declL_iff
    simp only [declL, Bool.or_eq_true, ih1, ih2]
    constructor
    · exact fun h => h.elim .head .tail
    · rintro (h | h)
      · exact .inl h
      · exact .inr h
end

theorem declSvc_iff {scope : Name} {s : Service} {n : Name} :
    declSvc scope s n = true ↔
      ∃ sn, s.name = some sn ∧ (n = qual scope sn ∨ ∃ m, some m ∈ s.methods ∧ n = qual (qual scope sn) m) := by
  unfold declSvc
  cases hn : s.name with
  | none => simp
  | some sn =>
    simp only [Bool.or_eq_true, decide_eq_true_eq, any_isName_iff, Option.some.injEq, exists_eq_left']

theorem declares_iff {f : File} {n : Name} : declares f n = true ↔ Declares f n := by
  unfold declares
  simp only [Bool.or_eq_true, List.any_eq_true, declL_iff, declE_iff, declSvc_iff]
  constructor
  · rintro ((h | ⟨e, he, h⟩) | ⟨s, hs, sn, hsn, (rfl | ⟨m, hm, rfl⟩)⟩)
    · exact .message h
    · exact .enum he h
    · exact .service hs hsn
    · exact .method hs hsn hm
  · intro h
    cases h with
    | message h => exact Or.inl (Or.inl h)
    | enum he h => exact Or.inl (Or.inr ⟨_, he, h⟩)
    | service hs hsn => exact Or.inr ⟨_, hs, _, hsn, Or.inl rfl⟩
    | method hs hsn hm => exact Or.inr ⟨_, hs, _, hsn, Or.inr ⟨_, hm, rfl⟩⟩

theorem declaresService_iff_exists {f : File} {n : Name} :
    DeclaresService f n ↔ ∃ s ∈ f.services, s.name.map (qual (pkg f)) = some n := by
  constructor
  · rintro ⟨hs, hn⟩
    exact ⟨_, hs, by rw [hn]; rfl⟩
  · rintro ⟨s, hs, h⟩
    obtain ⟨sn, hn, rfl⟩ := Option.map_eq_some_iff.mp h
    exact .mk hs hn

theorem declaresService_iff {f : File} {n : Name} : declaresService f n = true ↔ DeclaresService f n := by
  simp only [declaresService, List.any_eq_true, isName_iff, declaresService_iff_exists]

theorem mem_serviceNames_iff {f : File} {n : Name} : n ∈ serviceNames f ↔ DeclaresService f n := by
  simp only [serviceNames, List.mem_filterMap, declaresService_iff_exists]

/-- Success of an `Except`, as the `Bool` the statements of `Props/C19` speak of. -/
def isOk {ε α : Type} : Except ε α → Bool
  | .ok _ => true
  | .error _ => false

theorem isOk_iff {ε α : Type} {x : Except ε α} : isOk x = true ↔ ∃ a, x = .ok a := by
  cases x <;> simp [isOk]

/-- `Outcome x w p`: the step `x` (of the indexer, of the registration loop) succeeds exactly when
`w` holds, and then with a result satisfying `p`; when it fails, it is not with a decode error. -/
def Outcome {α : Type} (x : Except Err α) (w : Bool) (p : α → Prop) : Prop :=
  match x with
  | .ok a => w = true ∧ p a
  | .error e => w = false ∧ e ≠ .decode

namespace Outcome
variable {α β : Type} {x : Except Err α} {w wx : Bool} {p : α → Prop} {q : β → Prop}

theorem isOk_eq (h : Outcome x w p) : isOk x = w := by
  cases x <;> exact h.1.symm

theorem post (h : Outcome x w p) {a : α} (hx : x = .ok a) : p a := by
  subst hx; exact h.2

theorem not_decode (h : Outcome x w p) : x ≠ .error .decode := by
  rintro rfl; exact h.2 rfl

/- `bind` and `map` have the shape of the model's code.  They are stated for results of type
`List Name` so that their `match` is the very auxiliary the `process_*` functions use: two
different `match` auxiliaries are not unified, however alike. -/
theorem bind {x : Except Err (List Name)} {p : List Name → Prop} {f : List Name → Except Err β}
    (hx : Outcome x wx p) (hf : ∀ a, p a → Outcome (f a) w q) :
    Outcome (match x with | .error e => .error e | .ok a => f a) (wx && w) q := by
  cases x with
  | error e => exact ⟨by rw [hx.1]; rfl, hx.2⟩
  | ok a => rw [hx.1]; exact hf a hx.2

theorem map {x : Except Err (List Name)} {p : List Name → Prop} {g : List Name → β}
    (hx : Outcome x w p) (hg : ∀ a, p a → q (g a)) :
    Outcome (match x with | .error e => .error e | .ok a => .ok (g a)) w q := by
  cases x with
  | error e => exact hx
  | ok a => exact ⟨hx.1, hg a hx.2⟩

end Outcome

theorem extractName_some (pre : Name) (k : Kind) (n : Name) :
    extractName pre k (some n) = .ok (qual pre n) := by
  simp [extractName, qual, List.isEmpty_iff]

theorem processNames_outcome (pre : Name) (k : Kind) : ∀ l : List (Option Name),
    Outcome (processNames pre k l) (namesPresent l) fun ns =>
      ∀ n, n ∈ ns ↔ l.any (fun x => isName n (x.map (qual pre))) = true
  | [] => ⟨rfl, by simp⟩
  | none :: xs => ⟨rfl, by simp⟩
  | some x :: xs => by
    simp only [processNames, extractName_some]
    refine (processNames_outcome pre k xs).map fun ns h n => ?_
    simp [h, isName]

theorem processEnum_outcome (pre : Name) (e : EnumD) :
    Outcome (processEnum pre e) (EnumD.wellNamed e) fun ns => ∀ n, n ∈ ns ↔ declE pre e n = true := by
  unfold processEnum declE EnumD.wellNamed
  cases e.name with
  | none => exact ⟨rfl, by simp⟩
  | some en =>
    simp only [extractName_some]
    refine (processNames_outcome _ _ e.values).map fun ns h n => ?_
    simp [h]

theorem processEnums_outcome (pre : Name) : ∀ es : List EnumD,
    Outcome (processEnums pre es) (es.all EnumD.wellNamed) fun ns =>
      ∀ n, n ∈ ns ↔ es.any (fun e => declE pre e n) = true
  | [] => ⟨rfl, by simp⟩
  | e :: es => by
    simp only [processEnums]
    refine (processEnum_outcome pre e).bind fun a ha => ?_
    refine (processEnums_outcome pre es).map fun b hb n => ?_
    simp [ha, hb]

mutual
theorem processMsg_outcome : ∀ (pre : Name) (m : Msg),
    Outcome (processMsg pre m) (Msg.wellNamed m) fun ns => ∀ n, n ∈ ns ↔ declM pre m n = true
  | pre, .mk none _ _ _ _ => ⟨rfl, by simp⟩
  | pre, .mk (some mn) nested enums fields oneofs => by
    simp only [processMsg, extractName_some, Msg.wellNamed, Option.isSome_some, Bool.true_and,
      Bool.and_assoc]
    refine (processMsgs_outcome _ nested).bind fun a ha => ?_
    refine (processEnums_outcome _ enums).bind fun b hb => ?_
    refine (processNames_outcome _ .field fields).bind fun c hc => ?_
    refine (processNames_outcome _ .oneof oneofs).map fun d hd n => ?_
    simp only [declM, List.mem_cons, List.mem_append, Bool.or_eq_true, decide_eq_true_eq,
      ha, hb, hc, hd, or_assoc]
theorem processMsgs_outcome : ∀ (pre : Name) (ms : MsgList),
    Outcome (processMsgs pre ms) (MsgList.wellNamed ms) fun ns => ∀ n, n ∈ ns ↔ declL pre ms n = true
  | pre, .nil => ⟨rfl, by simp [declL]⟩
  | pre, .cons m ms => by
    simp only [processMsgs, MsgList.wellNamed]
    refine (processMsg_outcome pre m).bind fun a ha => ?_
    refine (processMsgs_outcome pre ms).map fun b hb n => ?_
    simp only [declL, List.mem_append, Bool.or_eq_true, ha, hb]
end

theorem processServices_outcome (pre : Name) : ∀ ss : List Service,
    Outcome (processServices pre ss) (ss.all Service.wellNamed) fun r =>
      (∀ n, n ∈ r.1 ↔ ss.any (fun s => declSvc pre s n) = true) ∧
        r.2 = ss.filterMap (fun s => s.name.map (qual pre))
  | [] => ⟨rfl, by simp, rfl⟩
  | s :: ss => by
    simp only [processServices, List.all_cons, Service.wellNamed, List.any_cons, List.filterMap_cons]
    cases hn : s.name with
    | none => exact ⟨rfl, by simp⟩
    | some sn =>
      simp only [extractName_some, Option.isSome_some, Bool.true_and, Option.map_some]
      refine (processNames_outcome _ .method s.methods).bind fun ms hms => ?_
      -- the result is a pair, so `Outcome.map` (stated for `List Name`) does not apply: by cases
      have ih := processServices_outcome pre ss
      generalize processServices pre ss = x at ih ⊢
      cases x with
      | error e => exact ih
      | ok r =>
        refine ⟨ih.1, fun n => ?_, by rw [ih.2.2]⟩
        simp only [declSvc.eq_1 pre s, hn, List.mem_cons, List.mem_append, Bool.or_eq_true,
          decide_eq_true_eq, hms, ih.2.1, or_assoc]

theorem processFile_outcome (f : File) :
    Outcome (processFile f) (File.wellNamedBody f) fun r =>
      (∀ n, n ∈ r.1 ↔ Declares f n) ∧ r.2 = serviceNames f := by
  simp only [processFile, File.wellNamedBody, Bool.and_assoc]
  refine (processMsgs_outcome _ f.messages).bind fun a ha => ?_
  refine (processEnums_outcome _ f.enums).bind fun b hb => ?_
  have hc := processServices_outcome (f.package.getD []) f.services
  generalize processServices (f.package.getD []) f.services = x at hc ⊢
  cases x with
  | error e => exact hc
  | ok r =>
    refine ⟨hc.1, fun n => ?_, hc.2.2⟩
    simp only [← declares_iff, declares, pkg, List.mem_append, Bool.or_eq_true, ha, hb, hc.2.1,
      or_assoc]

theorem processMsg_isOk : ∀ (pre : Name) (m : Msg), isOk (processMsg pre m) = Msg.wellNamed m :=
  fun pre m => (processMsg_outcome pre m).isOk_eq

theorem processMsg_not_decode
    (hnames : ∀ (pre : Name) (k : Kind) (l : List (Option Name)), processNames pre k l ≠ .error .decode)
    (henums : ∀ (pre : Name) (es : List EnumD), processEnums pre es ≠ .error .decode) :
    ∀ (m : Msg) (pre : Name), processMsg pre m ≠ .error .decode :=
  -- neither hypothesis is used: `processMsg_outcome` covers fields, oneofs and enums as well
  fun m pre => (processMsg_outcome pre m).not_decode

theorem servedFrom_append : ∀ (a b earlier : List File),
    servedFrom earlier (a ++ b) = servedFrom earlier a ++ servedFrom (earlier ++ a) b
  | [], b, earlier => by simp [servedFrom]
  | x :: a, b, earlier => by
    simp only [List.cons_append, servedFrom, servedFrom_append a b, List.append_assoc]
    split <;> rfl

theorem mem_servedFrom {g : File} : ∀ {fs done : List File},
    g ∈ servedFrom done fs ↔
      (∀ d ∈ done, d.name ≠ g.name) ∧ fs.find? (fun x => decide (x.name = g.name)) = some g
  | [], done => by simp [servedFrom]
  | f :: fs, done => by
    -- `g` is served as `f` itself, when no earlier file has that name, or from `fs` behind `f`;
    -- if `f` has `g`'s name only the first can be, since `f` shadows `fs`; if not, only the second
    have step : g ∈ servedFrom done (f :: fs) ↔
        (g = f ∧ done.any (fun d => decide (d.name = f.name)) = false) ∨
          g ∈ servedFrom (done ++ [f]) fs := by
      rw [servedFrom]
      cases done.any fun d => decide (d.name = f.name)
      · exact List.mem_cons.trans (or_congr_left (and_iff_left rfl).symm)
      · exact (or_iff_right fun h => nomatch h.2).symm
    rw [step, mem_servedFrom, List.find?_cons]
    simp only [List.any_eq_false, decide_eq_true_eq, List.mem_append, List.mem_singleton, or_imp,
      forall_and, forall_eq]
    by_cases hfg : f.name = g.name
    · simp only [hfg, decide_true, ne_eq, not_true_eq_false, and_false, false_and, or_false,
        Option.some.injEq]
      exact and_comm.trans (and_congr_right' eq_comm)
    · have hne : g ≠ f := fun h => hfg (by rw [h])
      simp only [hfg, hne, decide_false, false_and, false_or, ne_eq, not_false_eq_true, and_true]

theorem mem_served {g : File} {fs : List File} :
    g ∈ served fs ↔ fs.find? (fun x => decide (x.name = g.name)) = some g :=
  mem_servedFrom.trans (and_iff_right nofun)

theorem served_concat (done : List File) (f : File) :
    served (done ++ [f]) =
      served done ++ if done.any (fun g => decide (g.name = f.name)) then [] else [f] := by
  simp only [served, servedFrom_append, List.nil_append, servedFrom]

theorem served_subset {fs : List File} {f : File} (h : f ∈ served fs) : f ∈ fs :=
  List.mem_of_find?_eq_some (mem_served.mp h)

theorem servedFrom_names_distinct : ∀ (fs done : List File),
    List.Pairwise (fun a b : File => a.name ≠ b.name) (servedFrom done fs)
  | [], _ => by simp [servedFrom]
  | f :: fs, done => by
    simp only [servedFrom]
    split
    · exact servedFrom_names_distinct fs _
    · refine List.pairwise_cons.mpr ⟨fun g hg => ?_, servedFrom_names_distinct fs _⟩
      exact (mem_servedFrom.mp hg).1 f (by simp)

theorem served_nodup (l : List File) : (served l).Nodup :=
  (servedFrom_names_distinct l []).imp (fun h e => h (by rw [e]))

theorem find?_of_mem {p : File → Bool} {l : List File} {x : File} (hx : x ∈ l) (hp : p x = true) :
    ∃ y, l.find? p = some y :=
  Option.isSome_iff_exists.mp (List.find?_isSome.mpr ⟨x, hx, hp⟩)

theorem mem_served_of_unconflicted {l : List File} (hu : ∀ f ∈ l, Unconflicted l f) {a : File} :
    a ∈ served l ↔ a ∈ l := by
  rw [mem_served]
  constructor
  · exact List.mem_of_find?_eq_some
  · intro ha
    obtain ⟨g, hg⟩ := find?_of_mem (p := fun x => decide (x.name = a.name)) ha (decide_eq_true rfl)
    rw [hg, hu a ha g (List.mem_of_find?_eq_some hg) (by simpa using List.find?_some hg)]

theorem served_perm {l₁ l₂ : List File} (hp : l₁.Perm l₂) (hu : ∀ f ∈ l₂, Unconflicted l₂ f) :
    (served l₁).Perm (served l₂) := by
  have hu1 : ∀ f ∈ l₁, Unconflicted l₁ f := fun f hf g hg hn =>
    hu f (hp.mem_iff.mp hf) g (hp.mem_iff.mp hg) hn
  rw [List.perm_ext_iff_of_nodup (served_nodup l₁) (served_nodup l₂)]
  intro a
  rw [mem_served_of_unconflicted hu1, mem_served_of_unconflicted hu, hp.mem_iff]

theorem assoc_append (k : Name) (a m : List (Name × File)) :
    assoc k (a ++ m) = (assoc k a).or (assoc k m) := by
  induction a with
  | nil => simp [assoc]
  | cons p a ih =>
    obtain ⟨k', v⟩ := p
    by_cases h : k = k' <;> simp [assoc, h, ih]

theorem assoc_insertAll (k : Name) (f : File) : ∀ (ns : List Name) (m : List (Name × File)),
    assoc k (insertAll f ns m) = if k ∈ ns then some f else assoc k m
  | [], m => by simp [insertAll]
  | n :: ns, m => by
    have : insertAll f (n :: ns) m = insertAll f ns ((n, f) :: m) := by simp [insertAll]
    rw [this, assoc_insertAll k f ns, assoc]
    by_cases h' : k ∈ ns
    · rw [if_pos h', if_pos (List.mem_cons_of_mem n h')]
    · by_cases h : k = n
      · rw [if_neg h', if_pos h, if_pos (h ▸ List.mem_cons_self)]
      · rw [if_neg h', if_neg h, if_neg (fun hm => (List.mem_cons.mp hm).elim h h')]

/-- What `ReflectionServiceState::new`'s loop, started with the service names `sn`, has built once
it has examined the files `done`: the file map holds the first file of every name, a symbol
resolves to the served file inserted last among those declaring it, and the service list has
grown by the services of the served files (when no names were chosen). -/
structure Built (useAll : Bool) (sn : List Name) (done : List File) (st : State) : Prop where
  /-- the loop stops with an error at a file that has no name -/
  named : ∀ g ∈ done, g.name.isSome = true
  files_eq : ∀ nm, assoc nm st.files = done.find? (fun g => decide (g.name = some nm))
  symbols_eq : ∀ n, assoc n st.symbols = (served done).reverse.find? (fun f => declares f n)
  services_eq : st.serviceNames = sn ++ if useAll then (served done).flatMap serviceNames else []

theorem built_init (useAll : Bool) (sn : List Name) :
    Built useAll sn [] { serviceNames := sn, files := [], symbols := [] } :=
  ⟨nofun, fun _ => rfl, fun _ => rfl, by cases useAll <;> exact (List.append_nil sn).symm⟩

section
variable {useAll : Bool} {sn : List Name} {done : List File} {st : State}

theorem Built.any_name (hb : Built useAll sn done st) (nm : Name) :
    done.any (fun g => decide (g.name = some nm)) = (assoc nm st.files).isSome := by
  rw [hb.files_eq, List.isSome_find?]

theorem Built.mem_served (hb : Built useAll sn done st) {f : File} :
    f ∈ served done ↔ ∃ nm, f.name = some nm ∧ assoc nm st.files = some f := by
  constructor
  · intro hf
    obtain ⟨nm, hn⟩ := Option.isSome_iff_exists.mp (hb.named f (served_subset hf))
    exact ⟨nm, hn, by rw [hb.files_eq, ← hn]; exact Reflection.mem_served.mp hf⟩
  · rintro ⟨nm, hn, ha⟩
    rw [hb.files_eq, ← hn] at ha
    exact Reflection.mem_served.mpr ha

theorem Built.named_concat {f : File} {nm : Name} (hb : Built useAll sn done st)
    (hn : f.name = some nm) : ∀ g ∈ done ++ [f], g.name.isSome = true := by
  simp only [List.mem_append, List.mem_singleton]
  rintro g (hg | rfl)
  · exact hb.named g hg
  · rw [hn]; rfl

theorem Built.skip {f : File} {nm : Name} (hb : Built useAll sn done st) (hn : f.name = some nm)
    (hc : (assoc nm st.files).isSome = true) : Built useAll sn (done ++ [f]) st := by
  have hs : served (done ++ [f]) = served done := by
    rw [served_concat, hn, hb.any_name, hc, if_pos rfl, List.append_nil]
  refine ⟨hb.named_concat hn, fun nm' => ?_, hs ▸ hb.symbols_eq, hs ▸ hb.services_eq⟩
  rw [List.find?_append, ← hb.files_eq, List.find?_singleton, hn]
  by_cases h : nm = nm'
  · subst h
    obtain ⟨g, hg⟩ := Option.isSome_iff_exists.mp hc
    rw [hg]; rfl
  · simp [h]

theorem Built.add {f : File} {nm : Name} {syms svcs : List Name}
    (hb : Built useAll sn done st) (hn : f.name = some nm)
    (hc : assoc nm st.files = none) (hsyms : ∀ n, n ∈ syms ↔ Declares f n)
    (hsvcs : svcs = serviceNames f) :
    Built useAll sn (done ++ [f])
      { serviceNames := if useAll then st.serviceNames ++ svcs else st.serviceNames
        files := (nm, f) :: st.files
        symbols := insertAll f syms st.symbols } := by
  have hs : served (done ++ [f]) = served done ++ [f] := by
    rw [served_concat, hn, hb.any_name, hc]; rfl
  refine ⟨hb.named_concat hn, fun nm' => ?_, fun n => ?_, ?_⟩
  · rw [List.find?_append, ← hb.files_eq, List.find?_singleton, hn]
    by_cases h : nm = nm'
    · subst h
      simp [assoc, hc]
    · simp [assoc, h, Ne.symm h]
  · rw [hs, List.reverse_append, assoc_insertAll, hb.symbols_eq]
    simp only [hsyms, ← declares_iff, List.reverse_singleton, List.singleton_append, List.find?_cons]
    cases declares f n <;> rfl
  · rw [hs, List.flatMap_append, hb.services_eq, hsvcs]
    cases useAll <;> simp

theorem addFiles_outcome {useAll : Bool} {sn : List Name} : ∀ (fs done : List File) (st : State),
    Built useAll sn done st →
    Outcome (addFiles useAll fs st) ((servedFrom done fs).all File.wellNamed)
      (Built useAll sn (done ++ fs))
  | [], done, st, hb => ⟨rfl, by rwa [List.append_nil]⟩
  | f :: fs, done, st, hb => by
    simp only [addFiles, servedFrom]
    cases hn : f.name with
    | none =>
      have hany : done.any (fun g => decide (g.name = none)) = false :=
        List.any_eq_false.mpr fun g hg h => by simpa [of_decide_eq_true h] using hb.named g hg
      simp only [hany, Bool.false_eq_true, if_false, List.all_cons, File.wellNamed, hn]
      exact ⟨rfl, nofun⟩
    | some nm =>
      simp only [hb.any_name]
      by_cases hc : (assoc nm st.files).isSome = true
      · simp only [hc, if_true]
        have := addFiles_outcome fs (done ++ [f]) st (hb.skip hn hc)
        rwa [List.append_assoc] at this
      · simp only [hc, Bool.false_eq_true, if_false, List.all_cons, File.wellNamed, hn,
          Option.isSome_some, Bool.true_and]
        have hp := processFile_outcome f
        generalize processFile f = x at hp ⊢
        cases x with
        | error e => exact ⟨by rw [hp.1]; rfl, hp.2⟩
        | ok r =>
          rw [hp.1]
          have := addFiles_outcome fs (done ++ [f]) _ (hb.add hn (by simpa using hc) hp.2.1 hp.2.2)
          rwa [List.append_assoc] at this

/-- What examining further files `o` leaves as it was; in use `o` is the own descriptor set, which
comes last (`procFiles_with_own`). -/
theorem Built.extend {o : List File} {st0 st1 : State} (h0 : Built useAll sn done st0) (h1 : Built useAll sn (done ++ o) st1) :
    (∀ nm, (∀ g ∈ o, g.name ≠ some nm) → assoc nm st1.files = assoc nm st0.files) ∧
    (∀ n, (∀ g ∈ o, ¬ Declares g n) → assoc n st1.symbols = assoc n st0.symbols) ∧
    st1.serviceNames = st0.serviceNames ++
      if useAll then (servedFrom done o).flatMap serviceNames else [] := by
  have hs : served (done ++ o) = served done ++ servedFrom done o := servedFrom_append done o []
  refine ⟨fun nm hno => ?_, fun n hno => ?_, ?_⟩
  · rw [h1.files_eq, h0.files_eq, List.find?_append]
    have : o.find? (fun g => decide (g.name = some nm)) = none :=
      List.find?_eq_none.mpr fun g hg h => hno g hg (of_decide_eq_true h)
    rw [this, Option.or_none]
  · rw [h1.symbols_eq, h0.symbols_eq, hs, List.reverse_append, List.find?_append]
    have : (servedFrom done o).reverse.find? (fun f => declares f n) = none :=
      List.find?_eq_none.mpr fun g hg h =>
        hno g (List.mem_of_find?_eq_some (mem_servedFrom.mp (List.mem_reverse.mp hg)).2)
          (declares_iff.mp h)
    rw [this, Option.none_or]
  · rw [h1.services_eq, h0.services_eq, hs, List.flatMap_append]
    cases useAll <;> simp

end

theorem decodedSets_eq : ∀ regs : List Reg,
    decodedSets regs = (regs.filter Reg.isDecoded).map Reg.files
  | [] => rfl
  | .decoded fs :: rs => by
    rw [decodedSets, decodedSets_eq rs, List.filter_cons_of_pos rfl, List.map_cons, Reg.files]
  | .encoded _ :: rs => by
    rw [decodedSets, decodedSets_eq rs, List.filter_cons_of_neg (by simp [Reg.isDecoded])]

theorem decodeAll_eq : ∀ regs : List Reg,
    decodeAll regs = if regs.all Reg.decodable = true
      then .ok ((regs.filter (fun r => !r.isDecoded)).map Reg.files) else .error .decode
  | [] => rfl
  | .decoded fs :: rs => by
    rw [decodeAll, decodeAll_eq rs, List.filter_cons_of_neg (by simp [Reg.isDecoded])]
    rfl
  | .encoded none :: rs => rfl
  | .encoded (some fs) :: rs => by
    rw [decodeAll, decodeAll_eq rs, List.filter_cons_of_pos (by simp [Reg.isDecoded])]
    simp only [List.all_cons, Reg.decodable, Bool.true_and]
    by_cases h : rs.all Reg.decodable = true
    · rw [if_pos h, if_pos h]; rfl
    · rw [if_neg h, if_neg h]

theorem build_eq (c : Config) :
    build c =
      if c.decodable = true then
        addFiles c.chosen.isNone c.procFiles
          { serviceNames := c.chosen.getD [], files := [], symbols := [] }
      else .error .decode := by
  rw [build, decodeAll_eq, decodedSets_eq, Config.decodable]
  by_cases h : c.allRegs.all Reg.decodable = true
  · rw [if_pos h, if_pos h]
    simp only [List.flatten_append, Config.procFiles]
  · rw [if_neg h, if_neg h]

theorem build_outcome {c : Config} (hd : c.decodable = true) :
    Outcome (build c) ((served c.procFiles).all File.wellNamed)
      (Built c.chosen.isNone (c.chosen.getD []) c.procFiles) := by
  rw [build_eq, if_pos hd]
  exact addFiles_outcome c.procFiles [] _ (built_init _ _)

theorem build_ok {c : Config} {st : State} (h : build c = .ok st) :
    c.decodable = true ∧ Built c.chosen.isNone (c.chosen.getD []) c.procFiles st := by
  by_cases hd : c.decodable = true
  · exact ⟨hd, (build_outcome hd).post h⟩
  · rw [build_eq, if_neg hd] at h
    cases h

/-- Only `served`, not all of `procFiles`: a file whose name is taken is skipped (`continue` in
`ReflectionServiceState::new`) and its contents are never looked at. -/
theorem build_isOk_iff (c : Config) :
    (∃ st, build c = .ok st) ↔
      (c.decodable = true ∧ ∀ f ∈ served c.procFiles, File.wellNamed f = true) := by
  rw [← isOk_iff]
  by_cases hd : c.decodable = true
  · rw [(build_outcome hd).isOk_eq, List.all_eq_true]
    exact (and_iff_right hd).symm
  · rw [build_eq, if_neg hd]
    exact ⟨nofun, fun h => absurd h.1 hd⟩

theorem procFiles_perm (c : Config) : c.procFiles.Perm c.files := by
  unfold Config.procFiles Config.files
  rw [← List.flatten_append, ← List.map_append]
  exact ((List.filter_append_perm Reg.isDecoded c.allRegs).map Reg.files).flatten

theorem mem_procFiles {c : Config} {f : File} : f ∈ c.procFiles ↔ f ∈ c.files :=
  (procFiles_perm c).mem_iff

theorem procFiles_with_own (c : Config) (o : List File) :
    ({ c with own := some o } : Config).procFiles = ({ c with own := none } : Config).procFiles ++ o := by
  simp [Config.procFiles, Config.allRegs, List.filter_append, Reg.isDecoded, Reg.files]

theorem decodable_with_own (c : Config) (o : List File) :
    ({ c with own := some o } : Config).decodable = ({ c with own := none } : Config).decodable := by
  simp [Config.decodable, Config.allRegs, Reg.decodable]

/-- The own descriptor set is examined last, so the files served without it are a prefix of
those served with it. -/
theorem build_without_own (c : Config) (o : List File) (s1 : State)
    (h1 : build { c with own := some o } = .ok s1) : ∃ s0, build { c with own := none } = .ok s0 := by
  obtain ⟨hd, hw⟩ := (build_isOk_iff _).mp ⟨s1, h1⟩
  rw [procFiles_with_own, served, servedFrom_append] at hw
  exact (build_isOk_iff _).mpr
    ⟨decodable_with_own c o ▸ hd, fun f hf => hw f (List.mem_append_left _ hf)⟩

theorem runStream_cons_ok {st : State} {r : Request} {a : Answer}
    (h : respond st r.messageRequest = .ok a) (rs : List Request) :
    runStream st (r :: rs) =
      ({ validHost := r.host, originalRequest := r, answer := a } :: (runStream st rs).1,
        (runStream st rs).2) := by
  rw [runStream, h]

theorem runStream_cons_error {st : State} {r : Request} {e : Code}
    (h : respond st r.messageRequest = .error e) (rs : List Request) :
    runStream st (r :: rs) = ([], some e) := by
  rw [runStream, h]

end Reflection
