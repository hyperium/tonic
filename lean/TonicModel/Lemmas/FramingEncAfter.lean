import TonicModel.Lemmas.FramingEnc
/-
A client request body polled again after it has reported an error: `run_client` leaves those polls
unconstrained (`∃ post`); here they are determined.  After the error the body is in its initial state
again (empty buffer, no latched error, not ended), so `post` is the run of a fresh body over the source
events not yet consumed.  (hyper does not poll a body again after an error; the statement is about the
model.)
-/
namespace Framing
variable {α : Type}

theorem loop_suffix (cd : Codec α) (cfg : EncCfg) (evs : List (SrcEv α)) : ∀ (buf : Bytes),
    ∃ l, evs = l ++ (Enc.loop cd cfg buf evs).2.1 := by
  induction evs with
  | nil => intro buf; rw [Enc.loop]; split <;> exact ⟨[], rfl⟩
  | cons ev rest ih =>
    intro buf
    cases ev with
    | pending => rw [Enc.loop]; split <;> exact ⟨[.pending], rfl⟩
    | err st => rw [Enc.loop]; split <;> exact ⟨[.err st], rfl⟩
    | item m =>
      rw [loop_item]
      cases encodeErr cd cfg m with
      | some st => dsimp only; split <;> exact ⟨[.item m], rfl⟩
      | none =>
        dsimp only
        split
        · exact ⟨[.item m], rfl⟩
        · obtain ⟨l, hl⟩ := ih (buf ++ frameOf cd cfg m)
          exact ⟨.item m :: l, by rw [List.cons_append, ← hl]⟩

theorem pollFrame_client_step (cd : Codec α) (cfg : EncCfg) (hs : cfg.server = false) (b : BodySt)
    (evs : List (SrcEv α)) (hb : b.isEndStream = false) (hbuf : b.inner.buf = []) :
    (Enc.pollFrame cd cfg b evs).1.isEndStream = false ∧ (Enc.pollFrame cd cfg b evs).1.inner.buf = [] ∧
    (∃ l, evs = l ++ (Enc.pollFrame cd cfg b evs).2.1) ∧
    (∀ st, (Enc.pollFrame cd cfg b evs).2.2 = .err st → (Enc.pollFrame cd cfg b evs).1.inner.error = none) := by
  unfold Enc.pollFrame
  simp only [hb, Bool.false_eq_true, ↓reduceIte]
  unfold Enc.pollNext
  cases he : b.inner.error with
  | some st0 =>
    simp only [hs, Bool.false_eq_true, ↓reduceIte]
    exact ⟨trivial, hbuf, ⟨[], rfl⟩, fun _ _ => trivial⟩
  | none =>
    dsimp only
    have hg := loop_good cd cfg evs b.inner.buf
    have hsuf := loop_suffix cd cfg evs b.inner.buf
    generalize Enc.loop cd cfg b.inner.buf evs = r at hg hsuf
    obtain ⟨s', evs', o⟩ := r
    obtain ⟨hbuf', _, hcase⟩ := hg
    dsimp only at hbuf' hcase hsuf
    cases o with
    | panic => exact hcase.elim
    | err st =>
      simp only [hs, Bool.false_eq_true, ↓reduceIte]
      exact ⟨trivial, hbuf', hsuf, fun _ _ => hcase.2.1⟩
    | _ => simp [hs, hbuf', hsuf]

theorem run_client_err_resumes (cd : Codec α) (cfg : EncCfg) (hs : cfg.server = false) (n : Nat) (b : BodySt)
    (evs : List (SrcEv α)) (hb : b.isEndStream = false) (hbuf : b.inner.buf = [])
    (pre post : List FrameOut) (st : St) (h : Enc.run cd cfg n b evs = pre ++ .err st :: post) :
    ∃ done rest, evs = done ++ rest ∧ post = Enc.run cd cfg (n - pre.length - 1) Enc.init rest := by
  induction n generalizing b evs pre with
  | zero => simp [Enc.run] at h
  | succ k ih =>
    obtain ⟨s1, s2, ⟨l, hl⟩, s4⟩ := pollFrame_client_step cd cfg hs b evs hb hbuf
    simp only [Enc.run] at h
    generalize Enc.pollFrame cd cfg b evs = r at h s1 s2 hl s4
    obtain ⟨b', evs', o⟩ := r
    dsimp only at h s1 s2 hl s4
    cases pre with
    | nil =>
      -- the poll that reports the error: it leaves the initial state
      obtain ⟨rfl, rfl⟩ := List.cons.inj h
      have herr := s4 st rfl
      obtain ⟨⟨bb, be⟩, bf⟩ := b'
      dsimp only at s1 s2 herr
      subst s1 s2 herr
      exact ⟨l, evs', hl, rfl⟩
    | cons x pre =>
      obtain ⟨done, rest, hev, hpost⟩ := ih b' evs' s1 s2 pre (List.cons.inj h).2
      exact ⟨l ++ done, rest, by rw [List.append_assoc, ← hev]; exact hl, by simpa using hpost⟩

end Framing
