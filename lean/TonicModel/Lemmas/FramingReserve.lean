import TonicModel.Model.FramingReserve
/-
The traced `decode_chunk` (`Dec.decodeChunkT`) projects onto the transition function the rest of the
development uses (`Dec.decodeChunk`) and onto the reservation function (`Dec.chunkReserve`).
-/
namespace Framing
variable {α : Type}

theorem decodeChunkT_eq (cd : Codec α) (cfg : DecCfg) (s : DecSt) :
    Dec.decodeChunkT cd cfg s = (Dec.decodeChunk cd cfg s, Dec.chunkReserve cfg s) := by
  unfold Dec.decodeChunkT Dec.decodeChunk Dec.chunkReserve
  cases s.ph with
  | failed o => rfl
  | body l c => rfl
  | hdr =>
    match s.buf with
    | [] | [_] | [_, _] | [_, _, _] | [_, _, _, _] => rfl
    | f :: a :: b :: c :: d :: rest =>
      dsimp only
      by_cases h0 : f = 0
      · by_cases hl : readU32 a b c d > cfg.limit <;> simp [h0, hl, Nat.le_of_not_gt]
      · by_cases h1 : f = 1
        · cases cfg.enc with
          | none => simp [h1]
          | some e => by_cases hl : readU32 a b c d > cfg.limit <;> simp [h1, hl, Nat.le_of_not_gt]
        · simp [h0, h1]

theorem decodeChunkT_fst (cd : Codec α) (cfg : DecCfg) (s : DecSt) :
    (Dec.decodeChunkT cd cfg s).1 = Dec.decodeChunk cd cfg s := by
  rw [decodeChunkT_eq]

theorem decodeChunkT_snd (cd : Codec α) (cfg : DecCfg) (s : DecSt) :
    (Dec.decodeChunkT cd cfg s).2 = Dec.chunkReserve cfg s := by
  rw [decodeChunkT_eq]
end Framing
