import TonicModel.Lemmas.FramingWire
import TonicModel.Model.FramingReserve
/-
The size limit of the decoder (C06): the `buf.reserve(len)` of `decode_chunk` as a function of the
state (`Dec.chunkReserve`) — never over the limit, and the only way into the `body` phase — and the
reference decoder's reading of one more frame header behind valid frames.
-/
namespace Framing
open Spec.Framing
variable {α : Type}

theorem decodeChunk_prefix (cd : Codec α) (cfg : DecCfg) (f a b c d : UInt8) (rest : Bytes) (tr : Option Tr) :
    Dec.decodeChunk cd cfg ⟨f :: a :: b :: c :: d :: rest, .hdr, tr⟩ =
      if FlagOk cfg f then
        if readU32 a b c d > cfg.limit then (⟨rest, .hdr, tr⟩, .fail ⟨11, .tooLargeDec⟩)
        else Dec.readBody cd ⟨rest, .hdr, tr⟩ (readU32 a b c d) (if f == 1 then cfg.enc else none)
      else (⟨a :: b :: c :: d :: rest, .hdr, tr⟩, .fail ⟨13, if f = 1 then .noEncoding else .badFlag⟩) := by
  have h := decodeChunk_cons5 cd cfg f a b c d rest tr
  rw [header_verdict] at h
  by_cases hf : FlagOk cfg f
  · by_cases hover : readU32 a b c d > cfg.limit
    · rw [if_pos hf, if_pos hover] at h ⊢
      exact h
    · rw [if_pos hf, if_neg hover] at h ⊢
      exact h
  · rw [if_neg hf] at h ⊢
    rw [h]
    by_cases h1 : f = 1 <;> simp [h1, stOfBad]

/-- a payload problem is never a size problem -/
theorem payload_error {p : Recv α} {len : Nat} {c : Bool} {bs : Bytes} {stop : Stop}
    (h : Spec.Framing.payload p len c bs = .error stop) :
    stop = .incomplete ∨ stop = .bad .decompress ∨ stop = .bad .codec := by
  unfold Spec.Framing.payload at h
  split at h
  · cases h; exact Or.inl rfl
  · split at h
    · cases h; exact Or.inr (Or.inl rfl)
    · split at h
      · cases h; exact Or.inr (Or.inr rfl)
      · cases h

theorem readBody_not_tooLarge (cd : Codec α) (cfg : DecCfg) (s : DecSt) (len : Nat) (comp : Option Enc)
    (hc : comp = none ∨ comp = cfg.enc) : (Dec.readBody cd s len comp).2 ≠ .fail ⟨11, .tooLargeDec⟩ := by
  rcases readBody_cases cd cfg s len comp hc with ⟨_, h⟩ | ⟨m, _, h⟩ | ⟨b, hp, h, _⟩
  · rw [h]; exact fun e => nomatch e
  · rw [h]; exact fun e => nomatch e
  · rw [h]
    rcases payload_error hp with e | e | e
    · cases e
    · cases e; simp [stOfBad]
    · cases e; simp [stOfBad]

theorem chunkReserve_cons5 (cfg : DecCfg) (f a b c d : UInt8) (rest : Bytes) (tr : Option Tr) :
    Dec.chunkReserve cfg ⟨f :: a :: b :: c :: d :: rest, .hdr, tr⟩ =
      if FlagOk cfg f ∧ readU32 a b c d ≤ cfg.limit then some (readU32 a b c d) else none := rfl

theorem chunkReserve_le (cfg : DecCfg) (s : DecSt) (r : Nat) (h : Dec.chunkReserve cfg s = some r) :
    r ≤ cfg.limit := by
  unfold Dec.chunkReserve at h
  split at h
  · split at h
    · rename_i hc
      cases h
      exact hc.2
    · cases h
  · cases h

/-- For a call with result `r` that reserved `res`: the `ReadBody` state and the decoding of a payload
are reached from `ReadHeader` only through the reservation. -/
def ReserveOk (r : DecSt × DC α) (res : Option Nat) : Prop :=
  (∀ len comp, r.1.ph = .body len comp → res = some len) ∧
  (∀ m, r.2 = .item m → ∃ len, res = some len) ∧
  (res = none → r.1.ph = .hdr ∧ ∀ m, r.2 ≠ .item m)

theorem reserveOk_idle {s' : DecSt} {r : DC α} (res : Option Nat) (hs : s'.ph = .hdr) (hr : ∀ m, r ≠ .item m) :
    ReserveOk (s', r) res :=
  ⟨fun len comp h => (by rw [hs] at h; cases h), fun m h => absurd h (hr m), fun _ => ⟨hs, hr⟩⟩

theorem decodeChunk_reserve (cd : Codec α) (cfg : DecCfg) (s : DecSt) (hph : s.ph = .hdr) :
    ReserveOk (Dec.decodeChunk cd cfg s) (Dec.chunkReserve cfg s) := by
  obtain ⟨buf, ph, tr⟩ := s
  dsimp only at hph
  subst hph
  rcases lt5_or_cons5 buf with hs | ⟨f, a, b, c, d, rest, rfl⟩
  · rw [decodeChunk_short cd cfg tr hs]
    exact reserveOk_idle _ rfl (fun _ h => nomatch h)
  · rw [decodeChunk_prefix]
    by_cases hf : FlagOk cfg f
    · by_cases hfit : readU32 a b c d ≤ cfg.limit
      · rw [if_pos hf, if_neg (Nat.not_lt.mpr hfit), chunkReserve_cons5, if_pos (And.intro hf hfit)]
        refine ⟨fun len comp' h => ?_, fun _ _ => ⟨_, rfl⟩, fun h => nomatch h⟩
        rcases readBody_cases cd cfg ⟨rest, .hdr, tr⟩ (readU32 a b c d) (if f == 1 then cfg.enc else none)
            (by split <;> simp) with ⟨_, e⟩ | ⟨m, _, e⟩ | ⟨_, _, _, _, e⟩
        · rw [e] at h; cases h; rfl
        · rw [e] at h; cases h
        · rw [e] at h; cases h; rfl
      · rw [if_pos hf, if_pos (Nat.not_le.mp hfit)]
        exact reserveOk_idle _ rfl (fun _ h => nomatch h)
    · rw [if_neg hf]
      exact reserveOk_idle _ rfl (fun _ h => nomatch h)

theorem batch_header (cd : Codec α) (cfg : DecCfg) (f : UInt8) (len : Nat) (rest : Bytes)
    (hf : FlagOk cfg f) (h32 : len < 4294967296) :
    batch (recvOf cd cfg) (f :: (u32be len ++ rest)) =
      if len > cfg.limit then ([], .bad .tooLarge) else batchBody (recvOf cd cfg) len (f == 1) rest := by
  simp only [u32be, List.cons_append, List.nil_append]
  rw [batch_cons5, be32_u32 len h32, header_of_flagOk cd cfg f len hf]
  by_cases hl : len > cfg.limit <;> simp [hl]

theorem batchBody_nil_stop {p : Recv α} {len : Nat} {c : Bool} {bs : Bytes} {stop : Stop}
    (h : batchBody p len c bs = ([], stop)) :
    stop = .incomplete ∨ stop = .bad .decompress ∨ stop = .bad .codec := by
  unfold batchBody at h
  cases hp : Spec.Framing.payload p len c bs with
  | ok m => rw [hp] at h; cases h
  | error st =>
    rw [hp] at h
    cases h
    exact payload_error hp

/-- without a `grpc-status`, `infer_grpc_status` speaks for the HTTP status only: every leaf of its
chain of tests is `none` or a status of class `http` (walked leaf by leaf; splitting the whole chain
at once is slow to check) -/
theorem inferStatus_none_cls (http : Nat) (st : St) (h : inferStatus none http = some st) : st.cls = .http := by
  have ite : ∀ (c : Prop) [Decidable c] (a b : Option St), (∀ st, a = some st → st.cls = .http) →
      (∀ st, b = some st → st.cls = .http) → ∀ st, (if c then a else b) = some st → st.cls = .http := by
    intro c _ a b ha hb st
    split
    · exact ha st
    · exact hb st
  have leaf : ∀ n st, some (⟨n, .http⟩ : St) = some st → st.cls = .http := by
    intro n st h; cases h; rfl
  exact ite _ _ _ (fun _ h => by cases h) (ite _ _ _ (leaf 13) (ite _ _ _ (leaf 16) (ite _ _ _ (leaf 7)
    (ite _ _ _ (leaf 12) (ite _ _ _ (leaf 14) (leaf 2)))))) st h

theorem respTr_none_cls (cfg : DecCfg) (st : St) (h : respTr cfg none = some st) : st.cls = .http := by
  unfold respTr at h
  cases hd : cfg.dir with
  | response http => rw [hd] at h; exact inferStatus_none_cls http st h
  | request => rw [hd] at h; cases h
  | empty => rw [hd] at h; cases h

theorem plainTail_tooLarge (cd : Codec α) (cfg : DecCfg) (stop : Stop) (hb : Bytes)
    (h : plainTail cd cfg none stop hb = some ⟨11, .tooLargeDec⟩) : stop = .bad .tooLarge := by
  cases stop with
  | clean =>
    have := respTr_none_cls cfg _ (by simpa [plainTail] using h)
    cases this
  | incomplete =>
    simp only [plainTail] at h
    split at h
    · have := respTr_none_cls cfg _ h
      cases this
    · cases h
  | bad b => cases b <;> simp [plainTail, stOfBad] at h ⊢

end Framing
