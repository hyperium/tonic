import TonicModel.Model.WebClientHints
import TonicModel.Lemmas.WebClient
/-
The hinted run of the grpc-web client loop (`Model/WebClientHints`): the hints are invisible in the
frames, the repaired `size_hint` claims no bounds, a consumer that honours `is_end_stream` loses
nothing.  (The end-of-stream hint itself: `Lemmas/WebClientHintsGen`.)
-/
namespace WebClientHintsLemmas
open WebClient WebClient.Hints WebClient.Fixed WebClientLemmas
open WebServer (BodyEv Out)

theorem map_snd_pair (h : Hint) (os : List Out) : (os.map (fun o => (h, o))).map Prod.snd = os := by
  induction os with
  | nil => rfl
  | cons o r ih => simp [ih]

theorem drainH_frames (hf : HintFn) (f : Nat) (st : St) (h : Hint) :
    (drainH hf f st h).map Prod.snd = drain f st := by
  fun_induction drainH hf f st h with
  | case1 => rfl
  | case2 f st h os hs => rw [drain, hs]; exact map_snd_pair h os
  | case3 f st h o st' hs ih => rw [drain, hs, List.map_cons, ih]
  | case4 f st h st' hs ih => rw [drain, hs, ih]

theorem runH_frames (hf : HintFn) (evs : List BodyEv) (st : St) (h : Hint) :
    (runH hf st evs h).map Prod.snd = run st evs := by
  fun_induction runH hf st evs h with
  | case1 => exact drainH_frames ..
  | case2 st r h ih => exact ih
  | case3 => rfl
  | case4 st t r h ih => exact ih
  | case5 st b r h os hs => rw [run, hs]; exact map_snd_pair h os
  | case6 st b r h o st' hs ih => rw [run, hs, List.map_cons, ih]
  | case7 st b r h st' hs ih => rw [run, hs, ih]

theorem mem_map_pair {h : Hint} {os : List Out} {x : Hint × Out}
    (hx : x ∈ os.map (fun o => (h, o))) : x.1 = h := by
  obtain ⟨o, _, rfl⟩ := List.mem_map.1 hx
  rfl

theorem drainH_hints {hf : HintFn} {P : Hint → Prop} (hP : ∀ st done evs, P (hf st done evs))
    (f : Nat) (st : St) (h : Hint) (hh : P h) : ∀ x ∈ drainH hf f st h, P x.1 := by
  fun_induction drainH hf f st h with
  | case1 => exact fun x hx => List.mem_singleton.1 hx ▸ hh
  | case2 f st h os hs => exact fun x hx => mem_map_pair hx ▸ hh
  | case3 f st h o st' hs ih => exact List.forall_mem_cons.2 ⟨hh, ih (hP ..)⟩
  | case4 f st h st' hs ih => exact ih hh

theorem runH_hints {hf : HintFn} {P : Hint → Prop} (hP : ∀ st done evs, P (hf st done evs))
    (evs : List BodyEv) (st : St) (h : Hint) (hh : P h) : ∀ x ∈ runH hf st evs h, P x.1 := by
  fun_induction runH hf st evs h with
  | case1 => exact drainH_hints hP _ _ _ hh
  | case2 st r h ih => exact ih (hP ..)
  | case3 => exact fun x hx => List.mem_singleton.1 hx ▸ hh
  | case4 st t r h ih => exact ih hh
  | case5 st b r h os hs => exact fun x hx => mem_map_pair hx ▸ hh
  | case6 st b r h o st' hs ih => exact List.forall_mem_cons.2 ⟨hh, ih (hP ..)⟩
  | case7 st b r h st' hs ih => exact ih hh

theorem sizeHintOk_of_unbounded : ∀ (l : List (Hint × Out)),
    (∀ x ∈ l, x.1.lower = 0 ∧ x.1.upper = none) → sizeHintOk l = true := by
  intro l
  induction l with
  | nil => intro _; rfl
  | cons x r ih =>
    intro h
    obtain ⟨h0, hu⟩ := h x (List.mem_cons_self ..)
    simp [sizeHintOk, h0, hu, upperOk, ih fun y hy => h y (List.mem_cons_of_mem _ hy)]

theorem honour_eq : ∀ (l : List (Hint × Out)), endHintOk l = true →
    EndsOnce (l.map Prod.snd) → honour l = l.map Prod.snd := by
  intro l
  induction l with
  | nil => intro _ _; rfl
  | cons p r ih =>
    obtain ⟨h, o⟩ := p
    intro hok he
    simp only [endHintOk, Bool.and_eq_true, Bool.or_eq_true, Bool.not_eq_true', beq_iff_eq] at hok
    rw [honour, List.map_cons]
    rcases endsOnce_cons_inv he with ⟨_, hr⟩ | ⟨ht, hr⟩
    · -- `o` is the last frame: told `true`, the consumer ends with the same `eos`
      rw [List.map_eq_nil_iff.1 hr]
      rcases hok.1 with hE | rfl
      · rw [hE]; rfl
      · cases h.eos <;> rfl
    · have hE : h.eos = false := hok.1.resolve_right fun ho => by rw [ho] at ht; cases ht
      rw [hE, ih hok.2 hr]
      rfl

end WebClientHintsLemmas
