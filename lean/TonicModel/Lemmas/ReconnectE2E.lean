import TonicModel.Lemmas.Reconnect
/-
C14, end-to-end fault scripts (`E2E.run`): at a quiescent point of a run (`Settled`) a request is
served by the live connection, or makes exactly one attempt whose outcome decides
(`serve_settled`); under the invariant `Inv` the model's run of any script satisfies
`Spec.Reconnect.clauses`. `Settled` and `serve_settled` also carry the network and abandoned-call
scripts (`ReconnectNet.lean`, `ReconnectAbandon.lean`).
-/
namespace Reconnect.E2E
open ConnScript
open Spec.Reconnect (outcomeAt anyConnects callClauses nextSt evClauses liveAfter clauses holds served)

/-- The state machine between two requests of a run; `alive` is the connection whose peer is still
there. -/
structure Settled (r : R) (alive : Option Nat) : Prop where
  err : r.error = none
  /-- a failed attempt will be parked for the call that waits, not returned by `poll_ready` -/
  stored : (r.hasBeen || r.isLazy) = true
  shape : (r.st = .idle ∧ alive = none) ∨ ∃ c, r.st = .connected c ∧ (alive = some c ∨ alive = none)

theorem Settled.die {r : R} {alive : Option Nat} (h : Settled r alive) : Settled r none :=
  ⟨h.err, h.stored, h.shape.elim (fun h => .inl ⟨h.1, rfl⟩) (fun ⟨c, h, _⟩ => .inr ⟨c, h, .inr rfl⟩)⟩

theorem serve_settled {r r' : R} {w : World} {env' : List Ans} {res : Res} (h : Settled r w.alive)
    (hs : serve r (answersFor w r) = (r', env', res)) :
    (∃ c, w.alive = some c ∧ res = .resp c ∧ r'.made = r.made ∧ Settled r' (some c)) ∨
    (w.alive = none ∧ r'.made = r.made + 1 ∧
      if w.next.connects = true then res = .resp (r.made + 1) ∧ Settled r' (some (r.made + 1))
      else res = .err (r.made + 1) ∧ Settled r' none) := by
  obtain ⟨herr, hstored, hshape⟩ := h
  rcases hshape with ⟨hst, hal⟩ | ⟨c, hst, hal | hal⟩
  · refine .inr ⟨hal, ?_⟩
    by_cases hc : w.next.connects = true
    · have ha : answersFor w r = [.ok, .ok, .ok] := by simp [answersFor, hst, hc]
      rw [ha, serve_idle_connects r [] herr hst] at hs
      cases hs
      exact ⟨rfl, by rw [if_pos hc]; exact ⟨rfl, herr, rfl, .inr ⟨_, rfl, .inl rfl⟩⟩⟩
    · have ha : answersFor w r = [.ok, .err (r.made + 1), .ok] := by simp [answersFor, hst, hc]
      rw [ha, serve_idle_fails r _ _ herr hst hstored] at hs
      cases hs
      exact ⟨rfl, by rw [if_neg hc]; exact ⟨rfl, herr, hstored, .inl ⟨rfl, rfl⟩⟩⟩
  · refine .inl ⟨c, hal, ?_⟩
    have ha : answersFor w r = .ok :: [.ok, if w.next.connects then .ok else .err (r.made + 1), .ok] := by
      simp [answersFor, hst, hal]
    rw [ha, serve_connected_ok r c _ herr hst] at hs
    cases hs
    exact ⟨rfl, rfl, herr, rfl, .inr ⟨c, hst, .inl rfl⟩⟩
  · refine .inr ⟨hal, ?_⟩
    by_cases hc : w.next.connects = true
    · have ha : answersFor w r = [.err 0, .ok, .ok, .ok] := by simp [answersFor, hst, hal, hc]
      rw [ha, serve_dead_reconnects r c 0 [] herr hst] at hs
      cases hs
      exact ⟨rfl, by rw [if_pos hc]; exact ⟨rfl, herr, rfl, .inr ⟨_, rfl, .inl rfl⟩⟩⟩
    · have ha : answersFor w r = [.err 0, .ok, .err (r.made + 1), .ok] := by
        simp [answersFor, hst, hal, hc]
      rw [ha, serve_dead_fails r c 0 _ _ herr hst] at hs
      cases hs
      exact ⟨rfl, by rw [if_neg hc]; exact ⟨rfl, herr, rfl, .inl ⟨rfl, rfl⟩⟩⟩

theorem connectEager_answers (w : World) :
    connectEager (answersFor w (R.init false)) =
      if w.next.connects = true then
        ({ R.init false with st := .connected 1, made := 1, hasBeen := true }, [], .ready)
      else ({ R.init false with st := .spent, made := 1 }, [.ok], .failed 1) := by
  cases hc : w.next.connects <;>
    simp [connectEager, answersFor, R.init, hc, drive, driveLoop, step]

theorem callClauses_live {outs : List Outcome} {s : Spec.Reconnect.St} {c : Nat} (k : CallKind)
    (hl : s.live = some c) : (callClauses outs s k (resK k (.resp c)) s.a).all (·.2) = true := by
  cases k <;> simp [callClauses, resK, served, hl]

theorem callClauses_fresh {outs : List Outcome} {s : Spec.Reconnect.St} (k : CallKind)
    (hl : s.live = none) (hc : (outcomeAt outs (s.a + 1)).connects = true) :
    (callClauses outs s k (resK k (.resp (s.a + 1))) (s.a + 1)).all (·.2) = true := by
  cases k <;> simp [callClauses, resK, served, hl, hc]

theorem anyConnects_one (outs : List Outcome) (a : Nat) :
    anyConnects outs a (a + 1) = (outcomeAt outs (a + 1)).connects := by
  simp [anyConnects]

theorem callClauses_refused {outs : List Outcome} {s : Spec.Reconnect.St} (k : CallKind)
    {att : Option Nat} (hl : s.live = none) (hc : (outcomeAt outs (s.a + 1)).connects = false)
    (hatt : att = none ∨ att = some (s.a + 1)) :
    (callClauses outs s k (.error unavailable att) (s.a + 1)).all (·.2) = true := by
  rcases hatt with rfl | rfl <;> simp [callClauses, served, hl, hc, anyConnects_one]

/-- How the model state, the scripted world and the oracle's view hang together at a quiescent
point of an end-to-end run. -/
structure Inv (outs : List Outcome) (r : R) (w : World) (s : Spec.Reconnect.St) : Prop where
  err : r.error = none
  made : r.made = s.a
  outs : w.outcomes = outs.drop s.a
  alive : w.alive = s.live
  stored : (r.hasBeen || r.isLazy) = true
  shape : (r.st = .idle ∧ w.alive = none) ∨ ∃ c, r.st = .connected c ∧ (w.alive = some c ∨ w.alive = none)

section
variable {outs : List Outcome} {r : R} {w : World} {s : Spec.Reconnect.St}

theorem Inv.settled (h : Inv outs r w s) : Settled r w.alive := ⟨h.err, h.stored, h.shape⟩

theorem Inv.of_settled {live : Option Nat} {a : Nat} (hq : Settled r live) (hm : r.made = a)
    (ho : w.outcomes = outs.drop a) (ha : w.alive = live) : Inv outs r w ⟨live, a⟩ :=
  ⟨hq.err, hm, ho, ha, hq.stored, ha ▸ hq.shape⟩

theorem Inv.die (h : Inv outs r w s) : Inv outs r { w with alive := none } { s with live := none } :=
  ⟨h.err, h.made, h.outs, rfl, h.stored, h.settled.die.shape⟩

/-- What the kind of a call adds once connection `c` has taken it. -/
theorem Inv.servedK {c a : Nat} (k : CallKind) (h : Inv outs r w ⟨some c, a⟩)
    (hs : s.live = some c ∨ (s.live = none ∧ c = a)) :
    Inv outs r (w.afterK k (.resp c)) (nextSt s (resK k (.resp c)) a) := by
  cases k with
  | plain => exact h
  | zeroDeadline =>
    have : nextSt s (resK .zeroDeadline (.resp c)) a = ⟨some c, a⟩ := by
      rcases hs with hs | ⟨hs, rfl⟩ <;> simp [nextSt, resK, hs]
    rw [this]
    exact h
  | peerDies => exact h.die

theorem afterK_error (w : World) (k : CallKind) (code : Nat) (att : Option Nat) :
    w.afterK k (.error code att) = w := by
  cases k <;> rfl

theorem next_eq {a : Nat} (h : w.outcomes = outs.drop a) : w.next = outcomeAt outs (a + 1) := by
  simp [World.next, outcomeAt, h, List.head?_drop]

theorem statusCode_fixed (o : Outcome) : statusCode (classOf true o) = unavailable := by
  cases o <;> rfl

theorem callK_step (outs : List Outcome) (r : R) (w : World) (s : Spec.Reconnect.St) (k : CallKind)
    (h : Inv outs r w s) {r' : R} {env' : List Ans} {res : Res}
    (hs : serve r (answersFor w r) = (r', env', res)) :
    (callClauses outs s k (resK k (callRes true w res)) r'.made).all (·.2) = true ∧
    Inv outs r' ((w.after r r').afterK k (callRes true w res))
      (nextSt s (resK k (callRes true w res)) r'.made) := by
  have hmade := h.made
  have hnext := next_eq h.outs
  rcases serve_settled h.settled hs with ⟨c, hal, rfl, hm, hq⟩ | ⟨hal, hm, hcase⟩
  · have hlive : s.live = some c := h.alive ▸ hal
    have hafter : w.after r r' = w := by simp [World.after, hm]
    rw [hafter, hm, hmade]
    exact ⟨callClauses_live k hlive,
      Inv.servedK k (.of_settled hq (hm.trans hmade) h.outs hal) (.inl hlive)⟩
  · have hlive : s.live = none := h.alive ▸ hal
    have houts : w.outcomes.tail = outs.drop (s.a + 1) := by rw [h.outs, List.tail_drop]
    rw [hmade] at hm hcase
    by_cases hc : w.next.connects = true
    · rw [if_pos hc] at hcase
      obtain ⟨rfl, hq⟩ := hcase
      have hafter : w.after r r' = { outcomes := w.outcomes.tail, alive := some (s.a + 1) } := by
        simp [World.after, hm, hmade, hc]
      rw [hafter, hm]
      exact ⟨callClauses_fresh k hlive (hnext ▸ hc),
        Inv.servedK k (.of_settled hq hm houts rfl) (.inr ⟨hlive, rfl⟩)⟩
    · rw [if_neg hc] at hcase
      obtain ⟨rfl, hq⟩ := hcase
      have hafter : w.after r r' = { outcomes := w.outcomes.tail, alive := none } := by
        simp [World.after, hm, hmade, hc]
      rw [hafter, hm]
      refine ⟨?_, ?_⟩
      · show (callClauses outs s k (.error (statusCode (classOf true w.next))
          (if w.next = .refuse then some (s.a + 1) else none)) (s.a + 1)).all (·.2) = true
        rw [statusCode_fixed]
        exact callClauses_refused k hlive (by rw [← hnext]; simpa using hc) (by split <;> simp)
      · show Inv outs _ (World.afterK _ k (.error _ _)) ⟨none, s.a + 1⟩
        rw [afterK_error]
        exact .of_settled hq hm houts rfl

theorem resK_plain (res : CallRes) : resK .plain res = res := by cases res <;> rfl

theorem afterK_plain (w : World) (res : CallRes) : w.afterK .plain res = w := by
  cases res <;> rfl

theorem call_step (outs : List Outcome) (r : R) (w : World) (s : Spec.Reconnect.St)
    (h : Inv outs r w s) {r' : R} {env' : List Ans} {res : Res}
    (hs : serve r (answersFor w r) = (r', env', res)) :
    (callClauses outs s .plain (callRes true w res) r'.made).all (·.2) = true ∧
    Inv outs r' (w.after r r') (nextSt s (callRes true w res) r'.made) := by
  have := callK_step outs r w s .plain h hs
  simpa only [resK_plain, afterK_plain] using this

theorem callClauses_mono {k : CallKind} {res : CallRes} {a' : Nat}
    (h : (callClauses outs s k res a').all (·.2) = true) : s.a ≤ a' := by
  simp only [callClauses, List.all_cons, Bool.and_eq_true, decide_eq_true_eq] at h
  exact h.2.1

/-- The oracle's next state after an ordinary call depends on the state before only through a
deadline expiry, which the model never produces for such a call. -/
theorem nextSt_callRes (s1 s2 : Spec.Reconnect.St) (fixed : Bool) (w : World) (res : Res) (a : Nat) :
    nextSt s1 (callRes fixed w res) a = nextSt s2 (callRes fixed w res) a := by
  cases res <;> rfl

theorem runOps_ok (outs : List Outcome) (ops : List Op) :
    ∀ (r : R) (w : World) (s : Spec.Reconnect.St), Inv outs r w s →
      (evClauses outs s ops (runOps true r w ops)).all (·.2) = true := by
  induction ops with
  | nil => intro r w s _; rfl
  | cons op ops ih =>
    intro r w s h
    cases op with
    | die => exact ih _ _ _ h.die
    | call =>
      rcases hs : serve r (answersFor w r) with ⟨r', env', res⟩
      have hstep := call_step outs r w s h hs
      simp only [runOps, hs, evClauses, List.all_append, Bool.and_eq_true]
      exact ⟨hstep.1, ih _ _ _ hstep.2⟩
    | callZero =>
      rcases hs : serve r (answersFor w r) with ⟨r', env', res⟩
      have hstep := callK_step outs r w s .zeroDeadline h hs
      simp only [runOps, callK, hs, evClauses, List.all_append, Bool.and_eq_true]
      exact ⟨hstep.1, ih _ _ _ hstep.2⟩
    | callDie =>
      rcases hs : serve r (answersFor w r) with ⟨r', env', res⟩
      have hstep := callK_step outs r w s .peerDies h hs
      simp only [runOps, callK, hs, evClauses, List.all_append, Bool.and_eq_true]
      exact ⟨hstep.1, ih _ _ _ hstep.2⟩
    | pair =>
      rcases hs1 : serve r (answersFor w r) with ⟨r1, env1, res1⟩
      have h1 := call_step outs r w s h hs1
      rcases hs2 : serve r1 (answersFor (w.after r r1) r1) with ⟨r2, env2, res2⟩
      have h2 := call_step outs _ _ _ h1.2 hs2
      have m1 := callClauses_mono h1.1
      have m2 : r1.made ≤ r2.made := callClauses_mono h2.1
      simp only [runOps, hs1, hs2, evClauses, List.all_cons, Bool.and_eq_true]
      refine ⟨?_, ih _ _ _ ?_⟩
      · unfold Spec.Reconnect.pairOk
        rw [List.any_eq_true]
        refine ⟨r1.made - s.a, by simp; omega, ?_⟩
        have : s.a + (r1.made - s.a) = r1.made := by omega
        rw [this, List.all_append, Bool.and_eq_true]
        exact ⟨h1.1, h2.1⟩
      · rw [nextSt_callRes _ (nextSt s (callRes true w res1) r1.made)]
        exact h2.2

theorem head_eq_outcomeAt (outs : List Outcome) :
    ({ outcomes := outs, alive := none } : World).next = outcomeAt outs 1 :=
  next_eq (a := 0) rfl

theorem Inv.init (outs : List Outcome) :
    Inv outs (R.init true) { outcomes := outs, alive := none } ⟨liveAfter outs 0, 0⟩ :=
  ⟨rfl, rfl, rfl, rfl, rfl, .inl ⟨rfl, rfl⟩⟩

theorem Inv.eager (outs : List Outcome) (hc : (outcomeAt outs 1).connects = true) :
    Inv outs { R.init false with st := .connected 1, made := 1, hasBeen := true }
      (({ outcomes := outs, alive := none } : World).after (R.init false)
        { R.init false with st := .connected 1, made := 1, hasBeen := true })
      ⟨liveAfter outs 1, 1⟩ := by
  have hw : ({ outcomes := outs, alive := none } : World).next.connects = true :=
    head_eq_outcomeAt outs ▸ hc
  exact ⟨rfl, rfl, by simp [World.after, R.init], by simp [World.after, R.init, hw, liveAfter, hc], rfl,
    .inr ⟨1, rfl, .inl (by simp [World.after, R.init, hw])⟩⟩

theorem run_holds (isLazy : Bool) (outs : List Outcome) (ops : List Op) :
    holds isLazy outs ops (run true isLazy outs ops) = true := by
  unfold holds clauses run
  cases isLazy with
  | true =>
    simp only [if_true, List.all_cons, Bool.and_eq_true]
    exact ⟨rfl, runOps_ok outs ops _ _ _ (.init outs)⟩
  | false =>
    have hn := head_eq_outcomeAt outs
    simp only [Bool.false_eq_true, if_false, connectEager_answers]
    by_cases hc : (outcomeAt outs 1).connects = true
    · have hw : ({ outcomes := outs, alive := none } : World).next.connects = true := hn ▸ hc
      simp only [hc, hw, if_true, List.all_cons, Bool.and_eq_true]
      exact ⟨by decide, runOps_ok outs ops _ _ _ (.eager outs hc)⟩
    · have hw : ¬ ({ outcomes := outs, alive := none } : World).next.connects = true := hn ▸ hc
      simp only [hc, hw, errorOf, statusCode_fixed]
      by_cases hr : ({ outcomes := outs, alive := none } : World).next = .refuse <;>
        simp [hr, unavailable]
end

end Reconnect.E2E
