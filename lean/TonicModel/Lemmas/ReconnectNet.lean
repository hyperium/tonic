import TonicModel.Lemmas.ReconnectE2E
/-
The channel against a real listening socket (`Net.run`): for every script the model's run
satisfies the network oracle `Spec.Reconnect.netClauses`.
-/
namespace Reconnect.Net
open ConnScript
open Spec.Reconnect (NSt netCallClauses netNext netEvClauses netClauses)

/-- How the model state, the scripted network and the oracle's view hang together at a quiescent
point. -/
structure NInv (r : R) (w : W) (s : NSt) : Prop where
  err : r.error = none
  stored : (r.hasBeen || r.isLazy) = true
  up : w.up = s.up
  gen : w.gen = s.gen
  shape : (r.st = .idle ∧ w.alive = none ∧ s.live = none) ∨
    ∃ c, r.st = .connected c ∧
      ((w.alive = some c ∧ s.live = some w.aliveGen) ∨ (w.alive = none ∧ s.live = none))

theorem refusedCode_eq : refusedCode = unavailable := by decide

theorem world_connects (w : W) : w.world.next.connects = w.up := by
  cases h : w.up <;> simp [W.world, E2E.World.next, h, Outcome.connects]

theorem NInv.settled {r : R} {w : W} {s : NSt} (h : NInv r w s) : E2E.Settled r w.alive :=
  ⟨h.err, h.stored, h.shape.elim (fun h => .inl ⟨h.1, h.2.1⟩) fun ⟨c, hst, h⟩ =>
    .inr ⟨c, hst, h.elim (fun h => .inl h.1) (fun h => .inr h.1)⟩⟩

/-- The oracle's live generation is that of the server holding the connection, if any. -/
theorem NInv.live {r : R} {w : W} {s : NSt} (h : NInv r w s) :
    s.live = w.alive.map fun _ => w.aliveGen := by
  rcases h.shape with ⟨_, hal, hl⟩ | ⟨c, _, ⟨hal, hl⟩ | ⟨hal, hl⟩⟩ <;> rw [hal, hl] <;> rfl

theorem NInv.of_settled {r : R} {w : W} {s : NSt} (hq : E2E.Settled r w.alive) (hup : w.up = s.up)
    (hgen : w.gen = s.gen) (hl : s.live = w.alive.map fun _ => w.aliveGen) : NInv r w s := by
  refine ⟨hq.err, hq.stored, hup, hgen, ?_⟩
  rcases hq.shape with ⟨hst, hal⟩ | ⟨c, hst, hal | hal⟩
  · exact .inl ⟨hst, hal, by rw [hl, hal]; rfl⟩
  · exact .inr ⟨c, hst, .inl ⟨hal, by rw [hl, hal]; rfl⟩⟩
  · exact .inr ⟨c, hst, .inr ⟨hal, by rw [hl, hal]; rfl⟩⟩

theorem env_inv {r : R} {w : W} {s : NSt} (h : NInv r w s) (op : NOp) :
    NInv r (w.env op) (s.env op) := by
  cases op with
  | call => exact h
  | up =>
    cases hu : w.up with
    | true => simpa [W.env, NSt.env, hu, ← h.up] using h
    | false =>
      simp only [W.env, NSt.env, hu, ← h.up, Bool.false_eq_true, if_false]
      exact .of_settled h.settled rfl (congrArg (· + 1) h.gen) h.live
  | down => exact .of_settled h.settled.die rfl h.gen rfl

theorem call_step (r : R) (w : W) (s : NSt) (h : NInv r w s) :
    (netCallClauses s (callStep r w).1).all (·.2) = true ∧
    NInv (callStep r w).2.1 (callStep r w).2.2 (netNext s (callStep r w).1) := by
  have hup := h.up
  have hgen := h.gen
  unfold callStep
  rcases hs : serve r (E2E.answersFor w.world r) with ⟨r', env', res⟩
  rcases E2E.serve_settled (w := w.world) h.settled hs with ⟨c, hal, rfl, _, hq⟩ | ⟨hal, _, hcase⟩
  · have hal : w.alive = some c := hal
    have hlive : s.live = some w.aliveGen := by rw [h.live, hal]; rfl
    simp only [hal, if_true]
    exact ⟨by simp [netCallClauses, hlive], .of_settled hq hup hgen rfl⟩
  · have hal : w.alive = none := hal
    have hlive : s.live = none := by rw [h.live, hal]; rfl
    rw [world_connects] at hcase
    by_cases hu : w.up = true
    · rw [if_pos hu] at hcase
      obtain ⟨rfl, hq⟩ := hcase
      simp only [hal, reduceCtorEq, if_false]
      exact ⟨by simp [netCallClauses, hlive, ← hup, hu, hgen], .of_settled hq hup hgen rfl⟩
    · rw [if_neg hu] at hcase
      obtain ⟨rfl, hq⟩ := hcase
      exact ⟨by simp [netCallClauses, hlive, ← hup, hu, refusedCode_eq], .of_settled hq hup hgen rfl⟩

theorem runOps_ok (r : R) (w : W) (ops : List NOp) (s : NSt) (h : NInv r w s) :
    (netEvClauses s ops (runOps r w ops)).all (·.2) = true := by
  fun_induction runOps r w ops generalizing s with
  | case1 => rfl
  | case2 r w ops ih => exact ih _ (env_inv h .up)
  | case3 r w ops ih => exact ih _ (env_inv h .down)
  | case4 r w ops res r' w' hc ih =>
    have hstep := call_step r w s h
    rw [hc] at hstep
    rw [netEvClauses, List.all_append, Bool.and_eq_true]
    exact ⟨hstep.1, ih _ hstep.2⟩

theorem pre_inv {r : R} (pre : List NOp) {w : W} {s : NSt}
    (h : NInv r w s) : NInv r (pre.foldl W.env w) (pre.foldl NSt.env s) := by
  induction pre generalizing w s with
  | nil => exact h
  | cons op pre ih =>
    exact ih (env_inv h op)

theorem run_holds (isLazy : Bool) (pre post : List NOp) :
    (netClauses isLazy pre post (run isLazy pre post)).all (·.2) = true := by
  have h : NInv (R.init true) (pre.foldl W.env { up := false, gen := 0, alive := none, aliveGen := 0 })
      (pre.foldl NSt.env { up := false, gen := 0, live := none }) :=
    pre_inv pre ⟨rfl, rfl, rfl, rfl, .inl ⟨rfl, rfl, rfl⟩⟩
  unfold netClauses run
  generalize pre.foldl W.env { up := false, gen := 0, alive := none, aliveGen := 0 } = w at h
  generalize pre.foldl NSt.env { up := false, gen := 0, live := none } = s at h
  cases isLazy with
  | true =>
    simp only [if_true, List.all_cons, Bool.and_eq_true]
    exact ⟨rfl, runOps_ok _ w post s h⟩
  | false =>
    have hup := h.up
    simp only [Bool.false_eq_true, if_false, E2E.connectEager_answers, world_connects]
    by_cases hu : w.up = true
    · simp only [hu, ← hup, if_true, List.all_cons, Bool.and_eq_true]
      refine ⟨rfl, runOps_ok _ _ post _ ?_⟩
      exact ⟨rfl, rfl, rfl, h.gen, .inr ⟨1, rfl, .inl ⟨rfl, congrArg some h.gen.symm⟩⟩⟩
    · simp [hu, ← hup, refusedCode_eq]

end Reconnect.Net
