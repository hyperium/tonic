import TonicModel.Model.Shutdown
/-
The invariant `Good` of the shutdown transition system (C13) and its preservation by every step,
with the facts about `updConn` / `updCall` and `run` that the other lemma files build on.
-/
namespace Shutdown

structure CallOk (k : Call) : Prop where
  /-- unless the request timeout cut the call: written ++ still to come = the handler's outcome -/
  plan_eq : k.expired = false → k.sent ++ k.todo.flatten = k.plan
  /-- a call cut by the request timeout carries the server's answer and nothing else -/
  expired_eq : k.expired = true → k.sent = [.expired] ∧ k.todo = []
  recv_le : k.recv ≤ k.sent.length
  unstarted : k.started = false → k.sent = []
  /-- before the handler has returned its response nothing has been written -/
  nohead : k.headDone = false → k.expired = false → k.sent = []
  /-- the request timeout never cuts a call that is past its response head -/
  expired_nohead : k.expired = true → k.headDone = false

/-- per-connection invariant, relative to the globals it mentions
(`gr` = cfgGraceful, `bi` = cfgBiased, `snt` = sent, `res` = resolved, `sr` = sigReady) -/
structure ConnOk (gr bi snt res sr : Bool) (cn : Conn) : Prop where
  watcher_acc : cn.watcher = true → cn.accepted = true ∧ gr = true
  open_watched : cn.accepted = true → cn.closed = false → gr = true → cn.watcher = true
  sawSig_sent : cn.sawSig = true → snt = true
  graceful_src : cn.graceful = true → cn.sawSig = true ∨ cn.ageFired = true
  sawSig_graceful : cn.sawSig = true → cn.graceful = true
  final_imp : cn.final = true → cn.graceful = true ∧ cn.hs = true
  closed_acc : cn.closed = true → cn.accepted = true
  hs_acc : cn.hs = true → cn.accepted = true
  pending_nacc : cn.pending = true → cn.accepted = false
  started_hs : ∀ k ∈ cn.calls, k.started = true → cn.hs = true
  /-- clause (a) of C13 on one connection; it rests on `hyperConnDone`, the guard of `connBreak` -/
  closed_calls : cn.closed = true → cn.peerGone = false →
    ∀ k ∈ cn.calls, k.started = true → k.cancelled = false → k.complete = true
  calls_ok : ∀ k ∈ cn.calls, CallOk k
  late_ready : cn.offeredAfterSig = true → sr = true
  late : bi = true → cn.offeredAfterSig = true → cn.accepted = false
  resolved_closed : res = true → gr = true → cn.accepted = true → cn.closed = true
  resolved_npending : res = true → cn.pending = false

/-- The invariant of the whole state.  `mainRx_eq`: `serve_internal` drops its own receiver exactly
when the code after the loop runs; `open_zero`: the ghost count taken at `resolve` is 0 in a
graceful server. -/
structure Good (s : State) : Prop where
  taken_stop : s.sigTaken = true → s.loopRunning = false
  after_stop : s.afterDone = true → s.loopRunning = false
  sent_after : s.sent = true → s.afterDone = true
  after_sent : s.afterDone = true → s.cfgGraceful = true → s.sent = true
  resolved_after : s.resolved = true → s.afterDone = true
  mainRx_eq : s.mainRx = !s.afterDone
  sig_graceful : s.sigReady = true → s.cfgGraceful = true
  open_zero : s.resolved = true → s.cfgGraceful = true → s.openAtResolve = 0
  conns : ∀ cn ∈ s.conns, ConnOk s.cfgGraceful s.cfgBiased s.sent s.resolved s.sigReady cn

theorem ConnOk.mono {gr bi snt res sr snt' res' sr' : Bool} {cn : Conn}
    (h : ConnOk gr bi snt res sr cn) (h1 : snt = true → snt' = true)
    (h2 : res' = true → res = true) (h3 : sr = true → sr' = true) :
    ConnOk gr bi snt' res' sr' cn :=
  { h with
    sawSig_sent := fun a => h1 (h.sawSig_sent a)
    late_ready := fun a => h3 (h.late_ready a)
    resolved_closed := fun a => h.resolved_closed (h2 a)
    resolved_npending := fun a => h.resolved_npending (h2 a) }

theorem callOk_new {chunks : List (List Item)} {req : Nat} : CallOk (Call.new chunks req) :=
  ⟨fun _ => rfl, nofun, Nat.le_refl _, fun _ => rfl, fun _ _ => rfl, nofun⟩

theorem connOk_new {gr bi snt res sr p : Bool} (hp : res = true → p = false) :
    ConnOk gr bi snt res sr (Conn.new p sr) where
  watcher_acc := nofun
  open_watched := nofun
  sawSig_sent := nofun
  graceful_src := nofun
  sawSig_graceful := nofun
  final_imp := nofun
  closed_acc := nofun
  hs_acc := nofun
  pending_nacc _ := rfl
  started_hs _ := nofun
  closed_calls := nofun
  calls_ok _ := nofun
  late_ready := id
  late _ _ := rfl
  resolved_closed _ _ := nofun
  resolved_npending := hp

/-- the invariant does not look at the TLS fields -/
theorem connOk_newTls {gr bi snt res sr p go bad : Bool} (hp : res = true → p = false) :
    ConnOk gr bi snt res sr (Conn.newTls p sr go bad) :=
  { connOk_new hp with }

theorem good_init {g b a t : Bool} : Good (init g b a t) where
  taken_stop := nofun
  after_stop := nofun
  sent_after := nofun
  after_sent := nofun
  resolved_after := nofun
  mainRx_eq := rfl
  sig_graceful := nofun
  open_zero := nofun
  conns _ := nofun

theorem updConn_some {s s' : State} {c : Nat} {g : Conn → Bool} {f : Conn → Conn}
    (h : updConn s c g f = some s') :
    ∃ cn, s.conns[c]? = some cn ∧ g cn = true ∧ s' = { s with conns := s.conns.set c (f cn) } := by
  unfold updConn at h
  split at h
  · next cn hc =>
    obtain ⟨hg, h⟩ := Option.ite_none_right_eq_some.1 h
    exact ⟨cn, hc, hg, (Option.some.inj h).symm⟩
  · cases h

theorem updCall_some {s s' : State} {c j : Nat} {g : Conn → Call → Bool} {f : Call → Call}
    (h : updCall s c j g f = some s') :
    ∃ cn k, s.conns[c]? = some cn ∧ cn.calls[j]? = some k ∧ g cn k = true ∧
      s' = { s with conns := s.conns.set c { cn with calls := cn.calls.set j (f k) } } := by
  unfold updCall at h
  split at h
  · next cn hc =>
    split at h
    · next k hk =>
      obtain ⟨hg, h⟩ := Option.ite_none_right_eq_some.1 h
      exact ⟨cn, k, hc, hk, hg, (Option.some.inj h).symm⟩
    · cases h
  · cases h

theorem guard_isSome {α} {c : Bool} {x : Option α} (hc : c = true) (hx : x.isSome = true) :
    (if c = true then x else none).isSome = true :=
  (if_pos hc).symm ▸ hx

theorem guard_none {α} {c : Bool} {x : Option α} (hc : c = false) :
    (if c = true then x else none) = none :=
  if_neg (Bool.eq_false_iff.1 hc)

theorem updConn_isSome {s : State} {c : Nat} {cn : Conn} {g : Conn → Bool} {f : Conn → Conn}
    (hc : s.conns[c]? = some cn) (hg : g cn = true) : (updConn s c g f).isSome = true := by
  rw [updConn, hc]
  exact guard_isSome hg rfl

theorem updCall_isSome {s : State} {c j : Nat} {cn : Conn} {k : Call} {g : Conn → Call → Bool}
    {f : Call → Call} (hc : s.conns[c]? = some cn) (hk : cn.calls[j]? = some k)
    (hg : g cn k = true) : (updCall s c j g f).isSome = true := by
  rw [updCall, hc]
  show (match cn.calls[j]? with | some k => _ | none => none : Option State).isSome = true
  rw [hk]
  exact guard_isSome hg rfl

theorem updConn_mono {s s' : State} {c : Nat} {g g' : Conn → Bool} {f : Conn → Conn}
    (hgg : ∀ cn, g cn = true → g' cn = true) (h : updConn s c g f = some s') :
    updConn s c g' f = some s' := by
  obtain ⟨cn, hc, hgd, rfl⟩ := updConn_some h
  rw [updConn, hc]
  exact if_pos (hgg cn hgd)

theorem updCall_mono {s s' : State} {c j : Nat} {g g' : Conn → Call → Bool} {f : Call → Call}
    (hgg : ∀ cn k, g cn k = true → g' cn k = true) (h : updCall s c j g f = some s') :
    updCall s c j g' f = some s' := by
  obtain ⟨cn, k, hc, hk, hgd, rfl⟩ := updCall_some h
  rw [updCall, hc]
  show (match cn.calls[j]? with | some k => _ | none => none : Option State) = _
  rw [hk]
  exact if_pos (hgg cn k hgd)

theorem run_cons {s s' : State} {l : Label} {ls : List Label} :
    run s (l :: ls) = some s' ↔ ∃ s1, step s l = some s1 ∧ run s1 ls = some s' := by
  rw [run]
  split
  · next s1 h1 => exact ⟨fun h => ⟨s1, h1, h⟩, fun ⟨s2, h2, h⟩ => by cases h1.symm.trans h2; exact h⟩
  · next h1 => exact ⟨nofun, fun ⟨s2, h2, _⟩ => nomatch h1.symm.trans h2⟩

theorem run_append {s s' : State} {xs ys : List Label} :
    run s (xs ++ ys) = some s' ↔ ∃ s1, run s xs = some s1 ∧ run s1 ys = some s' := by
  induction xs generalizing s with
  | nil => exact ⟨fun h => ⟨s, rfl, h⟩, fun ⟨_, h1, h⟩ => by cases h1; exact h⟩
  | cons x xs ih =>
    simp only [List.cons_append, run_cons, ih]
    exact ⟨fun ⟨s1, h1, s2, h2, h⟩ => ⟨s2, ⟨s1, h1, h2⟩, h⟩,
      fun ⟨s2, ⟨s1, h1, h2⟩, h⟩ => ⟨s1, h1, s2, h2, h⟩⟩

theorem run_invariant {P : State → Prop} {ls : List Label}
    (hP : ∀ l ∈ ls, ∀ s s', P s → step s l = some s' → P s') {s s' : State}
    (h : run s ls = some s') (hs : P s) : P s' := by
  induction ls generalizing s with
  | nil => cases h; exact hs
  | cons l ls ih =>
    obtain ⟨s1, h1, h⟩ := run_cons.1 h
    exact ih (fun x hx => hP x (List.mem_cons_of_mem _ hx)) h (hP l List.mem_cons_self s s1 hs h1)

theorem reachable_run {g b a : Bool} {ls : List Label} {s0 s : State}
    (h0 : Reachable g b a s0) (hr : run s0 ls = some s) : Reachable g b a s :=
  run_invariant (fun l _ _ _ hr h => .step l hr h) hr h0

/-- a reachability witness for concrete scenarios that needs no evaluation of the run -/
theorem reachable_getD (g b a t : Bool) (ls : List Label) :
    Reachable g b a ((run (init g b a t) ls).getD (init g b a t)) := by
  cases h : run (init g b a t) ls with
  | none => exact .init t
  | some s => exact reachable_run (.init t) h

theorem forall_mem_set {α} {P : α → Prop} {l : List α} {i : Nat} {a : α} (h : ∀ x ∈ l, P x)
    (ha : P a) : ∀ x ∈ l.set i a, P x :=
  fun x hx => (List.mem_or_eq_of_mem_set hx).elim (h x) (· ▸ ha)

theorem good_updConn {s s' : State} {c : Nat} {g : Conn → Bool} {f : Conn → Conn}
    (hg : Good s) (h : updConn s c g f = some s')
    (hf : ∀ cn, g cn = true →
      ConnOk s.cfgGraceful s.cfgBiased s.sent s.resolved s.sigReady cn →
      ConnOk s.cfgGraceful s.cfgBiased s.sent s.resolved s.sigReady (f cn)) : Good s' := by
  obtain ⟨cn, hc, hgd, rfl⟩ := updConn_some h
  exact { hg with
    conns := forall_mem_set hg.conns (hf cn hgd (hg.conns cn (List.mem_of_getElem? hc))) }

/-- `hf`: the three fields of `ConnOk` that speak about each call of the connection (`started_hs`,
`closed_calls`, `calls_ok`), for the rewritten call -/
theorem good_updCall {s s' : State} {c j : Nat} {g : Conn → Call → Bool} {f : Call → Call}
    (hg : Good s) (h : updCall s c j g f = some s')
    (hf : ∀ cn, ∀ k ∈ cn.calls, g cn k = true →
      ConnOk s.cfgGraceful s.cfgBiased s.sent s.resolved s.sigReady cn →
      ((f k).started = true → cn.hs = true)
      ∧ (cn.closed = true → cn.peerGone = false → (f k).started = true → (f k).cancelled = false →
          (f k).complete = true)
      ∧ CallOk (f k)) : Good s' := by
  obtain ⟨cn, k, hc, hk, hgd, rfl⟩ := updCall_some h
  have hcn := hg.conns cn (List.mem_of_getElem? hc)
  obtain ⟨h1, h2, h3⟩ := hf cn k (List.mem_of_getElem? hk) hgd hcn
  have hcn' : ConnOk _ _ _ _ _ { cn with calls := cn.calls.set j (f k) } :=
    { hcn with
      started_hs := forall_mem_set hcn.started_hs h1
      closed_calls := fun hc hp => forall_mem_set (hcn.closed_calls hc hp) (h2 hc hp)
      calls_ok := forall_mem_set hcn.calls_ok h3 }
  exact { hg with conns := forall_mem_set hg.conns hcn' }

theorem Good.running_not_resolved {s : State} (hg : Good s) (h : s.loopRunning = true) :
    s.resolved = false := by
  cases hr : s.resolved with
  | false => rfl
  | true => rw [hg.after_stop (hg.resolved_after hr)] at h; cases h

theorem Good.running_not_taken {s : State} (hg : Good s) (h : s.loopRunning = true) :
    s.sigTaken = false := by
  cases hr : s.sigTaken with
  | false => rfl
  | true => rw [hg.taken_stop hr] at h; cases h

/-- hyper's three reasons for resolving the connection future -/
theorem hyperConnDone_iff (cn : Conn) :
    hyperConnDone cn = true ↔
      (cn.peerGone = true ∨ (cn.graceful = true ∧ cn.hs = false)
        ∨ (cn.final = true ∧ ∀ k ∈ cn.calls, k.settled = true)) := by
  simp only [hyperConnDone, Bool.or_eq_true, Bool.and_eq_true, Bool.not_eq_true', List.all_eq_true,
    or_assoc]

def AllClosed (s : State) : Prop := ∀ cn ∈ s.conns, cn.accepted = true → cn.closed = true

theorem Good.all_closed_of_no_receivers {s : State} (hg : Good s) (hgr : s.cfgGraceful = true)
    (h0 : receiverCount s = 0) : AllClosed s := by
  intro cn hcn hacc
  have hw : s.conns.countP (·.watcher) = 0 := by unfold receiverCount at h0; omega
  cases hc : cn.closed with
  | true => rfl
  | false =>
    exact absurd ((hg.conns cn hcn).open_watched hacc hc hgr) (List.countP_eq_zero.1 hw cn hcn)

theorem Good.incomingBranch {s : State} (hg : Good s) (h : incomingBranch s = true) :
    s.loopRunning = true ∧ (s.cfgBiased = true → s.sigReady = false) := by
  simp only [Shutdown.incomingBranch, sigBranchReady, Bool.and_eq_true, Bool.not_eq_true',
    Bool.and_eq_false_iff] at h
  refine ⟨h.1, fun hb => ?_⟩
  rcases h.2 with h2 | h2 | h2
  · rw [hb] at h2; cases h2
  · exact h2
  · rw [hg.running_not_taken h.1] at h2; cases h2

theorem Good.offer {s : State} (hg : Good s) {cn : Conn}
    (hcn : ConnOk s.cfgGraceful s.cfgBiased s.sent s.resolved s.sigReady cn) :
    Good { s with conns := s.conns ++ [cn] } :=
  { hg with conns := List.forall_mem_append.2 ⟨hg.conns, List.forall_mem_singleton.2 hcn⟩ }

theorem not_pending_of_resolved {s : State} (hr : s.resolved = true) :
    (!s.ended && !s.resolved) = false := by
  rw [hr]
  exact Bool.and_false _

/-- ENUMERATES THE LABELS: a new label needs a case here; the hyper guards it relies on are those
written into `step` (`stepH` and `hyperModel` repeat them, see `stepH_hyperModel`). -/
theorem good_step {s s' : State} {l : Label} (hg : Good s) (h : step s l = some s') : Good s' := by
  cases l with
  | offer => cases h; exact hg.offer (connOk_new not_pending_of_resolved)
  | offerTls go bad => cases h; exact hg.offer (connOk_newTls not_pending_of_resolved)
  -- `{ hk with }` proves `ConnOk` of the rewritten connection: no field of `ConnOk` reads what the
  -- step writes, so every old proof has the new type up to unfolding the update
  | clientHello c | tlsDone c => exact good_updConn hg h fun cn _ hk => { hk with }
  | tlsTake c | ageTick c =>
    exact good_updConn hg (Option.ite_none_right_eq_some.1 h).2 fun cn _ hk => { hk with }
  | tlsFail c =>
    exact good_updConn hg h fun cn _ hk =>
      { hk with pending_nacc := nofun, resolved_npending := fun _ => rfl }
  | sigFire =>
    obtain ⟨hc, h⟩ := Option.ite_none_right_eq_some.1 h
    cases h
    simp only [Bool.and_eq_true] at hc
    exact { hg with
      sig_graceful := fun _ => hc.1
      conns := fun cn hcn => (hg.conns cn hcn).mono id id (fun _ => rfl) }
  | endIncoming | acceptErr | loopErr =>
    obtain ⟨_, h⟩ := Option.ite_none_right_eq_some.1 h
    cases h
    exact { hg with }
  | freeRun => cases h; exact { hg with }
  | issue c chunks req =>
    exact good_updConn hg h fun cn _ hk =>
      { hk with
        started_hs := List.forall_mem_append.2 ⟨hk.started_hs, List.forall_mem_singleton.2 nofun⟩
        closed_calls := fun hc hp =>
          List.forall_mem_append.2 ⟨hk.closed_calls hc hp, List.forall_mem_singleton.2 nofun⟩
        calls_ok :=
          List.forall_mem_append.2 ⟨hk.calls_ok, List.forall_mem_singleton.2 callOk_new⟩ }
  | reqSend c j | permit c j =>
    exact good_updCall hg h fun cn k hk _ hcn =>
      ⟨hcn.started_hs k hk, fun a b => hcn.closed_calls a b k hk, { hcn.calls_ok k hk with }⟩
  | deadlineTick c j =>
    exact good_updCall hg (Option.ite_none_right_eq_some.1 h).2 fun cn k hk _ hcn =>
      ⟨hcn.started_hs k hk, fun a b => hcn.closed_calls a b k hk, { hcn.calls_ok k hk with }⟩
  | cancel c j =>
    exact good_updCall hg h fun cn k hk _ hcn =>
      ⟨hcn.started_hs k hk, fun _ _ _ => nofun, { hcn.calls_ok k hk with }⟩
  | peerDrop c =>
    exact good_updConn hg h fun cn _ hk =>
      { hk with
        started_hs := List.forall_mem_map.2 hk.started_hs
        closed_calls := fun _ => nofun
        calls_ok := List.forall_mem_map.2 fun k hkm => { hk.calls_ok k hkm with } }
  | loopSig | loopEnd =>
    obtain ⟨_, h⟩ := Option.ite_none_right_eq_some.1 h
    cases h
    exact { hg with taken_stop := fun _ => rfl, after_stop := fun _ => rfl }
  | loopAccept c =>
    obtain ⟨hib, h⟩ := Option.ite_none_right_eq_some.1 h
    obtain ⟨hrun, hsig⟩ := hg.incomingBranch hib
    have hres := hg.running_not_resolved hrun
    refine good_updConn hg h fun cn _ hk => ?_
    exact { hk with
      watcher_acc := fun hw => ⟨rfl, hw⟩
      open_watched := fun _ _ hgr => hgr
      closed_acc := fun _ => rfl
      hs_acc := fun _ => rfl
      pending_nacc := nofun
      -- a connection offered after the signal would find the signal ready
      late := fun hbi hoff => by rw [hsig hbi] at hk; exact nomatch hk.late_ready hoff
      resolved_closed := fun hr => by rw [hres] at hr; cases hr
      resolved_npending := fun _ => rfl }
  | afterLoop =>
    obtain ⟨hc, h⟩ := Option.ite_none_right_eq_some.1 h
    cases h
    simp only [Bool.and_eq_true, Bool.not_eq_true'] at hc
    have hns : s.sent = true → (s.cfgGraceful = true) := fun hs => by
      rw [hg.sent_after hs] at hc; cases hc.2
    exact {
      taken_stop := hg.taken_stop
      after_stop := fun _ => hc.1
      sent_after := fun _ => rfl
      after_sent := fun _ hgr => hgr
      resolved_after := fun _ => rfl
      mainRx_eq := rfl
      sig_graceful := hg.sig_graceful
      open_zero := hg.open_zero
      conns := fun cn hcn => (hg.conns cn hcn).mono hns id id }
  | resolve =>
    obtain ⟨hc, h⟩ := Option.ite_none_right_eq_some.1 h
    cases h
    simp only [Bool.and_eq_true, Bool.not_eq_true', Bool.or_eq_true, beq_iff_eq] at hc
    have hclosed (hgr : s.cfgGraceful = true) : AllClosed s := by
      rcases hc.2 with hx | hx
      · rw [hgr] at hx; cases hx
      · exact hg.all_closed_of_no_receivers hgr hx
    exact { hg with
      resolved_after := fun _ => hc.1.1
      open_zero := fun _ hgr => List.countP_eq_zero.2 fun cn hcn ho => by
        simp only [Conn.isOpen, Bool.and_eq_true, Bool.not_eq_true'] at ho
        rw [hclosed hgr cn hcn ho.1] at ho
        cases ho.2
      conns := List.forall_mem_map.2 fun cn hcn =>
        { hg.conns cn hcn with
          pending_nacc := nofun
          resolved_closed := fun _ hgr => hclosed hgr cn hcn
          resolved_npending := fun _ => rfl } }
  | connSig c =>
    refine good_updConn hg h fun cn hgd hk => ?_
    simp only [Bool.and_eq_true, Bool.not_eq_true', and_assoc] at hgd
    obtain ⟨_, _, _, hsent, _⟩ := hgd
    exact { hk with
      sawSig_sent := fun _ => hsent
      graceful_src := fun _ => Or.inl rfl
      sawSig_graceful := fun _ => rfl
      final_imp := fun hf => ⟨rfl, (hk.final_imp hf).2⟩ }
  | connAge c =>
    exact good_updConn hg h fun cn _ hk =>
      { hk with
        graceful_src := fun _ => Or.inr rfl
        sawSig_graceful := fun _ => rfl
        final_imp := fun hf => ⟨rfl, (hk.final_imp hf).2⟩ }
  | connBreak c =>
    refine good_updConn hg h fun cn hgd hk => ?_
    simp only [Bool.and_eq_true, Bool.not_eq_true', and_assoc] at hgd
    obtain ⟨hacc, _, hdone⟩ := hgd
    refine { hk with
      open_watched := fun _ => nofun
      closed_acc := fun _ => hacc
      closed_calls := fun _ hp k hkm hst hcan => ?_
      resolved_closed := fun _ _ _ => rfl }
    -- hyper's guard: of its three reasons only "final GOAWAY out, every stream settled" is left
    rcases (hyperConnDone_iff cn).1 hdone with hd | ⟨_, hd⟩ | ⟨_, hd⟩
    · exact absurd hd (Bool.eq_false_iff.1 hp)
    · exact absurd (hk.started_hs k hkm hst) (Bool.eq_false_iff.1 hd)
    · have := hd k hkm
      simp only [Call.settled, hst, hcan, Bool.not_true, Bool.false_or] at this
      exact this
  | connDropWatcher c =>
    refine good_updConn hg h fun cn hgd hk => ?_
    simp only [Bool.and_eq_true] at hgd
    exact { hk with
      watcher_acc := nofun
      open_watched := fun _ hcl => by rw [hgd.1] at hcl; cases hcl }
  | hsDone c =>
    refine good_updConn hg h fun cn hgd hk => ?_
    simp only [Bool.and_eq_true, Bool.not_eq_true', and_assoc] at hgd
    obtain ⟨hacc, _⟩ := hgd
    exact { hk with
      final_imp := fun hf => ⟨(hk.final_imp hf).1, rfl⟩
      hs_acc := fun _ => hacc
      started_hs := fun _ _ _ => rfl }
  | final c =>
    refine good_updConn hg h fun cn hgd hk => ?_
    simp only [Bool.and_eq_true, Bool.not_eq_true', and_assoc] at hgd
    obtain ⟨_, _, hhs, hgr, _⟩ := hgd
    exact { hk with final_imp := fun _ => ⟨hgr, hhs⟩ }
  | callStart c j =>
    refine good_updCall hg h fun cn k hk hgd hcn => ?_
    simp only [Bool.and_eq_true, Bool.not_eq_true', and_assoc] at hgd
    obtain ⟨_, hhs, _, hcl, _⟩ := hgd
    exact ⟨fun _ => hhs, fun h => absurd h (Bool.eq_false_iff.1 hcl),
      { hcn.calls_ok k hk with unstarted := nofun }⟩
  | produce c j =>
    refine good_updCall hg h fun cn k hk hgd hcn => ?_
    simp only [Bool.and_eq_true, Bool.not_eq_true', and_assoc] at hgd
    obtain ⟨hcl, hst, _⟩ := hgd
    have hc := hcn.calls_ok k hk
    refine ⟨fun _ => hcn.started_hs k hk hst, fun h => absurd h (Bool.eq_false_iff.1 hcl), ?_⟩
    unfold Call.produce
    split
    · next ch rest htodo =>
      -- a call the timeout has cut has nothing left to produce
      have hne : k.expired = false := by
        cases he : k.expired with
        | false => rfl
        | true => rw [(hc.expired_eq he).2] at htodo; cases htodo
      refine {
        plan_eq := fun _ => ?_
        expired_eq := fun he => absurd he (Bool.eq_false_iff.1 hne)
        recv_le := ?_
        unstarted := fun hs => absurd hst (Bool.eq_false_iff.1 hs)
        nohead := nofun
        expired_nohead := fun he => absurd he (Bool.eq_false_iff.1 hne) }
      · rw [← hc.plan_eq hne, htodo, List.flatten_cons, List.append_assoc]
      · have := hc.recv_le
        simp only [List.length_append]
        omega
    · exact hc
  | deliver c j =>
    refine good_updCall hg h fun cn k hk hgd hcn => ?_
    simp only [Bool.and_eq_true, Bool.not_eq_true', decide_eq_true_eq, and_assoc] at hgd
    obtain ⟨hcl, _, _, hlt⟩ := hgd
    exact ⟨hcn.started_hs k hk, fun h => absurd h (Bool.eq_false_iff.1 hcl),
      { hcn.calls_ok k hk with recv_le := hlt }⟩
  | expire c j =>
    refine good_updCall hg (Option.ite_none_right_eq_some.1 h).2 fun cn k hk hgd hcn => ?_
    simp only [Bool.and_eq_true, Bool.not_eq_true', and_assoc] at hgd
    obtain ⟨hcl, hst, _, _, hnh, hne⟩ := hgd
    have hc := hcn.calls_ok k hk
    have hsent : k.sent = [] := hc.nohead hnh hne
    refine ⟨fun _ => hcn.started_hs k hk hst, fun h => absurd h (Bool.eq_false_iff.1 hcl), {
      plan_eq := nofun
      expired_eq := fun _ => ⟨by rw [Call.expire, hsent]; rfl, rfl⟩
      recv_le := ?_
      unstarted := fun hs => absurd hst (Bool.eq_false_iff.1 hs)
      nohead := fun _ => nofun
      expired_nohead := fun _ => hnh }⟩
    have := hc.recv_le
    simp only [Call.expire, List.length_append]
    omega

theorem good_reachable {g b a : Bool} {s : State} (h : Reachable g b a s) : Good s := by
  induction h with
  | init t => exact good_init
  | step l _ hs ih => exact good_step ih hs

theorem good_run {s s' : State} {ls : List Label} (hg : Good s) (h : run s ls = some s') :
    Good s' :=
  run_invariant (fun _ _ _ _ hg h => good_step hg h) h hg

end Shutdown
