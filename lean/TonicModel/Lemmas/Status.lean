import TonicModel.Model.Status
import TonicModel.Spec.Status
/-
Lemmas for C04.  Writing: `add_header` never fails, because both encoders emit legal header bytes,
and its block is described name by name and as a reader meets it.  Reading: what the repaired
reader makes of any block whose headers carry the fields, whoever wrote it.  Code strings: the
parser against the spec's table.
-/
namespace Status

theorem b64char_legal : ∀ n : Fin 64, HMap.legalValueByte (B64.b64char n.val) = true := by decide +kernel

theorem b64_encode_legal (pad : Bool) (bs : Bytes) : HMap.legalValue (B64.encode pad bs) = true :=
  B64.all_encode HMap.legalValueByte (fun n h => b64char_legal ⟨n, h⟩) (by decide) pad bs

theorem pct_encode_legal (bs : Bytes) : HMap.legalValue (Pct.encode bs) = true := by
  unfold HMap.legalValue
  rw [List.all_eq_true]
  intro b hb
  have := Pct.encode_visible bs b hb
  simp only [HMap.legalValueByte, Bool.or_eq_true, Bool.and_eq_true, decide_eq_true_eq, bne_iff_ne, beq_iff_eq]
  omega

theorem legalHeaderValue_of_legalValue {w : Bytes} (hw : HMap.legalValue w = true) :
    Spec.Status.legalHeaderValue w = true := by
  simp only [HMap.legalValue, Spec.Status.legalHeaderValue, List.all_eq_true] at hw ⊢
  intro b hb
  have := hw b hb
  simp only [HMap.legalValueByte, Spec.Status.legalHeaderByte, Bool.or_eq_true, Bool.and_eq_true,
    decide_eq_true_eq, bne_iff_ne, beq_iff_eq] at this ⊢
  omega

/-! ### `add_header` never fails; its result as a pure function -/

/-- the header block `add_header` produces from `h0` -/
def wire (v : Variant) (st : St) (h0 : HMap) : HMap :=
  let h1 := HMap.insert GRPC_STATUS st.code.headerValue (HMap.extend h0 (statusMetadata v st.metadata))
  let h2 := if st.message = [] then h1 else HMap.insert GRPC_MESSAGE (Pct.encode st.message) h1
  if st.details = [] then h2 else HMap.insert GRPC_STATUS_DETAILS (B64.encode false st.details) h2

theorem addHeader_eq (v : Variant) (st : St) (h0 : HMap) : addHeader v st h0 = .ok (wire v st h0) := by
  unfold addHeader withMessage withDetails wire
  by_cases hm : st.message = [] <;> by_cases hd : st.details = [] <;>
    simp [hm, hd, pct_encode_legal, b64_encode_legal]

theorem names_ne :
    GRPC_STATUS ≠ GRPC_MESSAGE ∧ GRPC_STATUS ≠ GRPC_STATUS_DETAILS ∧ GRPC_MESSAGE ≠ GRPC_STATUS_DETAILS ∧
    GRPC_STATUS_DETAILS ∉ reservedHeaders ∧ GRPC_STATUS ∈ reservedHeaders ∧ GRPC_MESSAGE ∈ reservedHeaders := by
  rw [reservedHeaders, GRPC_STATUS, GRPC_MESSAGE, GRPC_STATUS_DETAILS, TE, USER_AGENT, CONTENT_TYPE, GRPC_MESSAGE_TYPE]
  repeat rw [HMap.name_lit]
  decide +kernel

theorem contentType_ne : CONTENT_TYPE ≠ GRPC_STATUS ∧ CONTENT_TYPE ≠ GRPC_MESSAGE ∧
    CONTENT_TYPE ≠ GRPC_STATUS_DETAILS := by
  rw [CONTENT_TYPE, GRPC_STATUS, GRPC_MESSAGE, GRPC_STATUS_DETAILS]
  repeat rw [HMap.name_lit]
  decide +kernel

theorem getAll_sanitize (k : Bytes) (m : HMap) :
    HMap.getAll k (sanitize m) = if k ∈ reservedHeaders then [] else HMap.getAll k m :=
  HMap.getAll_removeAll k reservedHeaders m

/-- a name under which `add_header` copies metadata (repaired tree): not reserved, not the
details header -/
def isCustom (k : Bytes) : Bool := !reservedHeaders.contains k && k != GRPC_STATUS_DETAILS

theorem not_custom : isCustom GRPC_STATUS = false ∧ isCustom GRPC_MESSAGE = false ∧
    isCustom GRPC_STATUS_DETAILS = false := by
  obtain ⟨_, _, _, _, rS, rM⟩ := names_ne
  simp [isCustom, rS, rM]

theorem getAll_statusMetadata (k : Bytes) (m : HMap) :
    HMap.getAll k (statusMetadata .fixed m) = if isCustom k then HMap.getAll k m else [] := by
  -- the block is the metadata with the reserved names and then the details name removed
  have := HMap.getAll_removeAll k (reservedHeaders ++ [GRPC_STATUS_DETAILS]) m
  rw [HMap.removeAll, List.foldl_append] at this
  refine Eq.trans this ?_
  by_cases kr : k ∈ reservedHeaders <;> by_cases k3 : k = GRPC_STATUS_DETAILS <;> simp [isCustom, kr, k3]

theorem getAll_extend_statusMetadata (st : St) (h0 : HMap) (k : Bytes) :
    HMap.getAll k (HMap.extend h0 (statusMetadata .fixed st.metadata)) =
      if isCustom k = true ∧ HMap.getAll k st.metadata ≠ [] then HMap.getAll k st.metadata
      else HMap.getAll k h0 := by
  rw [HMap.getAll_extend_of_getAll, getAll_statusMetadata]
  by_cases hc : isCustom k = true
  · by_cases hg : HMap.getAll k st.metadata = [] <;> simp [hc, hg]
  · simp [hc]

theorem getAll_optional_insert (c : Prop) [Decidable c] (k k' v : Bytes) (m : HMap) :
    HMap.getAll k (if c then m else HMap.insert k' v m) =
      if k = k' ∧ ¬ c then [v] else HMap.getAll k m := by
  by_cases hc : c
  · rw [if_pos hc, if_neg (fun h => h.2 hc)]
  · rw [if_neg hc, HMap.getAll_insert]
    simp only [hc, not_false_eq_true, and_true]

theorem getAll_wire (st : St) (h0 : HMap) (k : Bytes) :
    HMap.getAll k (wire .fixed st h0) =
      if k = GRPC_STATUS then [st.code.headerValue]
      else if k = GRPC_MESSAGE ∧ st.message ≠ [] then [Pct.encode st.message]
      else if k = GRPC_STATUS_DETAILS ∧ st.details ≠ [] then [B64.encode false st.details]
      else if isCustom k = true ∧ HMap.getAll k st.metadata ≠ [] then HMap.getAll k st.metadata
      else HMap.getAll k h0 := by
  obtain ⟨n1, n2, n3, _, _, _⟩ := names_ne
  obtain ⟨_, cM, cD⟩ := not_custom
  -- the headers go in in the order status, message, details, so they are met in the reverse order
  rw [wire, getAll_optional_insert, getAll_optional_insert, HMap.getAll_insert,
    getAll_extend_statusMetadata]
  -- the three names differ, so the order of the tests does not matter
  by_cases k1 : k = GRPC_STATUS
  · subst k1; simp [n1, n2]
  by_cases k2 : k = GRPC_MESSAGE
  · subst k2; simp [n1.symm, n3, cM]
  by_cases k3 : k = GRPC_STATUS_DETAILS
  · subst k3; simp [n2.symm, n3.symm, cD]
  · simp [k1, k2, k3]

theorem get_wire (st : St) (h0 : HMap) (hm0 : HMap.getAll GRPC_MESSAGE h0 = [])
    (hd0 : HMap.getAll GRPC_STATUS_DETAILS h0 = []) :
    HMap.get GRPC_STATUS (wire .fixed st h0) = some st.code.headerValue ∧
    HMap.get GRPC_MESSAGE (wire .fixed st h0) =
      (if st.message = [] then none else some (Pct.encode st.message)) ∧
    HMap.get GRPC_STATUS_DETAILS (wire .fixed st h0) =
      (if st.details = [] then none else some (B64.encode false st.details)) := by
  obtain ⟨n1, n2, n3, _, _, _⟩ := names_ne
  obtain ⟨_, cM, cD⟩ := not_custom
  refine ⟨?_, ?_, ?_⟩
  · rw [HMap.get, getAll_wire, if_pos rfl]; rfl
  · rw [HMap.get, getAll_wire, if_neg n1.symm]
    by_cases hm : st.message = [] <;> simp [hm, n3, cM, hm0]
  · rw [HMap.get, getAll_wire, if_neg n2.symm]
    by_cases hd : st.details = [] <;> simp [hd, n3.symm, cD, hd0]

/-! ### reading -/

theorem get_status_block {others : HMap} (cv mv dv : Bytes)
    (ho : HMap.getAll GRPC_STATUS others = [] ∧ HMap.getAll GRPC_MESSAGE others = [] ∧
          HMap.getAll GRPC_STATUS_DETAILS others = []) :
    let b := others ++ [(GRPC_STATUS, cv), (GRPC_MESSAGE, mv), (GRPC_STATUS_DETAILS, dv)]
    HMap.get GRPC_STATUS b = some cv ∧ HMap.get GRPC_MESSAGE b = some mv ∧
      HMap.get GRPC_STATUS_DETAILS b = some dv := by
  obtain ⟨n1, n2, n3, _, _, _⟩ := names_ne
  simp [HMap.get, HMap.getAll_append_list, ho, HMap.getAll_cons, HMap.getAll_nil, n1, n2, n3]

/-- the three status headers removed — what `from_header_map` keeps as metadata -/
def stripStatus (h : HMap) : HMap :=
  HMap.remove GRPC_STATUS_DETAILS (HMap.remove GRPC_MESSAGE (HMap.remove GRPC_STATUS h))

theorem getAll_stripStatus (k : Bytes) (h : HMap) :
    HMap.getAll k (stripStatus h) =
      if k = GRPC_STATUS ∨ k = GRPC_MESSAGE ∨ k = GRPC_STATUS_DETAILS then [] else HMap.getAll k h := by
  -- `stripStatus h` is `removeAll` of the three names, by definition
  have := HMap.getAll_removeAll k [GRPC_STATUS, GRPC_MESSAGE, GRPC_STATUS_DETAILS] h
  simp only [List.mem_cons, List.not_mem_nil, or_false] at this
  exact this

theorem fromHeaderMap_fixed_status (h : HMap) (cv : Bytes) (hget : HMap.get GRPC_STATUS h = some cv) :
    ∃ st', fromHeaderMap .fixed h = some (.status st') ∧ st'.metadata = stripStatus h := by
  unfold fromHeaderMap stripStatus
  simp only [hget]
  split <;> (refine ⟨_, rfl, ?_⟩; rfl)

/-- Header `k` of `h` carries the field value `x`: no header for the empty value (an empty field
is not written, an absent header reads as empty), else a value that `dec` turns into `x`. -/
def Carries (dec : Bytes → Option Bytes) (k : Bytes) (h : HMap) (x : Bytes) : Prop :=
  match HMap.get k h with
  | none => x = []
  | some w => dec w = some x

theorem carries_some {dec : Bytes → Option Bytes} {k : Bytes} {h : HMap} {x w : Bytes}
    (hg : HMap.get k h = some w) (hd : dec w = some x) : Carries dec k h x := by
  rw [Carries, hg]; exact hd

theorem carries_optional {dec : Bytes → Option Bytes} {k : Bytes} {h : HMap} {x w : Bytes}
    (hg : HMap.get k h = if x = [] then none else some w) (hd : dec w = some x) : Carries dec k h x := by
  by_cases hx : x = []
  · rw [Carries, hg, if_pos hx]; exact hx
  · rw [if_neg hx] at hg; exact carries_some hg hd

theorem fromHeaderMap_fixed_of_carries {h : HMap} {cv msg det : Bytes}
    (hS : HMap.get GRPC_STATUS h = some cv) (hutf : Utf8.valid msg = true)
    (hM : Carries (fun w => some (Pct.decode w)) GRPC_MESSAGE h msg)
    (hD : Carries B64.decode GRPC_STATUS_DETAILS h det) :
    fromHeaderMap .fixed h = some (.status
      { code := Code.fromBytes cv, message := msg, details := det, metadata := stripStatus h }) := by
  have hv : Utf8.validate msg = none := by simpa [Utf8.valid] using hutf
  unfold Carries at hM hD
  unfold fromHeaderMap decodeMessage stripStatus
  rw [hS]
  cases gM : HMap.get GRPC_MESSAGE h <;> cases gD : HMap.get GRPC_STATUS_DETAILS h <;>
    simp only [gM, gD, Option.some.injEq] at hM hD <;> subst hM <;> simp only [hD, hv]

/-! ### code strings -/

theorem fromBytes_headerValue (c : Code) : Code.fromBytes c.headerValue = c := by
  cases c <;> rfl

theorem headerValue_eq_decimal (c : Code) : c.headerValue = decimal c.num ∧ c.num < 17 := by
  cases c <;> decide

theorem ite_eq_cases {α : Type} {p : Prop} [Decidable p] {x r c : α} (h : (if p then x else r) = c) :
    (p ∧ x = c) ∨ r = c := by
  split at h
  · exact Or.inl ⟨‹p›, h⟩
  · exact Or.inr h

theorem eq_headerValue_of_fromBytes {bs : Bytes} {c : Code} (h : Code.fromBytes bs = c)
    (hc : c ≠ .unknown) : bs = c.headerValue := by
  -- every arm of the parser's table tests for equality with exactly one code's header value
  unfold Code.fromBytes at h
  split at h
  · repeat (rcases ite_eq_cases h with ⟨rfl, rfl⟩ | h; · rfl)
    exact absurd h.symm hc
  · rcases ite_eq_cases h with ⟨rfl, h2⟩ | h2
    · repeat (rcases ite_eq_cases h2 with ⟨rfl, rfl⟩ | h2; · rfl)
      exact absurd h2.symm hc
    · exact absurd h2.symm hc
  · exact absurd h.symm hc

theorem codeOfString_none (bs : Bytes) (h : ∀ n : Fin 17, decimal n.val ≠ bs) :
    Spec.Status.codeOfString bs = none := by
  unfold Spec.Status.codeOfString
  rw [List.find?_eq_none]
  intro n hn
  simpa using h ⟨n, List.mem_range.mp hn⟩

theorem canonical_codes : ∀ n : Fin 17,
    (Code.fromBytes (decimal n.val)).num = n.val ∧ Spec.Status.codeOfString (decimal n.val) = some n.val := by
  decide +kernel

theorem u8_ofNat_toNat (a : UInt8) : UInt8.ofNat a.toNat = a := by simp

theorem fromBytes_is_spec (bs : Bytes) : (Code.fromBytes bs).num = Spec.Status.readCode bs := by
  unfold Spec.Status.readCode
  by_cases h : ∃ n : Fin 17, decimal n.val = bs
  · obtain ⟨n, rfl⟩ := h
    rw [(canonical_codes n).1, (canonical_codes n).2]
    rfl
  · have hu : Code.fromBytes bs = .unknown := by
      apply Decidable.byContradiction
      intro hc
      obtain ⟨hd, hlt⟩ := headerValue_eq_decimal (Code.fromBytes bs)
      exact h ⟨⟨_, hlt⟩, ((eq_headerValue_of_fromBytes rfl hc).trans hd).symm⟩
    rw [hu, codeOfString_none bs (fun n hn => h ⟨n, hn⟩)]
    rfl

end Status
