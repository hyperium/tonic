import TonicModel.Lemmas.CompressionClient
/-
A tonic client against a tonic server: each side reads what the other side's sending half wrote.
-/
namespace Compression
open CompObs Spec.Compression

theorem prepareRequest_nil (ccfg : CliCfg) (n : Nat) :
    prepareRequest ccfg [] [] n =
      ((ccfg.send.map name).toList, (acceptHeaderValue ccfg.accept).toList,
        List.replicate n (outFrame ccfg.send false)) := by
  rw [prepareRequest]
  cases ccfg.send with
  | none => cases acceptHeaderValue ccfg.accept <;> rfl
  | some e => cases e <;> cases acceptHeaderValue ccfg.accept <;> rfl

theorem fromEncodingHeader_sent {s : Slots} {l : List Enc} (h : Agree s l) (send : Option Enc) :
    fromEncodingHeader (send.map name).toList s =
      if pairRefused send l then .error (acceptValueBody s ++ identityName) else .ok send := by
  rw [fromEncodingHeader_eq h]
  cases send with
  | none => rfl
  | some e =>
    rw [show ((some e).map name).toList = [name e] from rfl, recv_name, pairRefused]
    cases l.contains e <;> rfl

theorem decodeAll_outFrame (enc : Option Enc) (d : Bool) (m : Nat) :
    decodeAll enc (List.replicate m (outFrame enc d)) = (List.replicate m Form.raw).map .ok := by
  have hf : decodeFrame enc (outFrame enc d) = .ok .raw := by
    cases enc with
    | none => rfl
    | some e =>
      cases d with
      | false => exact decodeFrame_flag1_z e rfl rfl
      | true => rfl
  induction m with
  | zero => rfl
  | succ m ih => rw [List.replicate_succ, decodeAll_cons_ok hf, ih]; rfl

theorem visible_accept (s : Slots) : toStrOk (acceptValueBody s ++ identityName) = true := by
  induction s with
  | nil => decide
  | cons a s ih =>
    cases a with
    | none => exact ih
    | some e =>
      have he : (asStr e ++ [44]).all Ascii.isVisible = true := by cases e <;> decide
      rw [acceptValueBody, List.append_assoc, toStrOk, List.all_append, he]
      exact ih

theorem findSome_names (p : Enc → Bool) (l : List Enc) :
    (l.map name ++ [identity]).findSome? (fun t => (nameOf? t).filter p) = l.find? p := by
  induction l with
  | nil => rfl
  | cons a l ih =>
    rw [List.map_cons, List.cons_append, List.findSome?_cons, nameOf_name, List.find?_cons, ih,
      Option.filter_some]
    cases p a <;> rfl

theorem fromAccept_of_client (cacc sndS : Slots) (sSend : List Enc) (hS : Agree sndS sSend) :
    fromAcceptEncodingHeader (acceptHeaderValue cacc).toList sndS =
      (enabledList cacc).find? (fun e => sSend.contains e) := by
  rw [acceptHeaderValue_eq]
  by_cases hb : enabledList cacc = []
  · rw [if_pos hb, hb]
    exact fromAccept_nil
  · rw [if_neg hb]
    exact (fromAccept_spec hS (visible_accept cacc)).trans
      ((congrArg _ (acceptValue_tokens cacc)).trans (findSome_names _ _))

variable {ccfg : CliCfg} {accS sndS : Slots} {cAccept sAccept sSend : List Enc} {shape : Shape} {k : Nat}
  {h : Handler}

theorem pair_fst (hA : Agree accS sAccept) (hS : Agree sndS sSend) :
    (pair ccfg accS sndS shape k h).1 =
      if pairRefused ccfg.send sAccept then
        errorResponse false [] 12 .unsupported [acceptValueBody accS ++ identityName]
      else respond shape (pairResponseEnc (enabledList ccfg.accept) sSend) h
        (List.replicate (if shape.singleRequest then 1 else k) (.ok .raw)) := by
  have hE := fromEncodingHeader_sent hA ccfg.send
  rw [pair]
  dsimp only
  rw [prepareRequest_nil]
  by_cases href : pairRefused ccfg.send sAccept = true
  · rw [if_pos href] at hE ⊢
    exact serve_refused hE
  · rw [if_neg href] at hE ⊢
    refine (serve_oks hE (decodeAll_outFrame ..)).trans ?_
    dsimp only
    rw [fromAccept_of_client _ _ _ hS, List.map_replicate]
    cases shape.singleRequest <;> rfl

theorem call_of_error (called : Bool) (saw : List Item) (c : Nat) (cls : ErrCls) (acc : List Bytes) :
    call ccfg shape [] [] k (respOf (errorResponse called saw (c + 1) cls acc)) =
      callObs ccfg shape [] [] k [.err (c + 1) cls] acc :=
  call_ok (resp := respOf (errorResponse called saw (c + 1) cls acc)) (neg := none) rfl

theorem call_of_reply (hC : Agree ccfg.accept cAccept) (n : Nat) (dis : Bool) {chosen : Option Enc}
    (saw : List Item) (hch : ∀ e, chosen = some e → e ∈ cAccept) :
    (call ccfg shape [] [] k (respOf (respond shape chosen (.reply n dis []) saw))).result =
      List.replicate (if shape.singleResponse then 1 else n) (.ok .raw) := by
  have hE : fromEncodingHeader (chosen.map name).toList ccfg.accept = .ok chosen := by
    rw [fromEncodingHeader_sent hC, if_neg]
    cases chosen with
    | none => nofun
    | some e => simp [pairRefused, hch e rfl]
  rw [respond_reply, call_plain (resp := respOf (⟨true, saw, (chosen.map name).toList, [], .trl, 0, .none,
        List.replicate (if shape.singleResponse then 1 else n)
          (outFrame chosen (dis && shape.singleResponse))⟩ : SrvObs)) hE rfl,
    clientItems_oks (decodeAll_outFrame ..) (Or.inr rfl), collapse_oks, List.map_replicate]
  cases shape.singleResponse <;> rfl

theorem pair_ok (hCl : enabledList ccfg.accept = cAccept)
    (hA : Agree accS sAccept) (hS : Agree sndS sSend) (hmd : h.forges = false) :
    pairOk ccfg.send cAccept sAccept sSend shape k h
      (pair ccfg accS sndS shape k h).1 (pair ccfg accS sndS shape k h).2 = true := by
  subst hCl
  have hC := agree_enabledList ccfg.accept
  have hso := pair_fst (ccfg := ccfg) (shape := shape) (k := k) (h := h) hA hS
  unfold pairOk
  rw [show (pair ccfg accS sndS shape k h).2 =
    call ccfg shape [] [] k (respOf (pair ccfg accS sndS shape k h).1) from rfl]
  generalize (pair ccfg accS sndS shape k h).1 = so at hso ⊢
  generalize (List.replicate (if shape.singleRequest = true then 1 else k) (Item.ok Form.raw)) = saw at hso ⊢
  rw [cliSend_of_sent call_sent, cliAdvertise_of_sent hC call_sent]
  by_cases href : pairRefused ccfg.send sAccept = true
  · rw [if_pos href] at hso
    rw [if_pos href, hso, call_of_error]
    simp only [callObs, acceptListOk_model hA]
    rfl
  · rw [if_neg href] at hso
    rw [if_neg href, hso]
    cases h with
    | fail c =>
      rw [respond_fail]
      cases c with
      | zero => simp only [errorResponse, beq_self_eq_true, Bool.and_self, Bool.true_or]
      | succ c =>
        rw [call_of_error]
        simp only [errorResponse, callObs, beq_self_eq_true, Bool.and_self, Bool.or_true]
    | reply n dis md =>
      obtain rfl := reply_of_not_forges hmd
      have hann := respond_announce (shape := shape)
        (chosen := pairResponseEnc (enabledList ccfg.accept) sSend) (h := .reply n dis []) saw
      rw [srvAnnounce] at hann
      rw [call_of_reply hC n dis (chosen := pairResponseEnc (enabledList ccfg.accept) sSend) saw
        fun e he => List.mem_of_find?_eq_some he, hann, respond_reply]
      simp only [beq_self_eq_true, Bool.and_self]

end Compression
