import TonicModel.Model.Health
import TonicModel.Spec.Health
import TonicModel.Lemmas.HealthSpec
/-
The model of tonic-health's table of watch channels (`Model/Health`): what each operation does
to the table, the simulation `Sim` between the table and the log-scanning oracle, kept by every
step, and what it gives for a run from `init`: the model answers as the oracle does
(`answer_spec`), a settled stream has reported the latest status (`answer_next`), every trace is
allowed (`allowedTrace_run`).
-/
namespace Health
open Spec.Health

theorem lookup_cons (m n : Name) (i : Nat) (r : List (Name × Nat)) :
    lookup m ((n, i) :: r) = if n = m then some i else lookup m r := rfl

theorem lookup_erase (m n : Name) (r : List (Name × Nat)) :
    lookup m (erase n r) = if m = n then none else lookup m r := by
  induction r with
  | nil => simp [erase, lookup]
  | cons p r ih =>
    obtain ⟨k, i⟩ := p
    rw [erase, lookup_cons]
    by_cases hk : k = n
    · subst hk
      rw [if_pos rfl, ih]
      by_cases hm : m = k
      · rw [if_pos hm, if_pos hm]
      · rw [if_neg hm, if_neg hm, if_neg fun e => hm e.symm]
    · rw [if_neg hk, lookup_cons, ih]
      by_cases hm : k = m
      · rw [if_pos hm, if_pos hm, if_neg (hm ▸ hk)]
      · rw [if_neg hm, if_neg hm]

variable {s : H} {n : Name} {i w : Nat} {wt : Watcher} {c : Chan}

theorem step_set_some (hl : lookup n s.reg = some i) (st : St) :
    step s (.set n st) = ({ s with chans := s.chans.modify i (·.send st) }, .done) := by
  simp only [step, hl]

theorem step_set_none (hl : lookup n s.reg = none) (st : St) :
    step s (.set n st) =
      ({ s with chans := s.chans ++ [⟨st, 0, false⟩], reg := (n, s.chans.length) :: s.reg }, .done) := by
  simp only [step, hl]

theorem step_clear_some (hl : lookup n s.reg = some i) :
    step s (.clear n) = ({ s with chans := s.chans.modify i Chan.close, reg := erase n s.reg }, .done) := by
  simp only [step, hl]

theorem step_clear_none (hl : lookup n s.reg = none) : step s (.clear n) = (s, .done) := by
  simp only [step, hl]

theorem step_check (s : H) (n : Name) : (step s (.check n)).1 = s := by
  simp only [step]; split <;> rfl

theorem step_watch_some (hl : lookup n s.reg = some i) :
    step s (.watch n) = ({ s with watchers := s.watchers ++ [some ⟨i, none⟩] }, .subscribed) := by
  simp only [step, hl]

theorem step_watch_none (hl : lookup n s.reg = none) :
    step s (.watch n) = ({ s with watchers := s.watchers ++ [none] }, .notFound) := by
  simp only [step, hl]

theorem step_next_some (hw : s.watchers[w]? = some (some wt)) (hc : s.chans[wt.chan]? = some c) :
    step s (.next w) =
      if wt.seen = some c.version then (s, if c.closed then .ended else .pending)
      else ({ s with watchers := s.watchers.set w (some { wt with seen := some c.version }) },
        .value c.value) := by
  simp only [step, hw, hc]

theorem step_next_cases (s : H) (w : Nat) :
    (∃ wt c, s.watchers[w]? = some (some wt) ∧ s.chans[wt.chan]? = some c) ∨
      step s (.next w) = (s, .noWatcher) := by
  rw [step]
  split
  · next wt hw =>
    split
    · next c hc => exact .inl ⟨wt, c, hw, hc⟩
    · exact .inr rfl
  · exact .inr rfl

theorem step_next_none (hw : ∀ wt, s.watchers[w]? ≠ some (some wt)) :
    step s (.next w) = (s, .noWatcher) :=
  (step_next_cases s w).resolve_left fun ⟨wt, _, h, _⟩ => hw wt h

theorem step_drop_some (hw : s.watchers[w]? = some (some wt)) :
    step s (.drop w) = ({ s with watchers := s.watchers.set w none }, .done) := by
  simp only [step, hw]

theorem step_drop_none (hw : ∀ wt, s.watchers[w]? ≠ some (some wt)) :
    step s (.drop w) = (s, .noWatcher) := by
  rw [step]
  split
  · next wt h => exact absurd h (hw wt)
  · rfl

theorem exec_append (s : H) (a b : List Op) : exec s (a ++ b) = exec (exec s a) b := by
  induction a generalizing s with
  | nil => rfl
  | cons op a ih => exact ih _

theorem run_append (s : H) (a b : List Op) : run s (a ++ b) = run s a ++ run (exec s a) b := by
  induction a generalizing s with
  | nil => rfl
  | cons op a ih => exact congrArg ((step s op).2 :: ·) (ih _)

/-! ### the simulation relation -/

/-- Stream `w` of the model (its channel `c`, its `seen` mark) agrees with what the log says
about it: the name `n` it watches, the status `s0` at subscription, the events `l` since. -/
structure StreamOK (reg : List (Name × Nat)) (wt : Watcher) (c : Chan) (n : Name) (s0 : St) (l : Hist)
    (w : Nat) : Prop where
  closed_eq : c.closed = closed n l
  live_reg : c.closed = false → lookup n reg = some wt.chan
  value_eq : c.value = latest n s0 l
  seen_none : wt.seen = none → hasReported w l = false
  /-- The idea of the simulation: tokio's version counter stands for "no `set` of `n` since the
  stream's last report" (`fresh`). -/
  seen_some : ∀ x, wt.seen = some x →
    hasReported w l = true ∧ x ≤ c.version ∧ (x = c.version ↔ fresh n w l = false)
  reported : wt.seen = some c.version → lastReported w l = some c.value

/-- The table agrees with the log: a registered name has an open channel of its own that holds
the name's status, an unregistered name has no status. -/
structure Table (chans : List Chan) (reg : List (Name × Nat)) (h : Hist) : Prop where
  live : ∀ n i, lookup n reg = some i →
    ∃ c, chans[i]? = some c ∧ c.closed = false ∧ current h n = some c.value
  absent : ∀ n, lookup n reg = none → current h n = none
  inj : ∀ n m i, lookup n reg = some i → lookup m reg = some i → n = m

/-- Slot `w` holds a stream exactly when the log has a view of stream `w`, and then the two
agree. -/
inductive Slot (ws : List (Option Watcher)) (chans : List Chan) (reg : List (Name × Nat))
    (h : Hist) (w : Nat) : Prop
  | stream (wt : Watcher) (c : Chan) (v : View) (hw : ws[w]? = some (some wt))
      (hc : chans[wt.chan]? = some c) (hv : view h w = some v)
      (k : StreamOK reg wt c v.name v.start v.evs w)
  | empty (hw : ∀ wt, ws[w]? ≠ some (some wt)) (hv : view h w = none)

/-- The simulation relation: the model state `s` agrees with the log `h` of the operations that
led to it — the table with the names' statuses, the number of slots with the number of Watch
calls, every slot with the log's view of its stream. -/
structure Sim (s : H) (h : Hist) : Prop where
  table : Table s.chans s.reg h
  nwatch : s.watchers.length = numWatches h
  slot : ∀ w, Slot s.watchers s.chans s.reg h w

namespace StreamOK
variable {reg reg' : List (Name × Nat)} {s0 : St} {l : Hist}

theorem settled_iff (k : StreamOK reg wt c n s0 l w) :
    wt.seen = some c.version ↔ hasReported w l = true ∧ fresh n w l = false := by
  constructor
  · intro hseen
    obtain ⟨h1, -, h3⟩ := k.seen_some _ hseen
    exact ⟨h1, h3.mp rfl⟩
  · rintro ⟨h1, h2⟩
    cases hseen : wt.seen with
    | none => rw [k.seen_none hseen] at h1; cases h1
    | some x => rw [(k.seen_some x hseen).2.2.mpr h2]

theorem init (hopen : c.closed = false) (hl : lookup n reg = some i) :
    StreamOK reg ⟨i, none⟩ c n c.value [] w :=
  ⟨hopen, fun _ => hl, rfl, fun _ => rfl, fun _ h => (nomatch h), fun h => (nomatch h)⟩

/-- The event may be the `clear` of `n`: `b` is the closed flag afterwards. -/
theorem push_quiet (k : StreamOK reg wt c n s0 l w) (e : Ev) (hr : isReport w e = false)
    (hidle : closed n l = true ∨ ∀ s, e.1 ≠ Op.set n s) {b : Bool} (hb : b = closed n (e :: l))
    (hlive : b = false → lookup n reg' = some wt.chan) :
    StreamOK reg' wt { c with closed := b } n s0 (e :: l) w where
  closed_eq := hb
  live_reg := hlive
  value_eq := by rw [latest_cons_idle hidle]; exact k.value_eq
  seen_none hs := by rw [hasReported_cons, hr, k.seen_none hs]; rfl
  seen_some x hs := by rw [hasReported_cons, hr, fresh_cons_idle hr hidle]; exact k.seen_some x hs
  reported hs := by rw [lastReported_cons_other hr]; exact k.reported hs

/-- `h` is asked of an open channel only: a closed one belongs to a name cleared earlier, whose
later `set` opens another channel and passes this stream by (the last case of `sim_update`). -/
theorem push_idle (k : StreamOK reg wt c n s0 l w) (e : Ev) (hr : isReport w e = false)
    (h : c.closed = false →
      (∀ s, e.1 ≠ Op.set n s) ∧ e.1 ≠ Op.clear n ∧ lookup n reg' = lookup n reg) :
    StreamOK reg' wt c n s0 (e :: l) w := by
  obtain ⟨hcl, hidle⟩ := closed_cons_quiet (e := e) fun hc =>
    ⟨(h (k.closed_eq.trans hc)).1, (h (k.closed_eq.trans hc)).2.1⟩
  exact k.push_quiet e hr hidle (k.closed_eq.trans hcl.symm) fun hc => by
    rw [(h hc).2.2]; exact k.live_reg hc

theorem push_set (k : StreamOK reg wt c n s0 l w) (hopen : c.closed = false) (st : St) (r : Resp) :
    StreamOK reg wt (c.send st) n s0 ((Op.set n st, r) :: l) w := by
  have hcl : closed n l = false := by rw [← k.closed_eq]; exact hopen
  have hrep : isReport w (Op.set n st, r) = false := isReport_of_ne (by simp)
  have hlt (x : Nat) (hs : wt.seen = some x) : x < c.version + 1 :=
    Nat.lt_succ_of_le (k.seen_some x hs).2.1
  constructor
  · show c.closed = _; rw [closed_cons, hcl, hopen]; rfl
  · intro _; exact k.live_reg hopen
  · exact (latest_cons_set hcl s0 st r).symm
  · intro hs; rw [hasReported_cons, hrep, k.seen_none hs]; rfl
  · intro x hs
    rw [hasReported_cons, hrep, (k.seen_some x hs).1, fresh_cons_set hcl]
    exact ⟨rfl, Nat.le_of_lt (hlt x hs), fun e => absurd e (Nat.ne_of_lt (hlt x hs)), fun e => nomatch e⟩
  · intro hs; exact absurd rfl (Nat.ne_of_lt (hlt _ hs))

theorem push_clear (k : StreamOK reg wt c n s0 l w) (r : Resp) :
    StreamOK reg' wt c.close n s0 ((Op.clear n, r) :: l) w :=
  k.push_quiet _ (isReport_of_ne (by simp)) (.inr (by simp)) (by rw [closed_cons]; simp)
    fun h => nomatch h

theorem push_report (k : StreamOK reg wt c n s0 l w) :
    StreamOK reg { wt with seen := some c.version } c n s0 ((Op.next w, Resp.value c.value) :: l) w := by
  have hrep : isReport w (Op.next w, Resp.value c.value) = true := isReport_iff.mpr ⟨_, rfl⟩
  constructor
  · rw [closed_cons]; simpa using k.closed_eq
  · exact k.live_reg
  · rw [latest_cons_idle (.inr (by simp))]; exact k.value_eq
  · intro h; cases h
  · intro x h
    cases h
    rw [hasReported_cons, hrep, fresh_cons_report hrep]
    exact ⟨rfl, Nat.le_refl _, by simp⟩
  · intro _; exact lastReported_cons_report w _ l

end StreamOK

theorem Table.congr {chans : List Chan} {reg : List (Name × Nat)} {h h' : Hist}
    (t : Table chans reg h) (hcur : ∀ m, current h' m = current h m) : Table chans reg h' :=
  ⟨fun m j hm => by rw [hcur]; exact t.live m j hm, fun m hm => by rw [hcur]; exact t.absent m hm,
    t.inj⟩

theorem Slot.cons_idle {ws ws' : List (Option Watcher)} {chans : List Chan}
    {reg : List (Name × Nat)} {h : Hist} (sl : Slot ws chans reg h w) (e : Ev)
    (hws : ws'[w]? = ws[w]?) (hupd : ∀ n, (∀ st, e.1 ≠ Op.set n st) ∧ e.1 ≠ Op.clear n)
    (hopen : (∀ n, e.1 ≠ Op.watch n) ∨ numWatches h ≠ w)
    (hd : e.1 = Op.drop w → ∀ wt, ws[w]? ≠ some (some wt)) (hr : isReport w e = false) :
    Slot ws' chans reg (e :: h) w := by
  cases sl with
  | empty hw hv => exact .empty (by rwa [hws]) (view_none_cons hv e hopen)
  | stream wt c v hw hc hv k =>
    exact .stream wt c _ (by rwa [hws]) hc (view_push hv e fun he => hd he wt hw)
      (k.push_idle e hr fun _ => ⟨(hupd _).1, (hupd _).2, rfl⟩)

/-! ### every operation preserves the simulation -/

variable {h : Hist}

theorem sim_idle (hs : Sim s h) (e : Ev) (hupd : ∀ n, (∀ st, e.1 ≠ Op.set n st) ∧ e.1 ≠ Op.clear n)
    (hw : ∀ n, e.1 ≠ Op.watch n) (hd : ∀ w, e.1 = Op.drop w → ∀ wt, s.watchers[w]? ≠ some (some wt))
    (hrep : ∀ w, isReport w e = false) : Sim s (e :: h) :=
  ⟨hs.table.congr fun m => current_cons_ne _ _ _ (hupd m).1 (hupd m).2,
    by rw [numWatches_cons_other _ _ hw]; exact hs.nwatch,
    fun w => (hs.slot w).cons_idle e rfl hupd (.inl hw) (hd w) (hrep w)⟩

private theorem getElem?_concat_ne {α : Type} {l : List α} {j : Nat} (x : α) (hj : j ≠ l.length) :
    (l ++ [x])[j]? = l[j]? := by
  rcases Nat.lt_or_gt_of_ne hj with hlt | hgt
  · exact List.getElem?_append_left hlt
  · rw [List.getElem?_eq_none (by simp; omega), List.getElem?_eq_none (by omega)]

/-- The frame of an event that concerns slot `w` alone: the table and every other slot pass it
by; left to the caller is what becomes of slot `w` (`own`). -/
theorem sim_slot (hs : Sim s h) {e : Ev} {ws' : List (Option Watcher)}
    (he : e.1 = .next w ∨ e.1 = .drop w ∨ (∃ n, e.1 = .watch n) ∧ numWatches h = w)
    (hlen : ws'.length = numWatches (e :: h)) (hws : ∀ w', w' ≠ w → ws'[w']? = s.watchers[w']?)
    (own : Slot ws' s.chans s.reg (e :: h) w) : Sim ⟨s.chans, s.reg, ws'⟩ (e :: h) := by
  obtain ⟨hupd, hopen, hother⟩ : (∀ n, (∀ st, e.1 ≠ Op.set n st) ∧ e.1 ≠ Op.clear n) ∧
      ((∀ n, e.1 ≠ Op.watch n) ∨ numWatches h = w) ∧
      ∀ w', e.1 = Op.drop w' ∨ e.1 = Op.next w' → w' = w := by
    -- with `e.1` known, each part compares constructors and their `w`
    rcases he with he | he | ⟨⟨n, he⟩, rfl⟩ <;> rw [he] <;> simp
  refine ⟨hs.table.congr fun m => current_cons_ne _ _ _ (hupd m).1 (hupd m).2, hlen, fun w' => ?_⟩
  by_cases hww : w' = w
  · exact hww ▸ own
  · exact (hs.slot w').cons_idle e (hws w' hww) hupd
      (hopen.imp_right fun hn e' => hww (e'.symm.trans hn))
      (fun hd => absurd (hother w' (.inl hd)) hww)
      (isReport_of_ne fun hn => hww (hother w' (.inr hn)))

/-- The frame of a `set` / `clear` of `n`: every other name keeps its entry and its channel
(`hreg`, `other`) and every stream that is not on `n`'s channel passes the event by; left to the
caller is what becomes of `n`'s entry (`entry`, `noEntry`) and of the streams on its channel
(`own`). -/
theorem sim_update (hs : Sim s h) {e : Ev} {chans' : List Chan} {reg' : List (Name × Nat)}
    (he : (∃ st, e.1 = Op.set n st) ∨ e.1 = Op.clear n)
    (hreg : ∀ m, m ≠ n → lookup m reg' = lookup m s.reg)
    (other : ∀ j c, s.chans[j]? = some c → lookup n s.reg ≠ some j → chans'[j]? = some c)
    (entry : ∀ i, lookup n reg' = some i →
      (∃ c, chans'[i]? = some c ∧ c.closed = false ∧ current (e :: h) n = some c.value) ∧
      ∀ m, m ≠ n → lookup m s.reg ≠ some i)
    (noEntry : lookup n reg' = none → current (e :: h) n = none)
    (own : ∀ wt c s0 l w, lookup n s.reg = some wt.chan → s.chans[wt.chan]? = some c →
      c.closed = false → StreamOK s.reg wt c n s0 l w →
      ∃ c', chans'[wt.chan]? = some c' ∧ StreamOK reg' wt c' n s0 (e :: l) w) :
    Sim ⟨chans', reg', s.watchers⟩ (e :: h) := by
  obtain ⟨hupd, hw, hd, hr⟩ : (∀ m, m ≠ n → (∀ st, e.1 ≠ Op.set m st) ∧ e.1 ≠ Op.clear m) ∧
      (∀ m, e.1 ≠ Op.watch m) ∧ (∀ w, e.1 ≠ Op.drop w) ∧ ∀ w, e.1 ≠ Op.next w := by
    rcases he with ⟨st, he⟩ | he <;> rw [he] <;>
      exact ⟨fun m hm => by simp [Ne.symm hm], by simp, by simp, by simp⟩
  have hcur {m : Name} (hmn : m ≠ n) : current (e :: h) m = current h m :=
    current_cons_ne _ _ _ (hupd m hmn).1 (hupd m hmn).2
  have back {m : Name} {j : Nat} (hmn : m ≠ n) (hm : lookup m reg' = some j) :
      lookup m s.reg = some j := (hreg m hmn).symm.trans hm
  refine ⟨⟨fun m j hm => ?_, fun m hm => ?_, fun m m' j hm hm' => ?_⟩,
    by rw [numWatches_cons_other _ _ hw]; exact hs.nwatch, fun w => ?_⟩
  · by_cases hmn : m = n
    · subst hmn; exact (entry j hm).1
    · obtain ⟨c, hc, hccl, hc'⟩ := hs.table.live m j (back hmn hm)
      exact ⟨c, other j c hc fun hn => hmn (hs.table.inj m n j (back hmn hm) hn), hccl,
        by rw [hcur hmn]; exact hc'⟩
  · by_cases hmn : m = n
    · subst hmn; exact noEntry hm
    · rw [hcur hmn]; exact hs.table.absent m ((hreg m hmn).symm.trans hm)
  · by_cases hmn : m = n <;> by_cases hmn' : m' = n
    · exact hmn.trans hmn'.symm
    · subst hmn; exact absurd (back hmn' hm') ((entry j hm).2 m' hmn')
    · subst hmn'; exact absurd (back hmn hm) ((entry j hm').2 m hmn)
    · exact hs.table.inj m m' j (back hmn hm) (back hmn' hm')
  · cases hs.slot w with
    | empty hw' hv => exact .empty hw' (view_none_cons hv _ (.inl hw))
    | stream wt c v hw' hc hv k =>
      have hv' := view_push hv e (hd w)
      by_cases hl : lookup n s.reg = some wt.chan
      · -- the channel registered for `n` is open, so the stream's name is `n`
        obtain ⟨c0, hc0, hopen, -⟩ := hs.table.live n _ hl
        obtain rfl : c0 = c := Option.some.inj (hc0.symm.trans hc)
        obtain rfl : v.name = n := hs.table.inj _ _ _ (k.live_reg hopen) hl
        obtain ⟨c', hc', k'⟩ := own wt c0 _ _ w hl hc hopen k
        exact .stream wt c' _ hw' hc' hv' k'
      · have hne (ho : c.closed = false) : v.name ≠ n := fun e' => hl (e' ▸ k.live_reg ho)
        exact .stream wt c _ hw' (other _ c hc hl) hv'
          (k.push_idle _ (isReport_of_ne (hr w)) fun ho =>
            ⟨(hupd _ (hne ho)).1, (hupd _ (hne ho)).2, hreg _ (hne ho)⟩)

theorem sim_set (hs : Sim s h) (n : Name) (st : St) :
    Sim (step s (.set n st)).1 ((.set n st, (step s (.set n st)).2) :: h) := by
  cases hl : lookup n s.reg with
  | some i =>
    obtain ⟨c0, hc0, hopen, -⟩ := hs.table.live n i hl
    rw [step_set_some hl]
    refine sim_update hs (.inl ⟨st, rfl⟩) (hreg := fun _ _ => rfl)
      (other := fun j c hc hj => by
        rw [List.getElem?_modify_ne _ _ fun (e : i = j) => hj (e ▸ hl)]; exact hc)
      (entry := fun j hj => ?_) (noEntry := fun hn => by rw [hl] at hn; cases hn)
      (own := fun wt c s0 l w hlw hc ho k => ?_)
    · obtain rfl : i = j := Option.some.inj (hl.symm.trans hj)
      exact ⟨⟨c0.send st, by rw [List.getElem?_modify_eq, hc0]; rfl, hopen, if_pos rfl⟩,
        fun m hmn hm => hmn (hs.table.inj m n i hm hl)⟩
    · obtain rfl : i = wt.chan := Option.some.inj (hl.symm.trans hlw)
      exact ⟨c.send st, by rw [List.getElem?_modify_eq, hc]; rfl, k.push_set ho st _⟩
  | none =>
    rw [step_set_none hl]
    refine sim_update hs (.inl ⟨st, rfl⟩)
      (hreg := fun m hm => by rw [lookup_cons, if_neg fun e => hm e.symm])
      (other := fun j c hc _ => by
        rw [List.getElem?_append_left (List.getElem?_eq_some_iff.mp hc).1]; exact hc)
      (entry := fun j hj => ?_)
      (noEntry := fun hn => by rw [lookup_cons, if_pos rfl] at hn; cases hn)
      (own := fun wt c s0 l w hlw => by rw [hl] at hlw; cases hlw)
    rw [lookup_cons, if_pos rfl] at hj
    cases hj
    refine ⟨⟨⟨st, 0, false⟩, List.getElem?_concat_length, rfl, if_pos rfl⟩, fun m _ hm => ?_⟩
    -- the new channel's index is not in use
    obtain ⟨c, hc, -⟩ := hs.table.live m _ hm
    exact Nat.lt_irrefl _ (List.getElem?_eq_some_iff.mp hc).1

theorem sim_clear (hs : Sim s h) (n : Name) :
    Sim (step s (.clear n)).1 ((.clear n, (step s (.clear n)).2) :: h) := by
  cases hl : lookup n s.reg with
  | some i =>
    rw [step_clear_some hl]
    refine sim_update hs (.inr rfl)
      (hreg := fun m hm => by rw [lookup_erase, if_neg hm])
      (other := fun j c hc hj => by
        rw [List.getElem?_modify_ne _ _ fun (e : i = j) => hj (e ▸ hl)]; exact hc)
      (entry := fun j hj => by rw [lookup_erase, if_pos rfl] at hj; cases hj)
      (noEntry := fun _ => if_pos rfl)
      (own := fun wt c s0 l w hlw hc ho k => ?_)
    obtain rfl : i = wt.chan := Option.some.inj (hl.symm.trans hlw)
    exact ⟨c.close, by rw [List.getElem?_modify_eq, hc]; rfl, k.push_clear _⟩
  | none =>
    rw [step_clear_none hl]
    exact sim_update hs (.inr rfl) (hreg := fun _ _ => rfl) (other := fun _ _ hc _ => hc)
      (entry := fun j hj => by rw [hl] at hj; cases hj) (noEntry := fun _ => if_pos rfl)
      (own := fun wt c s0 l w hlw => by rw [hl] at hlw; cases hlw)

theorem sim_watch (hs : Sim s h) (n : Name) :
    Sim (step s (.watch n)).1 ((.watch n, (step s (.watch n)).2) :: h) := by
  have opened (r : Resp) (x : Option Watcher)
      (own : Slot (s.watchers ++ [x]) s.chans s.reg ((Op.watch n, r) :: h) s.watchers.length) :
      Sim ⟨s.chans, s.reg, s.watchers ++ [x]⟩ ((Op.watch n, r) :: h) :=
    sim_slot hs (.inr (.inr ⟨⟨n, rfl⟩, hs.nwatch.symm⟩)) (by simp [numWatches, hs.nwatch])
      (fun _ hw => getElem?_concat_ne x hw) own
  cases hl : lookup n s.reg with
  | some i =>
    obtain ⟨c, hc, hopen, hcur⟩ := hs.table.live n i hl
    rw [step_watch_some hl]
    exact opened _ _ (.stream ⟨i, none⟩ c ⟨n, c.value, []⟩ List.getElem?_concat_length hc
      (by rw [view_cons_watch, if_pos hs.nwatch.symm, hcur]; rfl) (.init hopen hl))
  | none =>
    rw [step_watch_none hl]
    exact opened _ _ (.empty (by simp)
      (by rw [view_cons_watch, if_pos hs.nwatch.symm, hs.table.absent n hl]; rfl))

theorem sim_next (hs : Sim s h) (w : Nat) :
    Sim (step s (.next w)).1 ((.next w, (step s (.next w)).2) :: h) := by
  have idle (r : Resp) (hr : ∀ st, r ≠ .value st) : Sim s ((Op.next w, r) :: h) :=
    sim_idle hs _ (by simp) (by simp) (by simp) fun w' => by
      cases hrep : isReport w' (Op.next w, r) with
      | false => rfl
      | true => obtain ⟨st, e⟩ := isReport_iff.mp hrep; cases e; exact absurd rfl (hr st)
  cases hs.slot w with
  | empty hw hv => rw [step_next_none hw]; exact idle _ (by simp)
  | stream wt c v hw hc hv k =>
    rw [step_next_some hw hc]
    split
    · exact idle _ (by cases c.closed <;> simp)
    · exact sim_slot hs (.inl rfl) (by rw [List.length_set]; exact hs.nwatch)
        (fun _ hww => List.getElem?_set_ne (Ne.symm hww))
        (.stream _ c _ (List.getElem?_set_self (List.getElem?_eq_some_iff.mp hw).1) hc
          (view_push hv _ (by simp)) k.push_report)

theorem sim_drop (hs : Sim s h) (w : Nat) :
    Sim (step s (.drop w)).1 ((.drop w, (step s (.drop w)).2) :: h) := by
  cases hs.slot w with
  | empty hw hv =>
    rw [step_drop_none hw]
    exact sim_idle hs _ (by simp) (by simp) (fun w' e => by cases e; exact hw)
      fun w' => isReport_of_ne (by simp)
  | stream wt c v hw hc hv k =>
    rw [step_drop_some hw]
    exact sim_slot hs (.inr (.inl rfl)) (by rw [List.length_set]; exact hs.nwatch)
      (fun _ hww => List.getElem?_set_ne (Ne.symm hww))
      (.empty (by simp [List.getElem?_set]) (by rw [view_cons_drop, if_pos rfl]))

theorem resp_eq (hs : Sim s h) (op : Op) : (step s op).2 = expected h op := by
  cases op with
  | set n st => cases hl : lookup n s.reg <;> simp only [step, hl, expected]
  | clear n => cases hl : lookup n s.reg <;> simp only [step, hl, expected]
  | check n =>
    cases hl : lookup n s.reg with
    | none => simp [step, expected, hl, hs.table.absent n hl]
    | some i =>
      obtain ⟨c, hc, -, hcur⟩ := hs.table.live n i hl
      simp [step, expected, hl, hc, hcur]
  | watch n =>
    cases hl : lookup n s.reg with
    | none => rw [step_watch_none hl]; simp [expected, hs.table.absent n hl]
    | some i =>
      obtain ⟨c, -, -, hcur⟩ := hs.table.live n i hl
      rw [step_watch_some hl]; simp [expected, hcur]
  | drop w =>
    cases hs.slot w with
    | empty hw hv => rw [step_drop_none hw]; simp [expected, hv]
    | stream wt c v hw hc hv k => rw [step_drop_some hw]; simp [expected, hv]
  | next w =>
    cases hs.slot w with
    | empty hw hv => rw [step_next_none hw]; simp [expected, hv]
    | stream wt c v hw hc hv k =>
      rw [step_next_some hw hc, expected_next hv]
      split
      · next hseen =>
        rw [expectedNext_of_settled (k.settled_iff.mp hseen), k.closed_eq]
      · next hseen =>
        rw [expectedNext_of_not_settled (mt k.settled_iff.mpr hseen), k.value_eq]

theorem sim_init : Sim init [] := by
  have only {n : Name} {i : Nat} (hn : lookup n init.reg = some i) : [] = n ∧ 0 = i := by
    rw [init, lookup_cons] at hn
    split at hn
    · exact ⟨‹[] = n›, Option.some.inj hn⟩
    · cases hn
  refine ⟨⟨fun n i hn => ?_, fun n hn => ?_, fun n m i hn hm => (only hn).1.symm.trans (only hm).1⟩,
    rfl, fun w => .empty (by simp [init]) rfl⟩
  · obtain ⟨rfl, rfl⟩ := only hn
    exact ⟨⟨.serving, 0, false⟩, rfl, rfl, rfl⟩
  · rw [init, lookup_cons] at hn
    split at hn
    · cases hn
    · exact if_neg fun e => ‹¬ [] = n› e.symm

theorem sim_step (hs : Sim s h) (op : Op) :
    (step s op).2 = expected h op ∧ Sim (step s op).1 ((op, (step s op).2) :: h) := by
  refine ⟨resp_eq hs op, ?_⟩
  cases op with
  | set n st => exact sim_set hs n st
  | clear n => exact sim_clear hs n
  | check n =>
    rw [step_check]
    exact sim_idle hs _ (by simp) (by simp) (by simp) fun w => isReport_of_ne (by simp)
  | watch n => exact sim_watch hs n
  | next w => exact sim_next hs w
  | drop w => exact sim_drop hs w

theorem sim_run (hs : Sim s h) (ops : List Op) :
    run s ops = Spec.Health.run h ops ∧ hist s h ops = log h ops ∧ Sim (exec s ops) (log h ops) := by
  induction ops generalizing s h with
  | nil => exact ⟨rfl, rfl, hs⟩
  | cons op ops ih =>
    obtain ⟨h1, h2⟩ := sim_step hs op
    rw [h1] at h2
    obtain ⟨i1, i2, i3⟩ := ih h2
    exact ⟨by rw [run, Spec.Health.run, h1, i1], by rw [hist, log, h1, i2], i3⟩

theorem logOf_eq_log (ops : List Op) : logOf ops = log [] ops := (sim_run sim_init ops).2.1

theorem sim_logOf (ops : List Op) : Sim (exec init ops) (logOf ops) := by
  rw [logOf_eq_log]; exact (sim_run sim_init ops).2.2

theorem answer_spec (ops : List Op) (op : Op) : answer ops op = expected (logOf ops) op :=
  resp_eq (sim_logOf ops) op

theorem logOf_insert (a : List Op) (op : Op) (b : List Op) :
    logOf (a ++ op :: b) = log ((op, answer a op) :: logOf a) b := by
  rw [answer_spec, logOf_eq_log, logOf_eq_log, log_append]; rfl

theorem Sim.stream (hs : Sim s h) {w : Nat} {v : View} (hv : view h w = some v) :
    ∃ wt c, s.watchers[w]? = some (some wt) ∧ s.chans[wt.chan]? = some c ∧
      StreamOK s.reg wt c v.name v.start v.evs w := by
  cases hs.slot w with
  | empty hw hv' => rw [hv'] at hv; cases hv
  | stream wt c v' hw hc hv' k =>
    obtain rfl : v' = v := Option.some.inj (hv'.symm.trans hv)
    exact ⟨wt, c, hw, hc, k⟩

theorem Sim.upToDate (hs : Sim s h) (w : Nat) (v : View) (hv : view h w = some v)
    (hst : Settled w v) : lastReported w v.evs = some (latest v.name v.start v.evs) := by
  obtain ⟨wt, c, -, -, k⟩ := hs.stream hv
  rw [k.reported (k.settled_iff.mpr hst), k.value_eq]

theorem Sim.latest_current (hs : Sim s h) {w : Nat} {v : View} (hv : view h w = some v)
    (hopen : closed v.name v.evs = false) :
    current h v.name = some (latest v.name v.start v.evs) := by
  obtain ⟨wt, c, -, hc, k⟩ := hs.stream hv
  obtain ⟨c', hc', -, hcur⟩ := hs.table.live _ _ (k.live_reg (k.closed_eq.trans hopen))
  obtain rfl : c' = c := Option.some.inj (hc'.symm.trans hc)
  rw [hcur, k.value_eq]

theorem answer_next (ops : List Op) {w : Nat} {v : View} (hv : view (logOf ops) w = some v) :
    (Settled w v ∧ answer ops (.next w) = (if closed v.name v.evs then .ended else .pending) ∧
      lastReported w v.evs = some (latest v.name v.start v.evs)) ∨
    (¬ Settled w v ∧ answer ops (.next w) = .value (latest v.name v.start v.evs)) := by
  rw [answer_spec, expected_next hv]
  by_cases hs : Settled w v
  · exact .inl ⟨hs, expectedNext_of_settled hs, (sim_logOf ops).upToDate w v hv hs⟩
  · exact .inr ⟨hs, expectedNext_of_not_settled hs⟩

theorem answer_next_after_next (ops q : List Op) {w : Nat} {v : View}
    (hv : view (logOf ops) w = some v)
    (hq : ∀ op ∈ q, op ≠ Op.drop w ∧ (closed v.name v.evs = false →
      (∀ st, op ≠ Op.set v.name st) ∧ op ≠ Op.clear v.name)) :
    answer (ops ++ .next w :: q) (.next w) = if closed v.name v.evs then .ended else .pending := by
  have hcl : closed v.name ((Op.next w, expected (logOf ops) (.next w)) :: v.evs) =
      closed v.name v.evs := by rw [closed_cons]; simp
  rw [answer_spec, logOf_insert, answer_spec, ← hcl]
  -- the poll leaves the stream settled, and `q` keeps it so
  exact expected_next_settled_log (view_push hv _ (by simp)) (settled_after_next hv) q
    (fun o ho => (hq o ho).1) (fun hc o ho => (hq o ho).2 (hcl.symm.trans hc))

theorem allowedTrace_run (hs : Sim s h) (ops : List Op) :
    allowedTrace h (ops.zip (run s ops)) = true := by
  induction ops generalizing s h with
  | nil => rfl
  | cons op ops ih =>
    rw [run, List.zip_cons_cons, allowedTrace, ih (sim_step hs op).2, resp_eq hs,
      allowed_expected h op hs.upToDate]
    rfl

end Health
