import TonicModel.Lemmas.Reconnect
/-
Lemmas about the middleware above `Reconnect` (`stackCall`, `serveD`) and about sessions whose
calls carry deadlines or die in flight (`serveX`, `sessionX`): as far as the state machine and the
script are concerned they are ordinary sessions, so the session theorems carry over.
-/
namespace Reconnect
open ConnScript
open Spec.Reconnect (failures reported)

theorem stackCall_state (r : R) (zero : Bool) : (stackCall r zero).1 = (call r).1 := by
  unfold stackCall
  rcases call r with ⟨r', o⟩
  cases o <;> rfl

theorem stackCall_parked (r : R) (e : Nat) (zero : Bool) (he : r.error = some e) :
    (stackCall r zero).2 = .error e ∧ (stackCall r zero).1.error = none := by
  simp [stackCall, call, he]

/-- How a worker result looks from outside once the deadline is taken into account. -/
def viewD (zero : Bool) : Res → SRes
  | .resp c => if zero then .expired c else .plain (.resp c)
  | .err e => .plain (.err e)
  | .closed e => .plain (.closed e)
  | .hang => .plain .hang
  | .panic => .plain .panic

theorem serveD_eq (r : R) (env : List Ans) (zero : Bool) :
    serveD r env zero = ((serve r env).1, (serve r env).2.1, viewD zero (serve r env).2.2) := by
  unfold serveD serve stackCall
  rcases drive r env with ⟨r', env', p⟩
  cases p with
  | ready =>
    dsimp only
    rcases call r' with ⟨r'', o⟩
    cases o <;> cases zero <;> rfl
  | failed e => rfl
  | pending => rfl
  | panic => rfl

/-- Forget what became of a request after it went out. -/
def XRes.toRes : XRes → Res
  | .plain res => res
  | .expired c => .resp c
  | .lost c _ => .resp c

theorem serveX_eq (r : R) (env : List Ans) (cs : CallSpec) :
    (serveX r env cs).1 = (serve r env).1 ∧ (serveX r env cs).2.1 = (serve r env).2.1 ∧
    (serveX r env cs).2.2.toRes = (serve r env).2.2 := by
  unfold serveX
  rw [serveD_eq]
  rcases serve r env with ⟨r', env', res⟩
  rcases cs with ⟨zero, fate⟩
  cases res <;> cases zero <;> cases fate <;> exact ⟨rfl, rfl, rfl⟩

theorem sessionX_eq (specs : List CallSpec) : ∀ (r : R) (env : List Ans),
    (sessionX r env specs).1.map XRes.toRes = (session r env specs.length).1 ∧
    (sessionX r env specs).2 = (session r env specs.length).2 := by
  induction specs with
  | nil => intro r env; exact ⟨rfl, rfl⟩
  | cons cs rest ih =>
    intro r env
    obtain ⟨h1, h2, h3⟩ := serveX_eq r env cs
    simp only [sessionX, session, List.length_cons]
    generalize serve r env = out at h1 h2 h3
    generalize serveX r env cs = outX at h1 h2 h3
    obtain ⟨r', env', x⟩ := outX
    obtain ⟨r1, env1, res⟩ := out
    dsimp only at h1 h2 h3
    subst h1 h2 h3
    have ihr := ih r' env'
    cases x with
    | plain pr => cases pr <;> simp [XRes.toRes, ihr.1, ihr.2]
    | expired c => simp [XRes.toRes, ihr.1, ihr.2]
    | lost c x => simp [XRes.toRes, ihr.1, ihr.2]

/-- The connect errors handed to the calls of such a session. -/
def reportedX (xs : List XRes) : List Nat := reported (xs.map XRes.toRes)

/-- The in-flight errors delivered, in order. -/
def lostIds (xs : List XRes) : List Nat :=
  xs.filterMap fun x => match x with
    | .lost _ x => some x
    | .plain _ => none
    | .expired _ => none

/-- The in-flight errors the script holds in store, in order. -/
def fateIds (specs : List CallSpec) : List Nat :=
  specs.filterMap fun cs => match cs.fate with
    | .dies x => some x
    | .answered => none

theorem serveX_lost (r : R) (env : List Ans) (cs : CallSpec) (c x : Nat)
    (h : (serveX r env cs).2.2 = .lost c x) : cs.fate = .dies x := by
  unfold serveX at h
  generalize serveD r env cs.zero = out at h
  obtain ⟨r', env', sr⟩ := out
  rcases sr with (c' | e | e | _ | _) | c'
  · cases hf : cs.fate with
    | answered => rw [hf] at h; cases h
    | dies y => rw [hf] at h; cases h; rfl
  all_goals cases h

theorem sessionX_lost_sublist (specs : List CallSpec) : ∀ (r : R) (env : List Ans),
    (lostIds (sessionX r env specs).1).Sublist (fateIds specs) := by
  induction specs with
  | nil => intro r env; exact List.nil_sublist _
  | cons cs rest ih =>
    intro r env
    have hskip : (fateIds rest).Sublist (fateIds (cs :: rest)) := by
      unfold fateIds
      rw [List.filterMap_cons]
      cases cs.fate <;> simp
    have hlost := serveX_lost r env cs
    unfold sessionX
    generalize serveX r env cs = out at hlost
    obtain ⟨r', env', x⟩ := out
    have ihr := ih r' env'
    cases x with
    | plain pr =>
      cases pr with
      | resp c => exact ihr.trans hskip
      | err e => exact ihr.trans hskip
      | closed e =>
        have : lostIds (List.replicate (rest.length + 1) (XRes.plain (Res.closed e))) = [] := by
          simp [lostIds]
        exact this ▸ List.nil_sublist _
      | hang => exact List.nil_sublist _
      | panic => exact List.nil_sublist _
    | expired c => exact ihr.trans hskip
    | lost c x =>
      have : fateIds (cs :: rest) = x :: fateIds rest := by
        unfold fateIds
        rw [List.filterMap_cons, hlost c x rfl]
      exact this ▸ ihr.cons_cons x

end Reconnect
