import TonicModel.Lemmas.Shutdown
/-
What steps leave alone (C13).  `Frame took s s'` relates a state to a later one, given the set
`took` of labels taken in between: every connection slot and every call slot is still there, and
each field the theorems follow has changed only in the direction, and only by the labels, that the
frame names.  It holds of every single step, is reflexive and transitive, hence holds along every
run; what is said about following one call, one connection or one setting is read off it.
-/
namespace Shutdown

theorem getElem?_append_of_some {α} {l : List α} {i : Nat} {a : α} (h : l[i]? = some a)
    (l' : List α) : (l ++ l')[i]? = some a := by
  rw [List.getElem?_append_left (List.getElem?_eq_some_iff.1 h).1, h]

theorem set_slots {α} {R : Nat → α → α → Prop} {l : List α} {i : Nat} {a a' : α}
    (ha : l[i]? = some a) (hR : R i a a') (hrefl : ∀ j b, R j b b) (j : Nat) (b : α)
    (hb : l[j]? = some b) : ∃ b', (l.set i a')[j]? = some b' ∧ R j b b' := by
  by_cases hij : i = j
  · subst hij
    cases ha.symm.trans hb
    exact ⟨a', by rw [List.getElem?_set_self (List.getElem?_eq_some_iff.1 hb).1], hR⟩
  · exact ⟨b, by rw [List.getElem?_set_ne hij, hb], hrefl j b⟩

theorem slots_back {α} {R : Nat → α → α → Prop} {l l' : List α} (hlen : l'.length = l.length)
    (hf : ∀ i a, l[i]? = some a → ∃ a', l'[i]? = some a' ∧ R i a a') {a' : α} (ha' : a' ∈ l') :
    ∃ i a, l[i]? = some a ∧ R i a a' := by
  obtain ⟨i, hi⟩ := List.mem_iff_getElem?.1 ha'
  have hlt : i < l.length := hlen ▸ (List.getElem?_eq_some_iff.1 hi).1
  obtain ⟨a'', h1, h2⟩ := hf i l[i] (List.getElem?_eq_getElem hlt)
  cases h1.symm.trans hi
  exact ⟨i, l[i], List.getElem?_eq_getElem hlt, h2⟩

/-- The call in slot `j` of connection `c`, before (`k`) and after (`k'`) steps with labels in
`took`. -/
structure CallFrame (took : Label → Prop) (c j : Nat) (k k' : Call) : Prop where
  plan : k'.plan = k.plan
  sent : ∃ more, k'.sent = k.sent ++ more
  recv : k.recv ≤ k'.recv
  started : k.started = true → k'.started = true
  headDone : k.headDone = true → k'.headDone = true
  cancelled : ¬ took (.cancel c j) → ¬ took (.peerDrop c) → k'.cancelled = k.cancelled
  expired : k'.expired = k.expired ∨ took (.expire c j) ∧ k.headDone = false
  /-- the server's own steps leave the caller's side of a call alone and use up no more releases
  than phases -/
  internal : (∀ l, took l → l.internal = true) → k'.cancelled = k.cancelled
    ∧ k'.reqLeft = k.reqLeft ∧ (k.todo.length ≤ k.permits → k'.todo.length ≤ k'.permits)

theorem CallFrame.refl {took : Label → Prop} {c j : Nat} {k : Call} : CallFrame took c j k k :=
  ⟨rfl, ⟨[], (List.append_nil _).symm⟩, Nat.le_refl _, id, id, fun _ _ => rfl, Or.inl rfl,
    fun _ => ⟨rfl, rfl, id⟩⟩

theorem CallFrame.trans {took : Label → Prop} {c j : Nat} {k k' k'' : Call}
    (h : CallFrame took c j k k') (h' : CallFrame took c j k' k'') : CallFrame took c j k k'' where
  plan := h'.plan.trans h.plan
  sent := by
    obtain ⟨m, hm⟩ := h.sent
    obtain ⟨m', hm'⟩ := h'.sent
    exact ⟨m ++ m', by rw [hm', hm, List.append_assoc]⟩
  recv := Nat.le_trans h.recv h'.recv
  started := fun e => h'.started (h.started e)
  headDone := fun e => h'.headDone (h.headDone e)
  cancelled := fun e1 e2 => (h'.cancelled e1 e2).trans (h.cancelled e1 e2)
  expired := by
    rcases h.expired with e | e
    · rcases h'.expired with e' | ⟨e1, e2⟩
      · exact Or.inl (e'.trans e)
      · refine Or.inr ⟨e1, ?_⟩
        cases hh : k.headDone with
        | false => rfl
        | true => exact absurd (h.headDone hh) (Bool.eq_false_iff.1 e2)
    · exact Or.inr e
  internal := fun hi => by
    obtain ⟨a1, a2, a3⟩ := h.internal hi
    obtain ⟨b1, b2, b3⟩ := h'.internal hi
    exact ⟨b1.trans a1, b2.trans a2, fun e => b3 (a3 e)⟩

structure ConnFrame (took : Label → Prop) (c : Nat) (cn cn' : Conn) : Prop where
  accepted : ¬ took (.loopAccept c) → cn'.accepted = cn.accepted
  peerGone : ¬ took (.peerDrop c) → cn'.peerGone = cn.peerGone
  closed : cn.closed = true → cn'.closed = true
  ncalls : (∀ l, took l → l.internal = true) → cn'.calls.length = cn.calls.length
  calls : ∀ j k, cn.calls[j]? = some k → ∃ k', cn'.calls[j]? = some k' ∧ CallFrame took c j k k'

theorem ConnFrame.refl {took : Label → Prop} {c : Nat} {cn : Conn} : ConnFrame took c cn cn :=
  ⟨fun _ => rfl, fun _ => rfl, id, fun _ => rfl, fun _ k hk => ⟨k, hk, .refl⟩⟩

theorem ConnFrame.trans {took : Label → Prop} {c : Nat} {cn cn' cn'' : Conn}
    (h : ConnFrame took c cn cn') (h' : ConnFrame took c cn' cn'') : ConnFrame took c cn cn'' where
  accepted := fun e => (h'.accepted e).trans (h.accepted e)
  peerGone := fun e => (h'.peerGone e).trans (h.peerGone e)
  closed := fun e => h'.closed (h.closed e)
  ncalls := fun hi => (h'.ncalls hi).trans (h.ncalls hi)
  calls := fun j k hk => by
    obtain ⟨k', hk', f⟩ := h.calls j k hk
    obtain ⟨k'', hk'', f'⟩ := h'.calls j k' hk'
    exact ⟨k'', hk'', f.trans f'⟩

theorem ConnFrame.back {took : Label → Prop} {c : Nat} {cn cn' : Conn} (h : ConnFrame took c cn cn')
    (hi : ∀ l, took l → l.internal = true) {k' : Call} (hk' : k' ∈ cn'.calls) :
    ∃ j k, cn.calls[j]? = some k ∧ CallFrame took c j k k' :=
  slots_back (h.ncalls hi) h.calls hk'

structure Frame (took : Label → Prop) (s s' : State) : Prop where
  cfgGraceful : s'.cfgGraceful = s.cfgGraceful
  cfgBiased : s'.cfgBiased = s.cfgBiased
  cfgAge : s'.cfgAge = s.cfgAge
  sigReady : s.sigReady = true → s'.sigReady = true
  ended : s.ended = true → s'.ended = true
  loopOver : s.loopRunning = false → s'.loopRunning = false
  freeRun_eq : (∀ l, took l → l.internal = true) → s'.freeRun = s.freeRun
  nconns : (∀ l, took l → l.internal = true) → s'.conns.length = s.conns.length
  conns : ∀ c cn, s.conns[c]? = some cn → ∃ cn', s'.conns[c]? = some cn' ∧ ConnFrame took c cn cn'

theorem Frame.refl {took : Label → Prop} {s : State} : Frame took s s :=
  ⟨rfl, rfl, rfl, id, id, id, fun _ => rfl, fun _ => rfl,
    fun _ cn hc => ⟨cn, hc, .refl⟩⟩

theorem Frame.trans {took : Label → Prop} {s s' s'' : State} (h : Frame took s s')
    (h' : Frame took s' s'') : Frame took s s'' where
  cfgGraceful := h'.cfgGraceful.trans h.cfgGraceful
  cfgBiased := h'.cfgBiased.trans h.cfgBiased
  cfgAge := h'.cfgAge.trans h.cfgAge
  sigReady := fun e => h'.sigReady (h.sigReady e)
  ended := fun e => h'.ended (h.ended e)
  loopOver := fun e => h'.loopOver (h.loopOver e)
  freeRun_eq := fun hi => (h'.freeRun_eq hi).trans (h.freeRun_eq hi)
  nconns := fun hi => (h'.nconns hi).trans (h.nconns hi)
  conns := fun c cn hc => by
    obtain ⟨cn', hc', f⟩ := h.conns c cn hc
    obtain ⟨cn'', hc'', f'⟩ := h'.conns c cn' hc'
    exact ⟨cn'', hc'', f.trans f'⟩

theorem Frame.back {took : Label → Prop} {s s' : State} (h : Frame took s s')
    (hi : ∀ l, took l → l.internal = true) {cn' : Conn} (hcn' : cn' ∈ s'.conns) :
    ∃ c cn, s.conns[c]? = some cn ∧ ConnFrame took c cn cn' :=
  slots_back (h.nconns hi) h.conns hcn'

theorem Frame.updConn {took : Label → Prop} {s s' : State} {c : Nat} {g : Conn → Bool}
    {f : Conn → Conn} (h : updConn s c g f = some s')
    (hf : ∀ cn, ConnFrame took c cn (f cn)) : Frame took s s' := by
  obtain ⟨cn, hc, _, rfl⟩ := updConn_some h
  exact { Frame.refl with
    nconns := fun _ => List.length_set
    conns := set_slots hc (hf cn) (fun _ _ => .refl) }

theorem Frame.updCall {took : Label → Prop} {s s' : State} {c j : Nat} {g : Conn → Call → Bool}
    {f : Call → Call} (h : updCall s c j g f = some s')
    (hf : ∀ cn k, g cn k = true → CallFrame took c j k (f k)) : Frame took s s' := by
  obtain ⟨cn, k, hc, hk, hg, rfl⟩ := updCall_some h
  exact { Frame.refl with
    nconns := fun _ => List.length_set
    conns := set_slots hc
      { ConnFrame.refl with
        ncalls := fun _ => List.length_set
        calls := set_slots hk (hf cn k hg) (fun _ _ => .refl) }
      (fun _ _ => .refl) }

/-- Each case says what the step rewrites; what it does not mention is as it was.
ENUMERATES THE LABELS: a new label needs a case here, and a field of the frames it can change needs
the label named in that field's exception. -/
theorem step_frame {took : Label → Prop} {s s' : State} {l : Label} (h : step s l = some s')
    (hl : took l) : Frame took s s' := by
  cases l with
  | offer | offerTls =>
    cases h
    exact { Frame.refl with
      nconns := fun hi => nomatch hi _ hl
      conns := fun c cn hc => ⟨cn, getElem?_append_of_some hc _, .refl⟩ }
  | freeRun =>
    cases h
    exact { Frame.refl with freeRun_eq := fun hi => nomatch hi _ hl }
  | sigFire =>
    cases (Option.ite_none_right_eq_some.1 h).2
    exact { Frame.refl with sigReady := fun _ => rfl }
  | endIncoming =>
    cases (Option.ite_none_right_eq_some.1 h).2
    exact { Frame.refl with ended := fun _ => rfl }
  | loopSig | loopEnd =>
    cases (Option.ite_none_right_eq_some.1 h).2
    exact { Frame.refl with loopOver := fun _ => rfl }
  | acceptErr | loopErr | afterLoop =>
    cases (Option.ite_none_right_eq_some.1 h).2
    exact { Frame.refl with }
  | resolve =>
    cases (Option.ite_none_right_eq_some.1 h).2
    exact { Frame.refl with
      nconns := fun _ => List.length_map _
      conns := fun c cn hc => ⟨{ cn with pending := false }, by rw [List.getElem?_map, hc]; rfl,
        { ConnFrame.refl with }⟩ }
  | clientHello c | tlsDone c | tlsFail c | connSig c | connAge c | connDropWatcher c | hsDone c
  | final c =>
    exact .updConn h fun cn => { ConnFrame.refl with }
  | tlsTake c | ageTick c =>
    exact .updConn (Option.ite_none_right_eq_some.1 h).2 fun cn => { ConnFrame.refl with }
  | connBreak c =>
    exact .updConn h fun cn => { ConnFrame.refl with closed := fun _ => rfl }
  | loopAccept c =>
    exact .updConn (Option.ite_none_right_eq_some.1 h).2 fun cn =>
      { ConnFrame.refl with accepted := fun hn => absurd hl hn }
  | issue c chunks req =>
    exact .updConn h fun cn =>
      { ConnFrame.refl with
        ncalls := fun hi => nomatch hi _ hl
        calls := fun j k hk => ⟨k, getElem?_append_of_some hk _, .refl⟩ }
  | peerDrop c =>
    exact .updConn h fun cn =>
      { ConnFrame.refl with
        peerGone := fun hn => absurd hl hn
        ncalls := fun _ => List.length_map _
        calls := fun j k hk => ⟨{ k with cancelled := true }, by rw [List.getElem?_map, hk]; rfl,
          { CallFrame.refl with
            cancelled := fun _ hn => absurd hl hn
            internal := fun hi => nomatch hi _ hl }⟩ }
  | reqSend c j | permit c j =>
    exact .updCall h fun _ k _ =>
      { CallFrame.refl with internal := fun hi => nomatch hi _ hl }
  | deadlineTick c j =>
    exact .updCall (Option.ite_none_right_eq_some.1 h).2 fun _ k _ =>
      { CallFrame.refl with internal := fun hi => nomatch hi _ hl }
  | cancel c j =>
    exact .updCall h fun _ k _ =>
      { CallFrame.refl with
        cancelled := fun hn => absurd hl hn
        internal := fun hi => nomatch hi _ hl }
  | callStart c j =>
    exact .updCall h fun _ k _ => { CallFrame.refl with started := fun _ => rfl }
  | deliver c j =>
    exact .updCall h fun _ k _ => { CallFrame.refl with recv := Nat.le_succ _ }
  | produce c j =>
    refine .updCall h fun _ k _ => ?_
    unfold Call.produce
    split
    · next ch rest htodo =>
      exact { CallFrame.refl (k := k) with
        sent := ⟨ch, rfl⟩
        headDone := fun _ => rfl
        internal := fun _ => ⟨rfl, rfl, fun hle => by
          rw [htodo, List.length_cons] at hle
          exact Nat.le_sub_one_of_lt hle⟩ }
    · exact .refl
  | expire c j =>
    refine .updCall (Option.ite_none_right_eq_some.1 h).2 fun _ k hg => ?_
    simp only [Bool.and_eq_true, Bool.not_eq_true'] at hg
    exact { CallFrame.refl with
      sent := ⟨_, rfl⟩
      expired := Or.inr ⟨hl, hg.1.2⟩
      internal := fun _ => ⟨rfl, rfl, fun _ => Nat.zero_le _⟩ }

theorem run_frame {took : Label → Prop} {ls : List Label} (hls : ∀ l ∈ ls, took l) {s s' : State}
    (h : run s ls = some s') : Frame took s s' :=
  run_invariant (P := Frame took s)
    (fun l hl _ _ hf hs => hf.trans (step_frame hs (hls l hl))) h (.refl)

theorem Frame.follow_call {took : Label → Prop} {s s' : State} {c j : Nat} {cn : Conn} {k : Call}
    (f : Frame took s s') (hg : Good s') (hc : s.conns[c]? = some cn) (hk : cn.calls[j]? = some k)
    (hst : k.started = true) (hcan : k.cancelled = false) (hpg : cn.peerGone = false)
    (hl1 : ¬ took (.cancel c j)) (hl2 : ¬ took (.peerDrop c)) :
    ∃ cn' k', s'.conns[c]? = some cn' ∧ cn'.calls[j]? = some k' ∧ CallFrame took c j k k'
      ∧ ConnOk s'.cfgGraceful s'.cfgBiased s'.sent s'.resolved s'.sigReady cn' ∧ CallOk k'
      ∧ k'.started = true ∧ k'.cancelled = false ∧ cn'.peerGone = false
      ∧ (cn'.closed = true → k'.complete = true) := by
  obtain ⟨cn', h1, fc⟩ := f.conns c cn hc
  obtain ⟨k', h2, fk⟩ := fc.calls j k hk
  have hk' := hg.conns cn' (List.mem_of_getElem? h1)
  have hkm := List.mem_of_getElem? h2
  have hcan' := (fk.cancelled hl1 hl2).trans hcan
  have hpg' := (fc.peerGone hl2).trans hpg
  exact ⟨cn', k', h1, h2, fk, hk', hk'.calls_ok k' hkm, fk.started hst, hcan', hpg',
    fun hcl => hk'.closed_calls hcl hpg' k' hkm (fk.started hst) hcan'⟩

theorem step_frame_any {s s' : State} {l : Label} (h : step s l = some s') :
    Frame (fun _ => True) s s' :=
  step_frame h trivial

theorem run_frame_any {s s' : State} {ls : List Label} (h : run s ls = some s') :
    Frame (fun _ => True) s s' :=
  run_frame (fun _ _ => trivial) h

theorem reachable_cfg {g b a : Bool} {s : State} (h : Reachable g b a s) :
    s.cfgGraceful = g ∧ s.cfgBiased = b ∧ s.cfgAge = a := by
  induction h with
  | init t => exact ⟨rfl, rfl, rfl⟩
  | step l _ hs ih =>
    have f := step_frame_any hs
    exact ⟨f.cfgGraceful.trans ih.1, f.cfgBiased.trans ih.2.1, f.cfgAge.trans ih.2.2⟩

end Shutdown
