import TonicModel.Model.LimitCfg
import TonicModel.Spec.LimitCfg
/-
Lemmas for the C06 `lim.seq` theorems: the model of a `Grpc` value taken through a program of
configuration statements and calls (`Model/LimitCfg.lean`) agrees, call by call, with the oracle
that reads the limit in force off the program text (`Spec/LimitCfg.lean`).
-/
namespace LimitCfg.Lemmas
open LimitProg

/-- `recvAll` and `sendAll` are the same scan: count up to the first refused length. -/
theorem scan_eq (p : Nat → Bool) (f : List Nat → Nat × Bool) (h0 : f [] = (0, false))
    (hc : ∀ n r, f (n :: r) = if p n then (0, true) else ((f r).1 + 1, (f r).2)) (xs : List Nat) :
    f xs = match xs.findIdx? p with | some i => (i, true) | none => (xs.length, false) := by
  induction xs with
  | nil => simp [h0]
  | cons x xs ih =>
    rw [hc, List.findIdx?_cons, ih]
    cases p x
    · cases xs.findIdx? p <;> simp
    · simp

def Agree (c : LimitCfg.Cfg) (seen : List Op) : Prop :=
  c.dec = Spec.LimitCfg.askedDec seen ∧ c.enc = Spec.LimitCfg.askedEnc seen

theorem agree_step (c : LimitCfg.Cfg) (seen : List Op) (h : Agree c seen) (o : Op) : Agree (c.step o) (o :: seen) := by
  cases o with
  | apply d e =>
    cases d <;> cases e <;>
      simp [Agree, LimitCfg.Cfg.step, Spec.LimitCfg.askedDec, Spec.LimitCfg.askedEnc, h.1, h.2]
  | _ => simp [Agree, LimitCfg.Cfg.step, Spec.LimitCfg.askedDec, Spec.LimitCfg.askedEnc, h.1, h.2]

theorem dec_agree (c : LimitCfg.Cfg) (seen : List Op) (h : Agree c seen) (n : Nat) :
    LimitCfg.decRefusesLen c.dec n = Spec.LimitCfg.overDec seen n := by
  simp [LimitCfg.decRefusesLen, Spec.LimitCfg.overDec, Framing.DecCfg.limit, Framing.defaultMaxRecv, h.1]

theorem enc_agree (c : LimitCfg.Cfg) (seen : List Op) (h : Agree c seen) (n : Nat) :
    LimitCfg.encRefusesLen c.enc n = Spec.LimitCfg.overEnc seen n := by
  unfold LimitCfg.encRefusesLen Spec.LimitCfg.overEnc
  rw [h.2]
  cases Spec.LimitCfg.askedEnc seen <;> rfl

theorem recvAll_eq (c : LimitCfg.Cfg) (seen : List Op) (h : Agree c seen) (xs : List Nat) :
    LimitCfg.recvAll c.dec xs = match xs.findIdx? (Spec.LimitCfg.overDec seen) with
      | some i => (i, true) | none => (xs.length, false) :=
  scan_eq _ _ rfl (fun n r => by rw [LimitCfg.recvAll, dec_agree c seen h]) xs

theorem sendAll_eq (c : LimitCfg.Cfg) (seen : List Op) (h : Agree c seen) (xs : List Nat) :
    LimitCfg.sendAll c.enc xs = match xs.findIdx? (Spec.LimitCfg.overEnc seen) with
      | some i => (i, true) | none => (xs.length, false) :=
  scan_eq _ _ rfl (fun n r => by rw [LimitCfg.sendAll, enc_agree c seen h]) xs

theorem serverCall_eq (c : LimitCfg.Cfg) (seen : List Op) (h : Agree c seen) (k : Call)
    (hq : k.qs ≠ []) : LimitCfg.serverCall c k = Spec.LimitCfg.srvExpect seen k := by
  simp only [LimitCfg.serverCall, Spec.LimitCfg.srvExpect, LimitCfg.respond,
    recvAll_eq c seen h, sendAll_eq c seen h]
  cases hf : k.qs.findIdx? (Spec.LimitCfg.overDec seen) with
  | some i => cases k.shape.oneRequest <;> simp
  | none =>
    have hlen : k.qs.length ≠ 0 := by simpa using hq
    cases k.shape.oneRequest <;> simp [hlen] <;>
      (cases (if k.shape.oneResponse = true then List.take 1 k.rs else k.rs).findIdx? (Spec.LimitCfg.overEnc seen) <;> simp)

theorem clientCall_eq (c : LimitCfg.Cfg) (seen : List Op) (h : Agree c seen) (k : Call)
    (hr : k.rs ≠ []) : LimitCfg.clientCall c k = Spec.LimitCfg.cliExpect seen k := by
  simp only [LimitCfg.clientCall, Spec.LimitCfg.cliExpect,
    recvAll_eq c seen h, sendAll_eq c seen h]
  have hlen : k.rs.length ≠ 0 := by simpa using hr
  cases (if k.shape.oneRequest = true then List.take 1 k.qs else k.qs).findIdx? (Spec.LimitCfg.overEnc seen) with
  | some i => simp
  | none =>
    cases k.rs.findIdx? (Spec.LimitCfg.overDec seen) <;> cases k.shape.oneResponse <;> simp [hlen]

theorem wf_call (k : Call) (rest : List Stmt) (h : WellFormed (.call k :: rest) = true) :
    k.qs ≠ [] ∧ k.rs ≠ [] ∧ WellFormed rest = true := by
  simpa [WellFormed, and_assoc] using h

theorem runServer_eq (prog : List Stmt) : ∀ (c : LimitCfg.Cfg) (seen : List Op), Agree c seen → WellFormed prog = true →
    LimitCfg.runServer c prog = Spec.LimitCfg.runServer seen prog := by
  induction prog with
  | nil => intros; rfl
  | cons s rest ih =>
    intro c seen h hwf
    cases s with
    | op o => exact ih _ _ (agree_step c seen h o) hwf
    | call k =>
      obtain ⟨hq, _, hwf⟩ := wf_call k rest hwf
      rw [LimitCfg.runServer, Spec.LimitCfg.runServer, serverCall_eq c seen h k hq, ih c seen h hwf]

theorem runClient_eq (prog : List Stmt) : ∀ (c : LimitCfg.Cfg) (seen : List Op), Agree c seen → WellFormed prog = true →
    LimitCfg.runClient c prog = Spec.LimitCfg.runClient seen prog := by
  induction prog with
  | nil => intros; rfl
  | cons s rest ih =>
    intro c seen h hwf
    cases s with
    | op o => exact ih _ _ (agree_step c seen h o) hwf
    | call k =>
      obtain ⟨_, hr, hwf⟩ := wf_call k rest hwf
      rw [LimitCfg.runClient, Spec.LimitCfg.runClient, clientCall_eq c seen h k hr, ih c seen h hwf]

theorem agree_init : Agree LimitCfg.Cfg.init [] := ⟨rfl, rfl⟩

theorem agree_foldl (ops : List Op) : ∀ (c : LimitCfg.Cfg) (seen : List Op), Agree c seen →
    Agree (ops.foldl LimitCfg.Cfg.step c) (ops.reverse ++ seen) := by
  induction ops with
  | nil => intro c seen h; simpa using h
  | cons o rest ih =>
    intro c seen h
    simpa using ih _ _ (agree_step c seen h o)

end LimitCfg.Lemmas
