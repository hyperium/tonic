import TonicModel.Model.WebClientHints
import TonicModel.Lemmas.WebClientHints
/-
The end-of-stream hint of the repaired grpc-web client body over an arbitrary inner body.
`Hints.outerHint bits` is the repaired `is_end_stream` / `size_hint` over the harness's scripted
inner body, whose hint behaviour is one of four (`bits % 4`); `outerHintOf inner` is the same
expression over any `inner : events still to come ↦ Hint`.  The hint is sound for every `inner`
that honours `http_body`'s contract for `is_end_stream` (`true` only when `poll_frame` will return
`None`: nothing is left).
-/
namespace WebClientHintsLemmas
open WebClient WebClient.Hints WebClient.Fixed WebClientLemmas
open WebServer (BodyEv Out)

/-- `GrpcWebCall::is_end_stream` / `size_hint` after the fix (client, Decode), over an inner body
whose own hints with `evs` still to come are `inner evs`. -/
def outerHintOf (inner : List BodyEv → Hint) : HintFn := fun st innerDone evs =>
  { eos := st.decoded.isEmpty && st.trailers.isNone && (innerDone || (inner evs).eos),
    lower := 0,
    upper := none }

theorem outerHint_eq_of (bits : Nat) : outerHint bits = outerHintOf (innerHint bits) := rfl

/-- the inner body keeps `http_body`'s contract for `is_end_stream` -/
def InnerEndHonest (inner : List BodyEv → Hint) : Prop := ∀ evs, (inner evs).eos = true → evs = []

theorem innerHint_honest (bits : Nat) : InnerEndHonest (innerHint bits) := by
  intro evs h
  simp only [innerHint, Bool.and_eq_true, List.isEmpty_iff] at h
  exact h.2

theorem afterPoll_empty : afterPoll true { decoded := [], trailers := none } = .stop [.eos] := rfl

theorem endHintOk_map (h : Hint) (hq : h.eos = false) (os : List Out) :
    endHintOk (os.map (fun o => (h, o))) = true := by
  induction os with
  | nil => rfl
  | cons o r ih => simp [endHintOk, hq, ih]

/-- The hint asked at the beginning of the `poll_frame` call under way, with `evs` still to come
from the inner body, does not say end-of-stream, or nothing is left: no event, nothing buffered, no
trailers held. -/
def Quiet (h : Hint) (st : St) (evs : List BodyEv) : Prop :=
  h.eos = false ∨ (evs = [] ∧ st.decoded = [] ∧ st.trailers = none)

def EndSound (hf : HintFn) : Prop :=
  ∀ st done evs, (hf st done evs).eos = true →
    st.decoded = [] ∧ st.trailers = none ∧ (done = true ∨ evs = [])

theorem outerHintOf_endSound {inner : List BodyEv → Hint} (hi : InnerEndHonest inner) :
    EndSound (outerHintOf inner) := by
  intro st done evs h
  simp only [outerHintOf, Bool.and_eq_true, Bool.or_eq_true, List.isEmpty_iff,
    Option.isNone_iff_eq_none] at h
  refine ⟨h.1.1, h.1.2, ?_⟩
  rcases h.2 with h | h
  · exact Or.inl h
  · exact Or.inr (hi evs h)

theorem quiet_of {hf : HintFn} (hs : EndSound hf) (st : St) (done : Bool) (evs : List BodyEv)
    (hd : done = true → evs = []) : Quiet (hf st done evs) st evs := by
  by_cases he : (hf st done evs).eos = true
  · obtain ⟨h1, h2, h3⟩ := hs _ _ _ he
    exact Or.inr ⟨h3.elim hd id, h1, h2⟩
  · exact Or.inl (by simpa using he)

theorem drainH_end_of {hf : HintFn} (hs : EndSound hf) : ∀ (f : Nat) (st : St) (h : Hint),
    Quiet h st [] → mu st < f → endHintOk (drainH hf f st h) = true := by
  intro f
  induction f with
  | zero => intro st h _ hf; omega
  | succ f ih =>
    intro st h hq hf
    unfold drainH
    rcases hq with hq | ⟨_, hd, ht⟩
    · cases hsx : afterPoll true st with
      | stop os => exact endHintOk_map h hq os
      | emit o st' =>
        have := afterPoll_mu.1 o st' hsx
        simp only [endHintOk, hq, Bool.not_false, Bool.true_or, Bool.true_and]
        exact ih st' _ (quiet_of hs st' true [] fun _ => rfl) (by omega)
      | again st' =>
        have := afterPoll_mu.2 st' hsx
        exact ih st' h (Or.inl hq) (by omega)
    · have hst : st = { decoded := [], trailers := none } := by
        cases st; simp_all
      subst hst
      rw [afterPoll_empty]
      simp [endHintOk]

theorem runH_end_of {hf : HintFn} (hs : EndSound hf) : ∀ (evs : List BodyEv) (st : St) (h : Hint),
    Quiet h st evs → endHintOk (runH hf st evs h) = true := by
  intro evs
  induction evs with
  | nil =>
    intro st h hq
    have := mu_le st
    exact drainH_end_of hs _ st h hq (by omega)
  | cons e r ih =>
    intro st h hq
    have hf : h.eos = false := by
      rcases hq with hq | ⟨hn, _⟩
      · exact hq
      · cases hn
    cases e with
    | pending => simp only [runH]; exact ih st _ (quiet_of hs st false r nofun)
    | err => simp [runH, endHintOk, hf]
    | trailers t => simp only [runH]; exact ih _ h (Or.inl hf)
    | data b =>
      simp only [runH]
      cases afterPoll false { st with decoded := st.decoded ++ b } with
      | stop os => exact endHintOk_map h hf os
      | emit o st' =>
        simp only [endHintOk, hf, Bool.not_false, Bool.true_or, Bool.true_and]
        exact ih st' _ (quiet_of hs st' false r nofun)
      | again st' => exact ih st' h (Or.inl hf)

theorem observeH_end_of {hf : HintFn} (hs : EndSound hf) (evs : List BodyEv) :
    endHintOk (observeH hf evs) = true :=
  runH_end_of hs evs {} _ (quiet_of hs {} false evs nofun)

end WebClientHintsLemmas
