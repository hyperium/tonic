import TonicModel.Lemmas.CompressionClient
import TonicModel.Model.CompressionHttp
/-
The HTTP-status dimension of C05 (`Model/CompressionHttp`): the request is the one `call` sends,
and the encoding check precedes whatever the HTTP status decides.
-/
namespace Compression
open CompObs Spec.Compression

variable {cfg : CliCfg} {shape : Shape} {umdEnc umdAcc : List Bytes} {k http : Nat} {resp : CliResp}
  {accept : List Enc}

theorem callHttp_eq (hh : ¬(http = 200 ∨ resp.hdrStatus.isSome = true)) :
    callHttp cfg shape umdEnc umdAcc k http resp =
      match fromEncodingHeader resp.encVals cfg.accept with
      | .error v => callObs cfg shape umdEnc umdAcc k [.err 12 .unsupported] [v]
      | .ok _ => callObs cfg shape umdEnc umdAcc k (collapse shape (httpItems http resp)) [] := by
  rw [callHttp, if_neg hh]
  cases fromEncodingHeader resp.encVals cfg.accept <;> rfl

theorem callHttp_sent :
    Sent cfg umdEnc umdAcc (if shape.singleRequest then 1 else k)
      (callHttp cfg shape umdEnc umdAcc k http resp) := by
  by_cases hh : http = 200 ∨ resp.hdrStatus.isSome = true
  · rw [callHttp, if_pos hh]
    exact call_sent
  · rw [callHttp_eq hh]
    cases fromEncodingHeader resp.encVals cfg.accept <;> exact sent_callObs ..

theorem httpItems_cls (hp : resp.peerCls ≠ .unsupported) (c : Nat) :
    Item.err c .unsupported ∉ httpItems http resp := by
  intro h
  unfold httpItems at h
  split at h
  · cases h
  · exact hp (Item.err.inj (List.mem_singleton.mp h)).2.symm
  · cases List.mem_singleton.mp h

theorem callHttp_refuse (hA : Agree cfg.accept accept) (hp : resp.peerCls ≠ .unsupported) :
    cliRefuse accept resp (callHttp cfg shape umdEnc umdAcc k http resp) = true := by
  by_cases hh : http = 200 ∨ resp.hdrStatus.isSome = true
  · rw [callHttp, if_pos hh]
    exact call_refuse hA hp
  · rw [callHttp_eq hh, fromEncodingHeader_eq hA]
    refine cliRefuse_of (fun hr => ?_) fun hr c => ?_
    · rw [if_pos hr]
      rfl
    · rw [if_neg hr]
      exact collapse_cls (httpItems_cls hp) c

end Compression
