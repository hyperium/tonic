import TonicModel.Model.Metadata
import TonicModel.Model.MetadataApi
import TonicModel.Spec.Metadata
import TonicModel.Lemmas.Status
/-
Lemmas for C08.  A stored header name is its own ASCII lower-casing, and on such a name the suffix
test of either tree is the spec's `isBinName`; so a key is valid for an encoding exactly when the
name it is stored under is in that encoding's category.  A request or response block is the
protocol's own headers over the sanitised user metadata.  A typed build is the list of accepted
entries, each of which reads back as given.
-/
namespace C08
open Metadata

/-- the stored name `n` belongs to the accessor family `enc` (`get…` for ASCII, `get…_bin` for
binary): it ends in `-bin` iff the family is the binary one -/
def ownCategory (enc : Enc) (n : Bytes) : Bool := (enc == Enc.binary) == Spec.Metadata.isBinName n

end C08

namespace Metadata
open Status (Variant St)
open C08 (ownCategory)

/-- the encoding `iter()` presents an entry of the name `n` in (`Model/Metadata.iter`, inlined there) -/
def iterEnc (v : Variant) (n : Bytes) : Enc := if validKey v .ascii n then Enc.ascii else Enc.binary

theorem headerChar_lower (b c : UInt8) (h : HMap.headerChar b = some c) : c = Ascii.toLower b := by
  unfold HMap.headerChar at h
  unfold Ascii.toLower
  by_cases hu : 65 ≤ b.toNat ∧ b.toNat ≤ 90
  · rw [if_pos hu] at h ⊢
    exact (Option.some.inj h).symm
  · rw [if_neg hu] at h ⊢
    split at h
    · exact (Option.some.inj h).symm
    · split at h
      · exact (Option.some.inj h).symm
      · cases h

theorem toLower_idem (b : UInt8) : Ascii.toLower (Ascii.toLower b) = Ascii.toLower b := by
  by_cases hu : 65 ≤ b.toNat ∧ b.toNat ≤ 90
  · have h1 : Ascii.toLower b = UInt8.ofNat (b.toNat + 32) := if_pos hu
    have h2 : ¬ (65 ≤ (UInt8.ofNat (b.toNat + 32)).toNat ∧ (UInt8.ofNat (b.toNat + 32)).toNat ≤ 90) := by
      rw [UInt8.toNat_ofNat']
      omega
    rw [h1]
    exact if_neg h2
  · have h1 : Ascii.toLower b = b := if_neg hu
    rw [h1, h1]

theorem mapM_headerChar (ks n : Bytes) (h : ks.mapM HMap.headerChar = some n) : n = ks.map Ascii.toLower := by
  induction ks generalizing n with
  | nil => exact (Option.some.inj h).symm
  | cons b rest ih =>
    simp only [List.mapM_cons, Option.pure_def, Option.bind_eq_bind, Option.bind_eq_some_iff, Option.some.injEq] at h
    obtain ⟨c, hb, r, hr, rfl⟩ := h
    rw [List.map_cons, ← headerChar_lower b c hb, ← ih r hr]

theorem normName_lower (ks n : Bytes) (h : HMap.normName ks = some n) : n = ks.map Ascii.toLower := by
  unfold HMap.normName at h
  split at h
  · cases h
  · exact mapM_headerChar ks n h

theorem lower_of_normName {ks n : Bytes} (h : HMap.normName ks = some n) : n.map Ascii.toLower = n := by
  rw [normName_lower ks n h, List.map_map]
  exact List.map_congr_left fun b _ => toLower_idem b

theorem lower_of_staticName {src : Bytes} (h : MetaOps.staticName src = true) :
    src.map Ascii.toLower = src := by
  simp only [MetaOps.staticName, Bool.and_eq_true, List.all_eq_true] at h
  conv => rhs; rw [← List.map_id src]
  refine List.map_congr_left fun b hb => ?_
  have hc := h.2 b hb
  simp only [MetaOps.staticNameChar, Bool.or_eq_true, beq_iff_eq] at hc
  rcases hc with hc | rfl
  · exact (headerChar_lower b b hc).symm
  · rfl

theorem endsWith_eq (k s : Bytes) : endsWith k s = (k.reverse.take s.length == s.reverse) := by
  unfold endsWith
  by_cases hl : s.length ≤ k.length
  · rw [List.take_reverse, decide_eq_true hl, Bool.true_and]
    exact Bool.eq_iff_iff.2 (by simp only [beq_iff_eq, List.reverse_inj])
  · rw [decide_eq_false hl, Bool.false_and]
    symm
    apply beq_eq_false_iff_ne.2
    intro h
    have := congrArg List.length h
    simp only [List.length_take, List.length_reverse] at this
    omega

theorem isBinKey_orig (k : Bytes) : isBinKey .orig k = Spec.Metadata.isBinName k :=
  endsWith_eq k binSuffix

theorem isBinKey_fixed (k : Bytes) : isBinKey .fixed k = Spec.Metadata.isBinName (k.map Ascii.toLower) :=
  endsWith_eq _ binSuffix

theorem isBinKey_of_lower (v : Variant) {n : Bytes} (h : n.map Ascii.toLower = n) :
    isBinKey v n = Spec.Metadata.isBinName n := by
  cases v
  · exact isBinKey_orig n
  · rw [isBinKey_fixed, h]

/-- The repaired tree lower-cases a lookup key before the suffix test, so any spelling of the key
gets the category of the stored name it finds; the original tree tests the key as spelled. -/
theorem isBinKey_fixed_norm {ks n : Bytes} (h : HMap.normName ks = some n) :
    isBinKey .fixed ks = Spec.Metadata.isBinName n := by
  rw [isBinKey_fixed, ← normName_lower ks n h]

theorem validKey_eq (v : Variant) (enc : Enc) (k : Bytes) :
    validKey v enc k = ((enc == Enc.binary) == isBinKey v k) := by
  unfold validKey
  cases enc <;> cases isBinKey v k <;> rfl

theorem validKey_of_lower (v : Variant) (enc : Enc) {n : Bytes} (h : n.map Ascii.toLower = n) :
    validKey v enc n = ownCategory enc n := by
  rw [validKey_eq, isBinKey_of_lower v h, ownCategory]

theorem validKey_fixed_norm (enc : Enc) {ks n : Bytes} (h : HMap.normName ks = some n) :
    validKey .fixed enc ks = ownCategory enc n := by
  rw [validKey_eq, isBinKey_fixed_norm h, ownCategory]

theorem iterEnc_of_lower (v : Variant) {n : Bytes} (h : n.map Ascii.toLower = n) :
    iterEnc v n = if Spec.Metadata.isBinName n then Enc.binary else Enc.ascii := by
  rw [iterEnc, validKey_of_lower v .ascii h, ownCategory]
  cases Spec.Metadata.isBinName n <;> rfl

theorem keyFromBytes_eq_some {v : Variant} {enc : Enc} {src n : Bytes} :
    keyFromBytes v enc src = some n ↔ HMap.normName src = some n ∧ validKey v enc n = true := by
  unfold keyFromBytes
  cases HMap.normName src with
  | none => simp
  | some n' =>
    by_cases hv : validKey v enc n' = true
    · simp only [hv, if_true, Option.some.injEq]
      exact ⟨fun h => h ▸ ⟨rfl, hv⟩, fun h => h.1⟩
    · simp only [hv, Bool.false_eq_true, if_false, Option.some.injEq, reduceCtorEq, false_iff, not_and]
      rintro rfl
      exact hv

theorem valueToBytes_valueFromBytes {enc : Enc} {raw w : Bytes} (h : valueFromBytes enc raw = some w) :
    valueToBytes enc w = some raw := by
  cases enc with
  | ascii =>
    simp only [valueFromBytes] at h
    split at h
    · exact h ▸ rfl
    · cases h
  | binary => exact Option.some.inj h ▸ B64.decode_encode false raw

theorem construct_of_ne_static {c : Ctor} (hc : c ≠ .fromStatic) (src : Bytes) :
    construct .binary c src = .ok (B64.encode false src) ∧
    construct .ascii c src = if HMap.legalValue src then .ok src else .err := by
  cases c <;> first | exact ⟨rfl, rfl⟩ | exact absurd rfl hc

theorem mem_reserved_iff (k : Bytes) : k ∈ Spec.Metadata.reserved ↔ k ∈ Status.reservedHeaders := by
  show k ∈ [Status.TE, Status.USER_AGENT, Status.CONTENT_TYPE, Status.GRPC_STATUS, Status.GRPC_MESSAGE,
    Status.GRPC_MESSAGE_TYPE] ↔ _
  simp only [Status.reservedHeaders, List.mem_cons, List.mem_nil_iff, or_false]
  exact Iff.of_eq (by ac_rfl)

theorem reserved_own :
    Status.TE ∈ Status.reservedHeaders ∧ Status.CONTENT_TYPE ∈ Status.reservedHeaders := by
  simp only [Status.reservedHeaders, List.mem_cons, true_or, or_true, and_self]

theorem not_reserved {k : Bytes} (hk : k ∉ Spec.Metadata.reserved) :
    k ∉ Status.reservedHeaders ∧ k ≠ Status.CONTENT_TYPE ∧ k ≠ Status.GRPC_STATUS ∧ k ≠ Status.GRPC_MESSAGE := by
  have hk' := mt (mem_reserved_iff k).2 hk
  have hne : ∀ r ∈ Status.reservedHeaders, k ≠ r := fun r hr h => hk' (h ▸ hr)
  obtain ⟨_, _, _, _, hstatus, hmessage⟩ := Status.names_ne
  exact ⟨hk', hne _ reserved_own.2, hne _ hstatus, hne _ hmessage⟩

theorem getAll_insert_reserved {k r v : Bytes} {w own md : HMap} (hr : r ∈ Status.reservedHeaders)
    (h : HMap.getAll k w = if k ∈ Status.reservedHeaders then HMap.getAll k own else HMap.getAll k md) :
    HMap.getAll k (HMap.insert r v w) =
      if k ∈ Status.reservedHeaders then HMap.getAll k (HMap.insert r v own) else HMap.getAll k md := by
  by_cases hk : k = r
  · subst hk
    rw [HMap.getAll_insert_self, HMap.getAll_insert_self, if_pos hr]
  · rw [HMap.getAll_insert_ne _ _ _ _ hk, HMap.getAll_insert_ne _ _ _ _ hk, h]

theorem getAll_requestWire (k : Bytes) (md : HMap) :
    HMap.getAll k (requestWire md) =
      if k ∈ Status.reservedHeaders then HMap.getAll k (requestWire []) else HMap.getAll k md :=
  getAll_insert_reserved reserved_own.2
    (getAll_insert_reserved (own := []) reserved_own.1 (Status.getAll_sanitize k md))

theorem getAll_responseWire (k : Bytes) (md : HMap) :
    HMap.getAll k (responseWire md) =
      if k ∈ Status.reservedHeaders then HMap.getAll k (responseWire []) else HMap.getAll k md :=
  getAll_insert_reserved (own := []) reserved_own.2 (Status.getAll_sanitize k md)

theorem requestWire_nil :
    requestWire [] = [(Status.TE, TRAILERS), (Status.CONTENT_TYPE, GRPC_CONTENT_TYPE)] := by
  have h : Status.TE ≠ Status.CONTENT_TYPE := by
    rw [Status.TE, Status.CONTENT_TYPE]
    repeat rw [HMap.name_lit]
    decide +kernel
  show HMap.remove Status.CONTENT_TYPE [(Status.TE, TRAILERS)] ++ _ = _
  rw [HMap.remove_cons, if_neg h]
  rfl

theorem hasKey_congr {k : Bytes} {a b : HMap} (h : HMap.getAll k a = HMap.getAll k b) :
    HMap.hasKey k a = HMap.hasKey k b :=
  Bool.eq_iff_iff.2 (by rw [HMap.hasKey_iff, HMap.hasKey_iff, h])

theorem tryFromError_wrapN (st : St) (ds : List Bytes) : tryFromError (wrapN ds (.status st)) = some st := by
  have hf : ∀ ds : List Bytes, findStatus (wrapN ds (.status st)) = some st := by
    intro ds
    induction ds with
    | nil => rfl
    | cons d ds ih => exact ih
  cases ds with
  | nil => rfl
  | cons d ds => exact hf (d :: ds)

theorem fromErrorChain_wrapN (st : St) (ds : List Bytes) : fromErrorChain (wrapN ds (.status st)) = st := by
  rw [fromErrorChain, tryFromError_wrapN]

/-- the stored `(name, wire value)` of a typed entry, if the API accepts it -/
def storedEntry (v : Variant) (e : Enc × Bytes × Bytes) : Option (Bytes × Bytes) :=
  match keyFromBytes v e.1 e.2.1 with
  | none => none
  | some n =>
    match valueFromBytes e.1 e.2.2 with
    | none => none
    | some w => some (n, w)

theorem append_snd (v : Variant) (e : Enc × Bytes × Bytes) (m : HMap) :
    (append v e.1 e.2.1 e.2.2 m).2 = m ++ (storedEntry v e).toList := by
  unfold append storedEntry
  cases keyFromBytes v e.1 e.2.1 with
  | none => simp
  | some n =>
    cases valueFromBytes e.1 e.2.2 with
    | none => simp
    | some w => simp [HMap.append]

theorem buildTyped_from (v : Variant) (es : List (Enc × Bytes × Bytes)) (m : HMap) :
    es.foldl (fun m e => (append v e.1 e.2.1 e.2.2 m).2) m = m ++ es.filterMap (storedEntry v) := by
  induction es generalizing m with
  | nil => simp
  | cons e es ih =>
    rw [List.foldl_cons, ih, append_snd, List.filterMap_cons]
    cases storedEntry v e <;> simp

theorem storedEntry_view {e : Enc × Bytes × Bytes} {k w : Bytes} (h : storedEntry .fixed e = some (k, w)) :
    iterEnc .fixed k = e.1 ∧ valueToBytes e.1 w = some e.2.2 := by
  unfold storedEntry at h
  cases hk : keyFromBytes .fixed e.1 e.2.1 with
  | none => simp [hk] at h
  | some k' =>
    cases hw : valueFromBytes e.1 e.2.2 with
    | none => simp [hk, hw] at h
    | some w' =>
      simp only [hk, hw, Option.some.injEq, Prod.mk.injEq] at h
      obtain ⟨rfl, rfl⟩ := h
      obtain ⟨hn, hv⟩ := keyFromBytes_eq_some.1 hk
      refine ⟨?_, valueToBytes_valueFromBytes hw⟩
      rw [iterEnc_of_lower .fixed (lower_of_normName hn)]
      rw [validKey_of_lower .fixed _ (lower_of_normName hn), ownCategory] at hv
      revert hv
      cases e.1 <;> cases Spec.Metadata.isBinName k' <;> decide

theorem typedView_of_name (v : Variant) (m : HMap) (n : Bytes) :
    (typedView v m).filterMap (fun r => if r.2.1 = n then some (r.1, r.2.2) else none) =
      (HMap.getAll n m).map (fun w => (iterEnc v n, valueToBytes (iterEnc v n) w)) := by
  induction m with
  | nil => rfl
  | cons e m ih =>
    simp only [typedView, iter, iterEnc, List.map_cons, List.filterMap_cons] at ih ⊢
    rw [HMap.getAll_cons]
    by_cases h : e.1 = n
    · subst h; simp only [if_true, List.map_cons]; rw [← ih]
    · simp only [h, if_false]; exact ih

end Metadata
