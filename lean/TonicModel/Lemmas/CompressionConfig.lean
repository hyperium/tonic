import TonicModel.Model.Compression
import TonicModel.Spec.Compression
/-
The 3-slot array of `EnabledCompressionEncodings` against the naive list semantics of the oracle.
The array reached by configuration calls always holds a duplicate-free list packed to the front
(`Packed`); three slots suffice because there are three encodings.  Later files use the array
only through `Agree` (array and oracle list enable the same encodings) and `enabledList`.
-/
namespace Compression
open CompObs Spec.Compression

def Agree (s : Slots) (l : List Enc) : Prop := ∀ e, isEnabled s e = l.contains e

/-- the enabled encodings in slot order (the order `into_accept_encoding_header_value` writes) -/
def enabledList (s : Slots) : List Enc := s.filterMap id

theorem mem_enabledList (s : Slots) (e : Enc) : e ∈ enabledList s ↔ isEnabled s e = true := by
  simp [enabledList, isEnabled]

theorem agree_enabledList (s : Slots) : Agree s (enabledList s) :=
  fun e => by rw [Bool.eq_iff_iff, ← mem_enabledList, List.contains_iff_mem]

theorem isEnabled_map_some (l : List Enc) (n : Nat) (e : Enc) :
    isEnabled (l.map some ++ List.replicate n none) e = l.contains e := by
  simp [isEnabled, List.contains_eq_mem]

theorem enabledList_map_some (l : List Enc) (n : Nat) :
    enabledList (l.map some ++ List.replicate n none) = l := by
  simp [enabledList]

theorem enable_map_some (l : List Enc) (r : Slots) (e : Enc) :
    enable (l.map some ++ r) e = l.map some ++ if e ∈ l then r else enable r e := by
  induction l with
  | nil => rfl
  | cons a l ih =>
    by_cases h : a = e
    · simp [enable, h]
    · have h' : ¬ e = a := fun h' => h h'.symm
      simp only [List.map_cons, List.cons_append, enable, h, if_false, ih, List.mem_cons, h', false_or]

theorem popRev_replicate_none (n : Nat) (r : Slots) :
    popRev (List.replicate n none ++ r) = List.replicate n none ++ popRev r := by
  induction n with
  | zero => rfl
  | succ n ih => simp only [List.replicate_succ, List.cons_append, popRev, ih]

theorem pop_map_some (l : List Enc) (a : Enc) (n : Nat) :
    pop ((l ++ [a]).map some ++ List.replicate n none) = l.map some ++ List.replicate (n + 1) none := by
  -- reversing puts the `none`s in front; `popRev` skips them and clears the first `some`, which is `a`
  unfold pop
  rw [List.reverse_append, List.reverse_replicate, popRev_replicate_none, List.map_append,
    List.reverse_append]
  simp only [List.map_cons, List.map_nil, List.reverse_cons, List.reverse_nil, List.nil_append,
    List.cons_append, popRev, List.reverse_append, List.reverse_reverse, List.reverse_replicate,
    List.append_assoc]
  rfl

def Packed (s : Slots) (l : List Enc) : Prop :=
  l.Nodup ∧ ∃ n, l.length + n = 3 ∧ s = l.map some ++ List.replicate n none

theorem Packed.agree {s : Slots} {l : List Enc} (h : Packed s l) : Agree s l := by
  obtain ⟨_, n, _, rfl⟩ := h
  exact isEnabled_map_some l n

theorem Packed.enabledList {s : Slots} {l : List Enc} (h : Packed s l) : enabledList s = l := by
  obtain ⟨_, n, _, rfl⟩ := h
  exact enabledList_map_some l n

theorem Packed.enable {s : Slots} {l : List Enc} (h : Packed s l) (e : Enc) :
    Packed (enable s e) (if l.contains e then l else l ++ [e]) := by
  obtain ⟨hl, n, hn, rfl⟩ := h
  rw [enable_map_some]
  by_cases he : e ∈ l
  · rw [if_pos he, if_pos (List.contains_iff_mem.mpr he)]
    exact ⟨hl, n, hn, rfl⟩
  · -- `enable` never finds the array full: a duplicate-free list that misses `e` has at most two
    -- of the three encodings
    have hel : (e :: l).Nodup := List.nodup_cons.mpr ⟨he, hl⟩
    have h3 : (e :: l).length ≤ Enc.all.length := hel.length_le_of_subset fun x _ => Enc.mem_all x
    rw [if_neg he, if_neg (mt List.contains_iff_mem.mp he)]
    cases n with
    | zero => simp only [List.length_cons, Enc.all, List.length_nil] at h3; omega
    | succ n =>
      refine ⟨(List.perm_append_singleton e l).nodup_iff.mpr hel, n,
        by rw [List.length_append, List.length_singleton]; omega, ?_⟩
      rw [List.map_append, List.append_assoc]
      rfl

theorem Packed.pop {s : Slots} {l : List Enc} (h : Packed s l) : Packed (pop s) l.dropLast := by
  obtain ⟨hl, n, hn, rfl⟩ := h
  rcases List.eq_nil_or_concat l with rfl | ⟨l', a, rfl⟩
  · exact ⟨hl, n, hn, by rw [show n = 3 from by simpa using hn]; rfl⟩
  · rw [List.concat_eq_append] at hl hn ⊢
    rw [List.dropLast_concat, pop_map_some]
    exact ⟨hl.sublist (List.sublist_append_left l' [a]), n + 1,
      by rw [List.length_append, List.length_singleton] at hn; omega, rfl⟩

theorem packed_runCalls (cs : List Call) : Packed (runCalls cs) (enabledAfter cs) := by
  have : ∀ s l, Packed s l → Packed (cs.foldl applyCall s) (cs.foldl enabledStep l) := by
    induction cs with
    | nil => exact fun _ _ h => h
    | cons c cs ih =>
      intro s l h
      cases c with
      | en e => exact ih _ _ (h.enable e)
      | pop => exact ih _ _ h.pop
  exact this _ _ ⟨List.nodup_nil, 3, rfl, rfl⟩

theorem applyConfig_default (given : Slots) :
    applyConfig Slots.default given = (Enc.all.filter (isEnabled given)).map some ++
      List.replicate (3 - (Enc.all.filter (isEnabled given)).length) none := by
  unfold applyConfig Enc.all
  simp only [List.foldl_cons, List.foldl_nil, List.filter_cons, List.filter_nil]
  cases isEnabled given .gzip <;> cases isEnabled given .deflate <;> cases isEnabled given .zstd <;>
    rfl

theorem configure_agree (direct : Bool) (cs : List Call) :
    Agree (configure direct cs) (enabledAfter cs) := by
  have h := (packed_runCalls cs).agree
  cases direct with
  | true => exact h
  | false =>
    intro e
    rw [configure, if_neg Bool.false_ne_true, applyConfig_default, isEnabled_map_some, ← h e]
    simp [Enc.mem_all]

/-- Only the builder route keeps the order of the calls: `apply_compression_config` re-enables in
the fixed order of `ENCODINGS` (`applyConfig_default`). -/
theorem enabledList_configure_direct (cs : List Call) :
    enabledList (configure true cs) = enabledAfter cs :=
  (packed_runCalls cs).enabledList

end Compression
