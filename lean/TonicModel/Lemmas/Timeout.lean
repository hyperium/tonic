import TonicModel.Model.Timeout
import TonicModel.Spec.Timeout
import TonicModel.Lemmas.Decimal
/-
Lemmas for C09 (deadlines).  About the oracle alone (`Spec/Timeout`): its two readings of a header
value agree, and when `lateExpected'` accepts an observation.  About the model (`Model/Timeout`): the
encoder's unit cascade, the min rule, one timer around a future (`cutAt`) and the same seen by a
caller who looks late (`lateCut`).  Model and oracle meet through `C09.asExpect`.
-/

namespace Spec.Timeout

theorem digitOf_table : ∀ n : Fin 256, digitOf (UInt8.ofNat n.val) =
    if Ascii.isDigit (UInt8.ofNat n.val) then some ((UInt8.ofNat n.val).toNat - 48) else none := by
  decide +kernel

theorem digitOf_eq (b : UInt8) :
    digitOf b = if Ascii.isDigit b then some (b.toNat - 48) else none := by
  have := digitOf_table ⟨b.toNat, b.toNat_lt⟩
  rwa [UInt8.ofNat_toNat] at this

theorem positional_eq (ds : Bytes) :
    positional ds = if ds.all Ascii.isDigit then some (digitsVal ds) else none := by
  induction ds with
  | nil => rfl
  | cons b bs ih =>
    simp only [positional, ih, digitOf_eq, List.all_cons, digitsVal_cons]
    cases Ascii.isDigit b <;> cases bs.all Ascii.isDigit <;> rfl

theorem denote_eq_positional (v : Bytes) : denote v = denotePositional v := by
  unfold denote denotePositional
  cases v.getLast? with
  | none => rfl
  | some ub =>
    simp only [positional_eq]
    cases v.dropLast.all Ascii.isDigit <;> cases unitNanos ub <;> simp

theorem denote_concat (ds : Bytes) (ub : UInt8) :
    denote (ds ++ [ub]) =
      if 1 ≤ ds.length ∧ ds.length ≤ 8 ∧ ds.all Ascii.isDigit = true then
        (unitNanos ub).map fun k => digitsVal ds * k
      else none := by
  simp only [denote, List.getLast?_append, List.getLast?_singleton, List.dropLast_concat,
    Option.some_or]

theorem later_eq (a b : Nat) : later a b = max a b := by
  unfold later; split <;> omega

theorem finishes_mem {m : Option Nat} {l b t : Nat} (ht : t = max l b)
    (h : ∀ x, m = some x → l ≤ x ∨ l ≤ b) : Expect.finishes t ∈ lateExpected' m (some l) b := by
  subst ht
  cases m with
  | none => simp only [lateExpected', later_eq, List.mem_singleton]
  | some m =>
    simp only [lateExpected', later_eq]
    rcases h m rfl with h | h
    · rw [if_pos h]; exact List.mem_singleton.2 rfl
    · split
      · exact List.mem_singleton.2 rfl
      · rw [if_neg (by omega), Nat.max_eq_right h]; exact List.mem_cons_self

theorem cancelled_mem {m b t : Nat} {l : Option Nat} (ht : t = max m b)
    (h : ∀ x, l = some x → m < x) : Expect.cancelled t ∈ lateExpected' (some m) l b := by
  subst ht
  cases l with
  | none => simp only [lateExpected', later_eq, List.mem_singleton]
  | some l =>
    have := h l rfl
    simp only [lateExpected', later_eq]
    rw [if_neg (by omega)]
    split
    · exact List.mem_singleton.2 rfl
    · rw [Nat.max_eq_right (by omega)]; exact List.mem_cons_of_mem _ List.mem_cons_self

end Spec.Timeout

namespace C09
open Timeout

/-- The model's result read as the spec's vocabulary. -/
def asExpect : Done → Spec.Timeout.Expect
  | .inner t => .finishes t
  | .timeout t => .cancelled t
  | .pending => .pending

end C09

namespace Timeout
open C09 (asExpect)

/-- One step down an `if … then some _ else …` cascade that is known to end in `some x`. -/
theorem ite_some_eq_some {α : Type} {c : Prop} [Decidable c] {a x : α} {r : Option α}
    (h : (if c then some a else r) = some x) : c ∧ a = x ∨ ¬c ∧ r = some x := by
  by_cases hc : c
  · rw [if_pos hc] at h; exact .inl ⟨hc, Option.some.inj h⟩
  · rw [if_neg hc] at h; exact .inr ⟨hc, h⟩

theorem find?_cons_ite {α : Type} (p : α → Bool) (a : α) (l : List α) :
    (a :: l).find? p = if p a then some a else l.find? p := by
  cases h : p a <;> simp [h]

theorem U.nanos_pos (un : U) : 0 < un.nanos := by cases un <;> decide

theorem encodeVU_eq_some {d : Nat} {vu : Nat × U} (h : encodeVU d = some vu) :
    vu.1 = d / vu.2.nanos ∧ vu.1 ≤ maxValue ∧
      ∀ un : U, un.nanos < vu.2.nanos → maxValue < d / un.nanos := by
  unfold encodeVU at h
  simp only [Nat.div_div_eq_div_mul, Nat.reduceMul] at h
  iterate 6
    rcases ite_some_eq_some h with ⟨hc, rfl⟩ | ⟨hc, h⟩
    · refine ⟨by simp only [U.nanos, Nat.div_one], hc, fun un hun => ?_⟩
      -- a finer unit is one whose test failed: its failure is among the `hc`
      cases un <;> simp only [U.nanos, Nat.div_one, Nat.reduceLT] at hun ⊢ <;>
        exact Nat.lt_of_not_le ‹_›
  cases h

theorem chosenUnit_eq (d : Nat) : Spec.Timeout.chosenUnit d = (encodeVU d).map (·.2.nanos) := by
  simp only [Spec.Timeout.chosenUnit, Spec.Timeout.unitSizes, encodeVU, maxValue,
    find?_cons_ite, List.find?_nil, decide_eq_true_eq, apply_ite (Option.map _),
    Option.map_some, Option.map_none, U.nanos, Nat.div_one, Nat.div_div_eq_div_mul, Nat.reduceMul]

theorem ofByte_eq_some {b : UInt8} {un : U} (h : U.ofByte b = some un) : b = un.byte := by
  unfold U.ofByte at h
  iterate 6
    rcases ite_some_eq_some h with ⟨hc, rfl⟩ | ⟨-, h⟩
    · exact hc
  cases h

theorem ofByte_nanos (b : UInt8) : (U.ofByte b).map U.nanos = Spec.Timeout.unitNanos b := by
  simp only [U.ofByte, apply_ite (Option.map U.nanos)]; rfl

theorem unitNanos_byte (un : U) : Spec.Timeout.unitNanos un.byte = some un.nanos := by
  cases un <;> decide

theorem visible_of_digit (b : UInt8) (h : Ascii.isDigit b = true) : Ascii.isVisible b = true := by
  simp [Ascii.isDigit, Ascii.isVisible] at *; omega

theorem visible_of_unit (b : UInt8) (un : U) (h : U.ofByte b = some un) :
    Ascii.isVisible b = true := by
  rw [ofByte_eq_some h]; cases un <;> decide

theorem effective_none_right (c : Option Nat) : effective c none = c := by cases c <;> rfl

theorem effective_some_right (c : Option Nat) (s : Nat) :
    ∃ m, effective c (some s) = some m ∧ m ≤ s := by
  cases c with
  | none => exact ⟨s, rfl, Nat.le_refl s⟩
  | some c => exact ⟨min c s, rfl, Nat.min_le_right c s⟩

theorem shortest_cons (x : Option Nat) (xs : List (Option Nat)) :
    Spec.Timeout.shortest (x :: xs) = effective x (Spec.Timeout.shortest xs) := by
  cases x with
  | none => simp only [Spec.Timeout.shortest]; cases Spec.Timeout.shortest xs <;> rfl
  | some d =>
    simp only [Spec.Timeout.shortest]
    cases Spec.Timeout.shortest xs <;> simp only [effective, Nat.min_def]

theorem shortest_pair (h c : Option Nat) : Spec.Timeout.shortest [h, c] = effective h c := by
  simp only [shortest_cons, Spec.Timeout.shortest, effective_none_right]

/-- The shortest of three deadlines, in the grouping the two stacks produce: the client's timer is
`effective c e`, the server's `effective c s`. -/
theorem shortest_triple (c s e : Option Nat) :
    Spec.Timeout.shortest [c, s, e] = effective (effective c e) (effective c s) := by
  simp only [shortest_cons, Spec.Timeout.shortest, effective_none_right]
  cases c <;> cases s <;> cases e <;> simp only [effective, Option.some.injEq] <;> ac_rfl

theorem cutAt_eq_inner {T : Option Nat} {d : Done} {t : Nat} (h : cutAt T d = .inner t) :
    d = .inner t := by
  cases T with
  | none => exact h
  | some tt =>
    cases d with
    | inner t' => simp only [cutAt] at h; split at h <;> first | exact h | cases h
    | timeout t' => simp only [cutAt] at h; split at h <;> cases h
    | pending => cases h

theorem cutAt_cutAt (a b : Option Nat) (d : Done) :
    cutAt a (cutAt b d) = cutAt (effective a b) d := by
  cases a with
  | none => cases b <;> rfl
  | some x =>
    cases b with
    | none => rfl
    | some y =>
      -- `min` by the test `cutAt` makes between two timers
      have hm : min x y = if x < y then x else y := by split <;> omega
      rw [effective, hm]
      cases d with
      | pending => by_cases h : x < y <;> simp [cutAt, h]
      | inner t | timeout t =>
        by_cases h : x < y <;> by_cases h1 : y < t <;> by_cases h2 : x < t <;>
          simp [cutAt, h, h1, h2] <;> omega

theorem cut_spec (m l : Option Nat) :
    asExpect (cutAt m (answer l)) = Spec.Timeout.expected' m l := by
  cases m with
  | none => cases l <;> rfl
  | some m =>
    cases l with
    | none => rfl
    | some l => by_cases h : m < l <;> simp [cutAt, answer, asExpect, Spec.Timeout.expected', h]

/-- A list function that conses one `g a` per element is `map g`.  The call sequences of the model
(`mwCallsBy`, `channelCallsBy`, `serverConnsBy`) thread a state; for tonic's `call` and `accept`, which
hand the state back as it was, the step equation holds by `rfl`. -/
theorem eq_map_of_cons {α β} (f : List α → List β) (g : α → β) (hnil : f [] = [])
    (hcons : ∀ a l, f (a :: l) = g a :: f l) (l : List α) : f l = l.map g := by
  induction l with
  | nil => exact hnil
  | cons a l ih => rw [hcons, ih, List.map_cons]

theorem asExpect_inj {a b : Done} (h : asExpect a = asExpect b) : a = b := by
  cases a <;> cases b <;> cases h <;> rfl

/-- An outcome as observed by someone who first looks at `b`. -/
def Done.notBefore (b : Nat) : Done → Done
  | .inner t => .inner (max t b)
  | .timeout t => .timeout (max t b)
  | .pending => .pending

theorem lateCut_eq (T : Option Nat) (d : Done) (b : Nat) :
    lateCut T d b = (if d.readyBy b then d else cutAt T d).notBefore b := by
  cases T <;> cases d <;>
    simp only [lateCut, cutAt, Done.readyBy, Done.pickedUpAt, decide_eq_true_eq, Bool.false_eq_true,
      if_false] <;>
    (repeat' split) <;>
    simp only [Done.notBefore, Done.inner.injEq, Done.timeout.injEq, reduceCtorEq] <;> omega

theorem lateCut_eq_inner {T : Option Nat} {d : Done} {b t : Nat} (h : lateCut T d b = .inner t) :
    ∃ t', d = .inner t' ∧ t' ≤ t := by
  rw [lateCut_eq] at h
  generalize hx : (if d.readyBy b then d else cutAt T d) = x at h
  cases x with
  | inner t' =>
    cases h
    refine ⟨t', ?_, Nat.le_max_left t' b⟩
    split at hx
    · exact hx
    · exact cutAt_eq_inner hx
  | timeout _ => cases h
  | pending => cases h

/- Replies whose head arrives together with their end (`r.head = r.done`): for these the client stack
is the middleware around the head's arrival, reading the body adds nothing. -/

theorem done_of_headDone {r : Reply} (hd : r.head = r.done) {t : Nat}
    (h : r.headDone = .inner t) : r.done = some t := by
  rw [Reply.headDone, hd] at h
  cases hl : r.done with
  | none => rw [hl] at h; cases h
  | some x =>
    simp only [hl] at h
    split at h <;> cases h
    rfl

theorem clientCall_eq_stage {r : Reply} (hd : r.head = r.done) (c e : Option Nat) :
    clientCall c e r = stage c e r.headDone := by
  unfold clientCall
  cases h : stage c e r.headDone with
  | inner t => simp only [done_of_headDone hd (cutAt_eq_inner h)]
  | timeout t => rfl
  | pending => rfl

theorem clientCallLate_eq_lateStage {r : Reply} (hd : r.head = r.done) (c e : Option Nat) (b : Nat) :
    clientCallLate c e r b = lateStage c e r.headDone b := by
  unfold clientCallLate
  cases h : lateStage c e r.headDone b with
  | inner t =>
    obtain ⟨t', ht', ht⟩ := lateCut_eq_inner h
    simp only [done_of_headDone hd ht', Nat.max_eq_left ht]
  | timeout t => rfl
  | pending => rfl

theorem headDone_eq_answer {r : Reply} (hc : r.cancelled = false) (hd : r.head = r.done) :
    r.headDone = answer r.done := by
  rw [Reply.headDone, hc, hd]; cases r.done <;> rfl

theorem tonicPeer_head (h c l : Option Nat) : (tonicPeer h c l).head = (tonicPeer h c l).done := by
  unfold tonicPeer; cases serverStack h c l <;> rfl

theorem tonicPeer_headDone (h c l : Option Nat) :
    (tonicPeer h c l).headDone = serverStack h c l := by
  unfold tonicPeer; cases serverStack h c l <;> rfl

theorem delayed_spec (m l : Option Nat) (b : Nat) :
    asExpect ((cutAt m (answer l)).notBefore b) ∈ Spec.Timeout.lateExpected' m l b := by
  cases m with
  | none =>
    cases l with
    | none => exact List.mem_singleton.2 rfl
    | some l => exact Spec.Timeout.finishes_mem rfl nofun
  | some m =>
    cases l with
    | none => exact Spec.Timeout.cancelled_mem rfl nofun
    | some l =>
      simp only [answer, cutAt]
      split
      · exact Spec.Timeout.cancelled_mem rfl fun x hx => by cases hx; assumption
      · exact Spec.Timeout.finishes_mem rfl fun x hx => by cases hx; omega

/-- What the server's stage (timer `S`) had produced before the caller's first poll `b` is accepted as
it is picked up, whatever timer `E` the caller's own stack holds: the shortest deadline is no later
than `S`. -/
theorem ready_spec (S E l : Option Nat) (b : Nat)
    (hr : (cutAt S (answer l)).readyBy b = true) :
    asExpect ((cutAt S (answer l)).notBefore b) ∈
      Spec.Timeout.lateExpected' (effective E S) l b := by
  cases S with
  | none =>
    rw [effective_none_right]
    cases l with
    | none => cases hr
    | some l => exact Spec.Timeout.finishes_mem rfl fun _ _ => .inr (of_decide_eq_true hr)
  | some s =>
    obtain ⟨m, hm, hle⟩ := effective_some_right E s
    rw [hm]
    cases l with
    | none =>
      have : s ≤ b := of_decide_eq_true hr
      exact Spec.Timeout.cancelled_mem (by omega) nofun
    | some l =>
      by_cases hsl : s < l
      · simp only [answer, cutAt, if_pos hsl] at hr ⊢
        have : s ≤ b := of_decide_eq_true hr
        exact Spec.Timeout.cancelled_mem (by omega) fun x hx => by cases hx; omega
      · simp only [answer, cutAt, if_neg hsl] at hr ⊢
        exact Spec.Timeout.finishes_mem rfl fun _ _ => .inr (of_decide_eq_true hr)

theorem lateCut_cut_spec (S E l : Option Nat) (b : Nat) :
    asExpect (lateCut E (cutAt S (answer l)) b) ∈ Spec.Timeout.lateExpected' (effective E S) l b := by
  rw [lateCut_eq]
  split
  · exact ready_spec S E l b ‹_›
  · rw [cutAt_cutAt]; exact delayed_spec _ l b

end Timeout
