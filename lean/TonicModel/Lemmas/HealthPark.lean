import TonicModel.Model.Health
import TonicModel.Spec.Health
import TonicModel.Lemmas.Health
/-
Histories with awaiting watchers (`Health.pstep`): polling is the only thing the parked layer
does to the table, a parked task never has anything deliverable, and a `set` / `clear` on its
channel makes it poll.
-/
namespace Health
open Spec.Health

section
variable {h : H} {s : P} {w : Nat} {wt : Watcher} {c : Chan}

theorem step_next_frame (h : H) (w : Nat) :
    (step h (.next w)).1.chans = h.chans ∧
      ∀ w', w ≠ w' → (step h (.next w)).1.watchers[w']? = h.watchers[w']? := by
  rcases step_next_cases h w with ⟨wt, c, hw, hc⟩ | hn
  · rw [step_next_some hw hc]
    split
    · exact ⟨rfl, fun _ _ => rfl⟩
    · exact ⟨rfl, fun _ hne => List.getElem?_set_ne hne⟩
  · rw [hn]; exact ⟨rfl, fun _ _ => rfl⟩

theorem step_watchers_get (h : H) (o : Op) (hw : w < h.watchers.length)
    (hn : o ≠ .next w) (hd : o ≠ .drop w) : (step h o).1.watchers[w]? = h.watchers[w]? := by
  cases o with
  | set n st => simp only [step]; split <;> rfl
  | clear n => simp only [step]; split <;> rfl
  | check n => rw [step_check]
  | watch n => simp only [step]; split <;> exact List.getElem?_append_left hw
  | next w' => exact (step_next_frame h w').2 w fun e => hn (by rw [e])
  | drop w' =>
    have hne : w' ≠ w := fun e => hd (by rw [e])
    simp only [step]
    split
    · exact List.getElem?_set_ne hne
    · rfl

theorem step_chans_get (h : H) (o : Op) {i : Nat} (hi : i < h.chans.length)
    (hn : notified h o ≠ some i) : (step h o).1.chans[i]? = h.chans[i]? := by
  cases o with
  | set n st =>
    cases hl : lookup n h.reg with
    | none => rw [step_set_none hl]; exact List.getElem?_append_left hi
    | some j =>
      rw [step_set_some hl]
      exact List.getElem?_modify_ne _ _ fun e => hn (by rw [← e]; exact hl)
  | clear n =>
    cases hl : lookup n h.reg with
    | none => rw [step_clear_none hl]
    | some j =>
      rw [step_clear_some hl]
      exact List.getElem?_modify_ne _ _ fun e => hn (by rw [← e]; exact hl)
  | check n => rw [step_check]
  | watch n => simp only [step]; split <;> rfl
  | next w => rw [(step_next_frame h w).1]
  | drop w => simp only [step]; split <;> rfl

/-- Stream `w` is open, has been polled, and has seen the current version of its channel. -/
def Quiet (h : H) (w : Nat) : Prop :=
  ∃ wt c, h.watchers[w]? = some (some wt) ∧ h.chans[wt.chan]? = some c ∧
    wt.seen = some c.version ∧ c.closed = false

theorem next_pending_iff (h : H) (w : Nat) : (step h (.next w)).2 = .pending ↔ Quiet h w := by
  constructor
  · intro hp
    rcases step_next_cases h w with ⟨wt, c, hw, hc⟩ | hn
    · rw [step_next_some hw hc] at hp
      split at hp
      · next hseen =>
        cases hcl : c.closed with
        | true => simp [hcl] at hp
        | false => exact ⟨wt, c, hw, hc, hseen, hcl⟩
      · cases hp
    · rw [hn] at hp; cases hp
  · rintro ⟨wt, c, hw, hc, hseen, hcl⟩
    rw [step_next_some hw hc, if_pos hseen, hcl]; rfl

theorem next_pending_state (hp : (step h (.next w)).2 = .pending) :
    (step h (.next w)).1 = h := by
  obtain ⟨wt, c, hw, hc, hseen, hcl⟩ := (next_pending_iff h w).mp hp
  rw [step_next_some hw hc, if_pos hseen]

theorem next_congr {h h' : H} (hw : h'.watchers[w]? = h.watchers[w]?)
    (hc : h'.chans = h.chans) : (step h' (.next w)).2 = (step h (.next w)).2 := by
  simp only [step, hw, hc]
  split
  · split
    · split <;> rfl
    · rfl
  · rfl

theorem quiet_step (hq : Quiet h w) (o : Op)
    (hd : o ≠ .drop w) (hnot : ∀ i, notified h o = some i → chanOf h w ≠ some i) :
    Quiet (step h o).1 w := by
  by_cases hn : o = .next w
  · subst hn; rw [next_pending_state ((next_pending_iff h w).mpr hq)]; exact hq
  · obtain ⟨wt, c, hw, hc, hseen, hcl⟩ := hq
    refine ⟨wt, c, ?_, ?_, hseen, hcl⟩
    · rw [step_watchers_get h o (List.getElem?_eq_some_iff.mp hw).1 hn hd]; exact hw
    · rw [step_chans_get h o (List.getElem?_eq_some_iff.mp hc).1
        fun e => hnot _ e (by simp only [chanOf, hw])]
      exact hc

theorem Quiet.lt (hq : Quiet h w) : w < h.watchers.length := by
  obtain ⟨wt, c, hw, -⟩ := hq
  exact (List.getElem?_eq_some_iff.mp hw).1

theorem chanOf_step (h : H) (o : Op) (hw : w < h.watchers.length)
    (hn : o ≠ .next w) (hd : o ≠ .drop w) : chanOf (step h o).1 w = chanOf h w := by
  simp only [chanOf, step_watchers_get h o hw hn hd]

/-- `evs` are operations with the answers `step` gives to them, in order from `h` to `h'`. -/
def Steps (h : H) (evs : List Ev) (h' : H) : Prop :=
  h' = exec h (evs.map (·.1)) ∧ evs.map (·.2) = run h (evs.map (·.1))

theorem Steps.nil (h : H) : Steps h [] h := ⟨rfl, rfl⟩

theorem Steps.cons {h h' : H} {evs : List Ev} (o : Op) (hs : Steps (step h o).1 evs h') :
    Steps h ((o, (step h o).2) :: evs) h' :=
  ⟨hs.1, congrArg ((step h o).2 :: ·) hs.2⟩

theorem Steps.append {h h1 h2 : H} {a b : List Ev} (ha : Steps h a h1) (hb : Steps h1 b h2) :
    Steps h (a ++ b) h2 := by
  obtain ⟨rfl, ha2⟩ := ha
  obtain ⟨rfl, hb2⟩ := hb
  exact ⟨by rw [List.map_append, exec_append], by rw [List.map_append, List.map_append, run_append, ha2, hb2]⟩

theorem repoll_steps (i : Nat) (h : H) (ws : List Nat) :
    Steps h ((repoll i h ws).2.map fun p => (Op.next p.1, p.2)) (repoll i h ws).1 := by
  induction ws generalizing h with
  | nil => exact .nil h
  | cons w ws ih =>
    rw [repoll]
    split
    · exact .cons _ (ih _)
    · exact ih h

theorem repoll_quiet (i : Nat) (hq : Quiet h w) (ws : List Nat) :
    Quiet (repoll i h ws).1 w := by
  induction ws generalizing h with
  | nil => exact hq
  | cons w' ws ih =>
    rw [repoll]
    split
    · exact ih (quiet_step hq _ (by simp) (by simp [notified]))
    · exact ih hq

theorem repoll_mem (i : Nat) (ws : List Nat) (hnd : ws.Nodup) (hw : w ∈ ws)
    (hc : chanOf h w = some i) : (w, (step h (.next w)).2) ∈ (repoll i h ws).2 := by
  induction ws generalizing h with
  | nil => cases hw
  | cons w' ws ih =>
    rw [List.nodup_cons] at hnd
    rw [repoll]
    rcases List.mem_cons.mp hw with rfl | hin
    · rw [if_pos hc]; exact List.mem_cons_self
    · split
      · -- the poll of `w'` leaves slot `w` and the channels as they are
        obtain ⟨h2, h1⟩ := step_next_frame h w'
        replace h1 := h1 w fun e => hnd.1 (e ▸ hin)
        have := ih (h := (step h (.next w')).1) hnd.2 hin (by simp only [chanOf, h1] at hc ⊢; exact hc)
        rw [next_congr h1 h2] at this
        exact List.mem_cons_of_mem _ this
      · exact ih hnd.2 hin hc

end

theorem repoll_fst_mem (i : Nat) (h : H) (ws : List Nat) :
    ∀ p ∈ (repoll i h ws).2, p.1 ∈ ws := by
  induction ws generalizing h with
  | nil => intro p hp; cases hp
  | cons w' ws ih =>
    intro p hp
    rw [repoll] at hp
    split at hp
    · rcases List.mem_cons.mp hp with rfl | hp'
      · exact List.mem_cons_self
      · exact List.mem_cons_of_mem _ (ih _ p hp')
    · exact List.mem_cons_of_mem _ (ih _ p hp)

section
variable {h : H} {s : P} {w : Nat} {wt : Watcher} {c : Chan}

theorem mem_stillParked {parked : List Nat} {polls : List (Nat × Resp)} :
    w ∈ stillParked parked polls ↔ w ∈ parked ∧ ∀ r, (w, r) ∈ polls → r = .pending := by
  simp only [stillParked, wokenOf, List.mem_filter, Bool.not_eq_true', List.any_eq_false,
    List.mem_filter, decide_eq_true_eq, beq_iff_eq, and_imp, Prod.forall]
  constructor
  · rintro ⟨h1, h2⟩
    exact ⟨h1, fun r hr => Decidable.byContradiction fun hne => h2 w r hr hne rfl⟩
  · rintro ⟨h1, h2⟩
    exact ⟨h1, fun a r hr hne e => hne (h2 r (e ▸ hr))⟩

/-! ### the invariant of the parked layer -/

/-- No task is parked twice, and no parked task has anything deliverable. -/
structure PInv (s : P) : Prop where
  nodup : s.parked.Nodup
  quiet : ∀ w ∈ s.parked, Quiet s.h w

theorem pinv_init : PInv pinit := ⟨List.nodup_nil, fun w hw => by cases hw⟩

private theorem pinv_poll (hs : PInv s) (w : Nat) :
    PInv ⟨(step s.h (.next w)).1, s.parked⟩ :=
  ⟨hs.nodup, fun w' hw' => quiet_step (hs.quiet w' hw') _ (by simp) (by simp [notified])⟩

theorem pinv_update (hs : PInv s) (o : Op) (hn : ∀ w', o ≠ .next w') (hd : ∀ w', o ≠ .drop w') :
    PInv (pupdate s o).1 := by
  rw [pupdate]
  cases hno : notified s.h o with
  | none =>
    exact ⟨hs.nodup, fun w hw => quiet_step (hs.quiet w hw) o (hd w) (by simp [hno])⟩
  | some i =>
    refine ⟨hs.nodup.filter _, fun w hw => ?_⟩
    obtain ⟨hwp, hpend⟩ := mem_stillParked.mp hw
    have hq := hs.quiet w hwp
    by_cases hc : chanOf s.h w = some i
    · -- it polled; it is still parked, so the poll delivered nothing
      have hm := repoll_mem i (h := (step s.h o).1) s.parked hs.nodup hwp
        (by rw [chanOf_step s.h o hq.lt (hn w) (hd w)]; exact hc)
      exact repoll_quiet i ((next_pending_iff _ _).mp (hpend _ hm)) _
    · exact repoll_quiet i (quiet_step hq o (hd w) fun j e => by rw [hno] at e; cases e; exact hc) _

theorem pinv_step (hs : PInv s) (it : Item) : PInv (pstep s it).1 := by
  cases it with
  | await w =>
    simp only [pstep, pstepFull]
    split
    · exact hs
    · next hnp =>
      split
      · next hp =>
        refine ⟨List.nodup_cons.mpr ⟨hnp, hs.nodup⟩, fun w' hw' => ?_⟩
        show Quiet (step s.h (.next w)).1 w'
        rw [next_pending_state hp]
        rcases List.mem_cons.mp hw' with rfl | h1
        · exact (next_pending_iff _ _).mp hp
        · exact hs.quiet w' h1
      · exact pinv_poll hs w
  | op o =>
    cases o with
    | next w =>
      simp only [pstep, pstepFull]
      split
      · exact hs
      · exact pinv_poll hs w
    | drop w =>
      refine ⟨hs.nodup.filter _, fun w' hw' => ?_⟩
      obtain ⟨h1, h2⟩ := List.mem_filter.mp hw'
      exact quiet_step (hs.quiet w' h1) (.drop w) (fun e => by simp [Op.drop.inj e] at h2)
        (by simp [notified])
    | _ => exact pinv_update hs _ (by simp) (by simp)

theorem pinv_exec (hs : PInv s) (items : List Item) : PInv (pexec s items) := by
  induction items generalizing s with
  | nil => exact hs
  | cons it items ih => exact ih (pinv_step hs it)

/-! ### the parked layer only schedules `next` operations -/

theorem pstepFull_steps (s : P) (it : Item) :
    Steps s.h (pstepFull s it).2.2 (pstepFull s it).1.h := by
  have upd (o : Op) : Steps s.h (pupdate s o).2.2 (pupdate s o).1.h := by
    rw [pupdate]
    split
    · exact .cons o (.nil _)
    · exact .cons o (repoll_steps _ _ _)
  cases it with
  | await w =>
    rw [pstepFull]
    split
    · exact .nil _
    · split <;> exact .cons _ (.nil _)
  | op o =>
    cases o with
    | next w =>
      rw [pstepFull]
      split
      · exact .nil _
      · exact .cons _ (.nil _)
    | drop w => exact .cons _ (.nil _)
    | _ => exact upd _

theorem pexec_steps (s : P) (items : List Item) : Steps s.h (pevents s items) (pexec s items).h := by
  induction items generalizing s with
  | nil => exact .nil _
  | cons it items ih => exact (pstepFull_steps s it).append (ih (pstep s it).1)

theorem pexec_sim (items : List Item) :
    (pexec pinit items).h = exec init (pops items) ∧ Sim (pexec pinit items).h (logOf (pops items)) := by
  have h1 := (pexec_steps pinit items).1
  exact ⟨h1, h1 ▸ sim_logOf _⟩

/-! ### wake-ups -/

theorem next_after_set (hw : h.watchers[w]? = some (some wt)) (hc : h.chans[wt.chan]? = some c)
    (hseen : wt.seen = some c.version) (n : Name) (st : St) (hl : lookup n h.reg = some wt.chan) :
    (step (step h (.set n st)).1 (.next w)).2 = .value st := by
  have hw' : (step h (.set n st)).1.watchers[w]? = some (some wt) := by
    rw [step_set_some hl]; exact hw
  have hc' : (step h (.set n st)).1.chans[wt.chan]? = some (c.send st) := by
    rw [step_set_some hl]; exact (List.getElem?_modify_eq ..).trans (by rw [hc]; rfl)
  rw [step_next_some hw' hc', if_neg (by
    rw [hseen]; exact fun e => Nat.ne_of_lt (Nat.lt_succ_self _) (Option.some.inj e))]
  rfl

theorem next_after_clear (hw : h.watchers[w]? = some (some wt)) (hc : h.chans[wt.chan]? = some c)
    (hseen : wt.seen = some c.version) (n : Name) (hl : lookup n h.reg = some wt.chan) :
    (step (step h (.clear n)).1 (.next w)).2 = .ended := by
  have hw' : (step h (.clear n)).1.watchers[w]? = some (some wt) := by
    rw [step_clear_some hl]; exact hw
  have hc' : (step h (.clear n)).1.chans[wt.chan]? = some c.close := by
    rw [step_clear_some hl]; exact (List.getElem?_modify_eq ..).trans (by rw [hc]; rfl)
  rw [step_next_some hw' hc', if_pos (show wt.seen = some c.close.version from hseen)]
  rfl

theorem woken_of_update (hs : PInv s) (hw : w ∈ s.parked) (o : Op)
    (hn : ∀ w', o ≠ .next w') (hd : ∀ w', o ≠ .drop w') {i : Nat}
    (hno : notified s.h o = some i) (hc : chanOf s.h w = some i) {r : Resp}
    (hnext : (step (step s.h o).1 (.next w)).2 = r) (hne : r ≠ .pending) :
    (w, r) ∈ (pupdate s o).2.1.woken ∧ w ∉ (pupdate s o).1.parked := by
  subst hnext
  have hm := repoll_mem i (h := (step s.h o).1) s.parked hs.nodup hw
    (by rw [chanOf_step s.h o (hs.quiet w hw).lt (hn w) (hd w)]; exact hc)
  simp only [pupdate, hno]
  exact ⟨List.mem_filter.mpr ⟨hm, decide_eq_true hne⟩,
    fun hin => hne ((mem_stillParked.mp hin).2 _ hm)⟩

end

end Health
