import TonicModel.Model.RichError
import TonicModel.Spec.RichError
/-
Lemmas about the tonic-types layer of C20 for an arbitrary `Prost` satisfying the round-trip
laws: URL dispatch, the three walks over the `Any` list, the set form.
-/
namespace RichError

theorem mem_allKinds (k : Kind) : k ∈ Spec.RichError.allKinds := by cases k <;> decide

theorem find?_cons_decide {α : Type} (p : α → Prop) [DecidablePred p] (a : α) (l : List α) :
    (a :: l).find? (fun x => decide (p x)) = if p a then some a else l.find? (fun x => decide (p x)) := by
  by_cases h : p a <;> simp [h]

theorem kindOfUrl_eq_find (u : Bytes) :
    kindOfUrl u = Spec.RichError.allKinds.find? (fun k => u = typeUrl k) := by
  simp only [kindOfUrl, Spec.RichError.allKinds, find?_cons_decide, List.find?_nil]

/-- Both facts in one evaluation, because unfolding the string literals is what it spends its
time on. -/
theorem typeUrl_table : ∀ k ∈ Spec.RichError.allKinds,
    Spec.RichError.allKinds.find? (fun k' => kindName k = kindName k') = some k ∧
      Utf8Rust.valid (typeUrl k) = true := by
  decide +kernel

theorem kindOfUrl_typeUrl (k : Kind) : kindOfUrl (typeUrl k) = some k := by
  simp only [kindOfUrl_eq_find, typeUrl, List.append_cancel_left_eq]
  exact (typeUrl_table k (mem_allKinds k)).1

theorem valid_typeUrl (k : Kind) : Utf8Rust.valid (typeUrl k) = true :=
  (typeUrl_table k (mem_allKinds k)).2

theorem typeUrl_injective (k k' : Kind) (h : typeUrl k = typeUrl k') : k = k' := by
  have := kindOfUrl_typeUrl k
  rw [h, kindOfUrl_typeUrl] at this
  exact (Option.some.inj this).symm

theorem kindOfUrl_eq_some {u : Bytes} {k : Kind} (h : kindOfUrl u = some k) : u = typeUrl k := by
  rw [kindOfUrl_eq_find] at h
  have := List.find?_some h
  exact of_decide_eq_true this

theorem ne_typeUrl_of_kindOfUrl_eq_none {u : Bytes} (h : kindOfUrl u = none) (k : Kind) :
    u ≠ typeUrl k := by
  intro e
  rw [e, kindOfUrl_typeUrl] at h
  cases h

section
variable (P : Prost)

theorem intoAny_typeUrl (d : ErrorDetail) : (intoAny P d).typeUrl = typeUrl d.kind := rfl

theorem intoAny_value (d : ErrorDetail) : (intoAny P d).value = P.encDetail d := rfl

theorem checkVecAnys_cons_eq_some {a : Any} {rest : List Any} {ds : List ErrorDetail}
    (h : checkVecAnys P (a :: rest) = some ds) :
    (kindOfUrl a.typeUrl = none ∧ checkVecAnys P rest = some ds) ∨
    ∃ k d ds', kindOfUrl a.typeUrl = some k ∧ P.decDetail k a.value = some d ∧
      checkVecAnys P rest = some ds' ∧ ds = d :: ds' := by
  rw [checkVecAnys] at h
  cases hu : kindOfUrl a.typeUrl with
  | none => exact Or.inl ⟨rfl, by simpa only [hu] using h⟩
  | some k =>
    simp only [hu] at h
    cases hd : P.decDetail k a.value with
    | none => simp only [hd] at h; cases h
    | some d =>
      simp only [hd, Option.map_eq_some_iff] at h
      obtain ⟨ds', hr, rfl⟩ := h
      exact Or.inr ⟨k, d, ds', rfl, hd, hr, rfl⟩

theorem checkSet_of_checkVec (anys : List Any) (ds : List ErrorDetail) (acc : ErrorDetails)
    (h : checkVecAnys P anys = some ds) :
    checkSetAnys P acc anys = some (ds.foldl ErrorDetails.put acc) := by
  induction anys generalizing ds acc with
  | nil => cases h; rfl
  | cons a rest ih =>
    rcases checkVecAnys_cons_eq_some P h with ⟨hu, hr⟩ | ⟨k, d, ds', hu, hd, hr, rfl⟩
    · simp only [checkSetAnys, hu]; exact ih ds acc hr
    · simp only [checkSetAnys, hu, hd]; exact ih ds' (acc.put d) hr

theorem firstOfKind_of_checkVec (k : Kind) (anys : List Any) (ds : List ErrorDetail)
    (hk : ∀ a ∈ anys, ∀ k d, kindOfUrl a.typeUrl = some k → P.decDetail k a.value = some d → d.kind = k)
    (h : checkVecAnys P anys = some ds) :
    firstOfKindAnys P k anys = Spec.RichError.firstOfKind k ds := by
  induction anys generalizing ds with
  | nil => cases h; rfl
  | cons a rest ih =>
    obtain ⟨hka, hkr⟩ := List.forall_mem_cons.mp hk
    rw [firstOfKindAnys]
    rcases checkVecAnys_cons_eq_some P h with ⟨hu, hr⟩ | ⟨k', d, ds', hu, hd, hr, rfl⟩
    · rw [if_neg (ne_typeUrl_of_kindOfUrl_eq_none hu k)]
      exact ih ds hkr hr
    · have hkd := hka k' d hu hd
      rw [Spec.RichError.firstOfKind, List.find?_cons, hkd, kindOfUrl_eq_some hu]
      by_cases hkk : k' = k
      · subst hkk
        simp only [if_true, hd, beq_self_eq_true]
      · rw [if_neg (fun e => hkk (typeUrl_injective _ _ e)), beq_false_of_ne hkk]
        exact ih ds' hkr hr

end

/-- The round-trip laws of prost that tonic-types relies on, relative to well-formedness
predicates for details and for the enclosing status message. -/
structure Prost.Laws (P : Prost) (WFd : ErrorDetail → Prop) (WFs : PbStatus → Prop) : Prop where
  detail : ∀ d, WFd d → P.decDetail d.kind (P.encDetail d) = some d
  status : ∀ st, WFs st → P.decStatus (P.encStatus st) = some st

section
variable (P : Prost) {WFd : ErrorDetail → Prop} {WFs : PbStatus → Prop} (L : P.Laws WFd WFs)
include L

theorem checkVecAnys_intoAny (ds : List ErrorDetail) (h : ∀ d ∈ ds, WFd d) :
    checkVecAnys P (ds.map (intoAny P)) = some ds := by
  induction ds with
  | nil => rfl
  | cons d ds ih =>
    obtain ⟨hd, hds⟩ := List.forall_mem_cons.mp h
    rw [List.map_cons, checkVecAnys, intoAny_typeUrl, kindOfUrl_typeUrl]
    simp only [intoAny_value, L.detail d hd, ih hds, Option.map_some]

theorem checkSetAnys_intoAny (ds : List ErrorDetail) (h : ∀ d ∈ ds, WFd d) (acc : ErrorDetails) :
    checkSetAnys P acc (ds.map (intoAny P)) = some (ds.foldl ErrorDetails.put acc) :=
  checkSet_of_checkVec P _ ds acc (checkVecAnys_intoAny P L ds h)

theorem firstOfKindAnys_intoAny (k : Kind) (ds : List ErrorDetail) (h : ∀ d ∈ ds, WFd d) :
    firstOfKindAnys P k (ds.map (intoAny P)) = Spec.RichError.firstOfKind k ds := by
  refine firstOfKind_of_checkVec P k _ ds ?_ (checkVecAnys_intoAny P L ds h)
  intro a ha k' d' hu hd'
  obtain ⟨d, hd, rfl⟩ := List.mem_map.mp ha
  rw [intoAny_typeUrl, kindOfUrl_typeUrl] at hu
  cases hu
  rw [intoAny_value, L.detail d (h d hd)] at hd'
  cases hd'
  rfl

end

theorem foldl_put_field {α : Type} (C : α → ErrorDetail) (o : Option α) (acc acc' : ErrorDetails)
    (rest : List ErrorDetail) (h : (match o with | none => acc | some x => acc.put (C x)) = acc') :
    ((o.map C).toList ++ rest).foldl ErrorDetails.put acc = rest.foldl ErrorDetails.put acc' := by
  subst h
  cases o <;> rfl

theorem foldl_put_toList (s : ErrorDetails) : s.toList.foldl ErrorDetails.put {} = s := by
  obtain ⟨a, b, c, d, e, f, g, h, i, j⟩ := s
  simp only [ErrorDetails.toList, List.append_assoc]
  rw [foldl_put_field _ a _ ⟨a, none, none, none, none, none, none, none, none, none⟩ _ (by cases a <;> rfl),
    foldl_put_field _ b _ ⟨a, b, none, none, none, none, none, none, none, none⟩ _ (by cases b <;> rfl),
    foldl_put_field _ c _ ⟨a, b, c, none, none, none, none, none, none, none⟩ _ (by cases c <;> rfl),
    foldl_put_field _ d _ ⟨a, b, c, d, none, none, none, none, none, none⟩ _ (by cases d <;> rfl),
    foldl_put_field _ e _ ⟨a, b, c, d, e, none, none, none, none, none⟩ _ (by cases e <;> rfl),
    foldl_put_field _ f _ ⟨a, b, c, d, e, f, none, none, none, none⟩ _ (by cases f <;> rfl),
    foldl_put_field _ g _ ⟨a, b, c, d, e, f, g, none, none, none⟩ _ (by cases g <;> rfl),
    foldl_put_field _ h _ ⟨a, b, c, d, e, f, g, h, none, none⟩ _ (by cases h <;> rfl),
    foldl_put_field _ i _ ⟨a, b, c, d, e, f, g, h, i, none⟩ _ (by cases i <;> rfl)]
  cases j <;> rfl

theorem mem_toList_kind (s : ErrorDetails) (d : ErrorDetail) (h : d ∈ s.toList) : s.get d.kind = some d := by
  obtain ⟨a, b, c, d', e, f, g, h', i, j⟩ := s
  simp only [ErrorDetails.toList, List.mem_append, Option.mem_toList, Option.map_eq_some_iff] at h
  rcases h with ((((((((( h | h) | h) | h) | h) | h) | h) | h) | h) | h) <;>
    obtain ⟨x, rfl, rfl⟩ := h <;> rfl

section
variable (P : Prost) {WFd : ErrorDetail → Prop} {WFs : PbStatus → Prop} (L : P.Laws WFd WFs)
  {M : Type} (code : Nat) (msg : Bytes) (md : M) (ds : List ErrorDetail) (hd : ∀ d ∈ ds, WFd d)
  (hs : WFs ⟨code, msg, ds.map (intoAny P)⟩)
include L hd hs

theorem checkVec_withVec : checkVec P (withVec P code msg ds md).details = some ds := by
  simp only [checkVec, withVec, genDetailsBytes, L.status _ hs]
  exact checkVecAnys_intoAny P L ds hd

theorem checkSet_withVec :
    checkSet P (withVec P code msg ds md).details = some (ds.foldl ErrorDetails.put {}) := by
  simp only [checkSet, withVec, genDetailsBytes, L.status _ hs]
  exact checkSetAnys_intoAny P L ds hd _

theorem getFirst_withVec (k : Kind) :
    getFirst P k (withVec P code msg ds md).details = Spec.RichError.firstOfKind k ds := by
  simp only [getFirst, withVec, genDetailsBytes, L.status _ hs]
  exact firstOfKindAnys_intoAny P L k ds hd

end

end RichError
