import TonicModel.Lemmas.CompressionHeaders
/-
Frame decoding: a decoded stream is a run of messages, possibly ended by one INTERNAL error, and
how `firstErr` / `unaryRead` / `okCount` read such runs.
-/
namespace Compression
open CompObs Spec.Compression

variable {neg : Option Enc} {f : Frame} {c : Nat} {k : ErrCls}

theorem decodeAll_cons_ok {m : Form} (h : decodeFrame neg f = .ok m)
    (fs : List Frame) : decodeAll neg (f :: fs) = .ok m :: decodeAll neg fs := by
  rw [decodeAll, h]

theorem decodeAll_cons_err (h : decodeFrame neg f = .err c k) (fs : List Frame) :
    decodeAll neg (f :: fs) = [.err c k] := by
  rw [decodeAll, h]

theorem decodeFrame_flag0 (neg : Option Enc) (h : f.flag = 0) :
    decodeFrame neg f = .ok f.form := by
  unfold decodeFrame decodeFlag
  rw [if_pos h]

theorem decodeFrame_flag1_none (h : f.flag = 1) :
    decodeFrame none f = .err 13 .flagNoEnc := by
  unfold decodeFrame decodeFlag
  rw [h]
  rfl

theorem decodeFrame_flag1_z (e : Enc) (h : f.flag = 1) (hf : f.form = .z e) :
    decodeFrame (some e) f = .ok .raw := by
  unfold decodeFrame decodeFlag decompress
  rw [h, hf]
  exact congrArg (fun o : Option Form => match o with | some m => Item.ok m | none => .err 13 .decompress)
    (if_pos rfl)

theorem decodeFrame_err (h : decodeFrame neg f = .err c k) : c = 13 ∧ k ≠ .unsupported := by
  unfold decodeFrame at h
  split at h
  · cases h; exact ⟨rfl, nofun⟩
  · cases h; exact ⟨rfl, nofun⟩
  · cases h
  · split at h <;> cases h
    exact ⟨rfl, nofun⟩

theorem mem_decodeAll_err {fs : List Frame} (h : Item.err c k ∈ decodeAll neg fs) :
    c = 13 ∧ k ≠ .unsupported := by
  induction fs with
  | nil => cases h
  | cons f fs ih =>
    cases hf : decodeFrame neg f with
    | ok m =>
      rw [decodeAll_cons_ok hf] at h
      exact ih (by simpa using h)
    | err c' k' =>
      rw [decodeAll_cons_err hf, List.mem_singleton] at h
      cases h
      exact decodeFrame_err hf

theorem decodeAll_flagged (fs : List Frame) : ∀ k, firstFlagged fs = some k →
    ∃ ms : List Form, ms.length ≤ k ∧ decodeAll none fs = ms.map .ok ++ [.err 13 .flagNoEnc] := by
  induction fs with
  | nil => nofun
  | cons f fs ih =>
    intro k h
    rw [firstFlagged] at h
    by_cases h0 : f.flag = 0
    · rw [if_pos (beq_iff_eq.mpr h0), Option.map_eq_some_iff] at h
      obtain ⟨k', hk', rfl⟩ := h
      obtain ⟨ms, hn, hd⟩ := ih k' hk'
      refine ⟨f.form :: ms, Nat.succ_le_succ hn, ?_⟩
      rw [decodeAll_cons_ok (decodeFrame_flag0 none h0), hd]
      rfl
    · rw [if_neg (mt beq_iff_eq.mp h0)] at h
      split at h
      · rename_i h1
        exact ⟨[], Nat.zero_le _, decodeAll_cons_err (decodeFrame_flag1_none (beq_iff_eq.mp h1)) fs⟩
      · cases h

/-- the message a well-formed frame carries -/
def expectForm (f : Frame) : Form := if f.flag == 0 then f.form else .raw

theorem expectItem_eq (f : Frame) : expectItem f = .ok (expectForm f) := by
  unfold expectItem expectForm
  split <;> rfl

theorem decodeAll_wellFormed (neg : Option Enc) (fs : List Frame)
    (h : fs.all (wellFormedFor neg) = true) : decodeAll neg fs = (fs.map expectForm).map .ok := by
  induction fs with
  | nil => rfl
  | cons f fs ih =>
    rw [List.all_cons, Bool.and_eq_true] at h
    have hf := h.1
    rw [List.map_cons, List.map_cons, ← ih h.2, expectForm]
    unfold wellFormedFor at hf
    by_cases h0 : f.flag = 0
    · rw [if_pos (beq_iff_eq.mpr h0)]
      exact decodeAll_cons_ok (decodeFrame_flag0 neg h0) fs
    · rw [beq_eq_false_iff_ne.mpr h0, Bool.false_or, Bool.and_eq_true, beq_iff_eq] at hf
      rw [if_neg (mt beq_iff_eq.mp h0)]
      split at hf
      · rename_i e e' hform
        obtain rfl := beq_iff_eq.mp hf.2
        exact decodeAll_cons_ok (decodeFrame_flag1_z e hf.1 hform) fs
      · cases hf.2

theorem firstErr_oks (ms : List Form) (tail : List Item) :
    firstErr (ms.map .ok ++ tail) = firstErr tail := by
  induction ms with
  | nil => rfl
  | cons a ms ih => exact ih

theorem firstErr_map_ok (ms : List Form) : firstErr (ms.map .ok) = none := by
  have := firstErr_oks ms []
  rwa [List.append_nil] at this

theorem firstErr_mem {items : List Item} (h : firstErr items = some (c, k)) : Item.err c k ∈ items := by
  induction items with
  | nil => cases h
  | cons a items ih =>
    cases a with
    | ok m => exact List.mem_cons_of_mem _ (ih h)
    | err c' k' => cases h; exact List.mem_cons_self

theorem okCount_oks (ms : List Form) (c : Nat) (k : ErrCls) :
    okCount (ms.map .ok ++ [.err c k]) = ms.length := by
  induction ms with
  | nil => rfl
  | cons a ms ih => exact congrArg (· + 1) ih

theorem unaryRead_one : unaryRead [Item.ok .raw] = .ok .raw := rfl

theorem unaryRead_oks_err (ms : List Form) (c : Nat) (k : ErrCls) (rest : List Item) :
    unaryRead (ms.map .ok ++ .err c k :: rest) = .error (c, k) := by
  cases ms with
  | nil => rfl
  | cons m ms => rw [List.map_cons, List.cons_append, unaryRead, firstErr_oks]; rfl

theorem unaryRead_oks (ms : List Form) :
    unaryRead (ms.map .ok) = match ms with
      | [] => .error (13, .missing)
      | m :: _ => .ok m := by
  cases ms with
  | nil => rfl
  | cons m ms =>
    rw [List.map_cons, unaryRead, firstErr_map_ok]

theorem unaryRead_error {items : List Item} (h : unaryRead items = .error (c, k)) :
    (c = 13 ∧ k = .missing) ∨ Item.err c k ∈ items := by
  unfold unaryRead at h
  split at h
  · cases h; exact Or.inl ⟨rfl, rfl⟩
  · cases h; exact Or.inr List.mem_cons_self
  · split at h
    · rename_i heq
      cases h
      exact Or.inr (List.mem_cons_of_mem _ (firstErr_mem heq))
    · cases h

end Compression
