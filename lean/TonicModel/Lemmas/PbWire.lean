import TonicModel.Basic.PbWire
/-
Round-trip lemmas for the prost wire model, bottom up from varints to the whole message:
`decodeL2 sch (encL2 sch v) = some v`.
Two bounds recur as hypotheses: the encoding being read is shorter than 2^64 bytes (a length prefix
is a u64), and field numbers stay below 536870912 = 2^29 (`decode_key` wants the key, field number
times 8 plus wire type, to fit a u32; the spec decoder refuses larger field numbers as well).
-/
namespace PbWire

theorem byteOf_toNat (n : Nat) (h : n < 256) : (byteOf n).toNat = n :=
  UInt8.toNat_ofNat_of_lt' h

theorem encodeVarintAux_lt (n v : Nat) (h : v < 128) : encodeVarintAux (n + 1) v = [byteOf v] := by
  rw [encodeVarintAux, if_pos h]

theorem encodeVarintAux_ge (n v : Nat) (h : ¬ v < 128) :
    encodeVarintAux (n + 1) v = byteOf (v % 128 + 128) :: encodeVarintAux n (v / 128) := by
  rw [encodeVarintAux, if_neg h]

/-- With `n + 1` bytes allowed the last one may only be 0 or 1 (ten bytes: 9 · 7 + 1 = 64 bits),
hence the bound `2 * 128 ^ n` and the side condition of `small`. -/
theorem decodeVarintAux_encode (n : Nat) : ∀ (v : Nat) (r : Bytes), v < 2 * 128 ^ n →
    decodeVarintAux (n + 1) (encodeVarintAux (n + 1) v ++ r) = some (v, r) := by
  have small : ∀ n v r, v < 128 → (n = 0 → v < 2) →
      decodeVarintAux (n + 1) (encodeVarintAux (n + 1) v ++ r) = some (v, r) := by
    intro n v r hv h0
    have hn : ¬ (n = 0 ∧ 2 ≤ v) := fun h => by have := h0 h.1; omega
    simp only [encodeVarintAux_lt n v hv, List.cons_append, List.nil_append, decodeVarintAux,
      byteOf_toNat v (by omega), hv, hn, if_true, if_false]
  induction n with
  | zero => intro v r h; exact small 0 v r (by omega) (fun _ => by omega)
  | succ n ih =>
    intro v r h
    by_cases hv : v < 128
    · exact small (n + 1) v r hv (by omega)
    · have h1 : v / 128 < 2 * 128 ^ n := by rw [Nat.pow_succ] at h; omega
      have hnl : ¬ (v % 128 + 128 < 128) := by omega
      rw [encodeVarintAux_ge _ v hv, List.cons_append, decodeVarintAux, byteOf_toNat _ (by omega),
        if_neg hnl, ih _ r h1]
      simp only [Option.some.injEq, Prod.mk.injEq, and_true]
      omega

theorem decodeVarint_encode (v : Nat) (r : Bytes) (h : v < 18446744073709551616) :
    decodeVarint (encodeVarint v ++ r) = some (v, r) := by
  unfold decodeVarint encodeVarint
  exact decodeVarintAux_encode 9 v r (by omega)

theorem encodeVarintAux_ne_nil (n v : Nat) : encodeVarintAux (n + 1) v ≠ [] := by
  unfold encodeVarintAux; split <;> simp

theorem encodeVarint_ne_nil (v : Nat) : encodeVarint v ≠ [] := encodeVarintAux_ne_nil 9 v

theorem decodeKey_encodeKey (tag wt : Nat) (r : Bytes) (h1 : 1 ≤ tag) (h2 : tag < 536870912)
    (hw : wt < 6) : decodeKey (encodeKey tag wt ++ r) = some (tag, wt, r) := by
  unfold decodeKey encodeKey
  rw [decodeVarint_encode _ _ (by omega)]
  have e1 : (tag * 8 + wt) % 8 = wt := by omega
  have e2 : (tag * 8 + wt) / 8 = tag := by omega
  have e3 : ¬ (4294967295 < tag * 8 + wt) := by omega
  have e4 : ¬ (6 ≤ wt) := by omega
  have e5 : ¬ (tag = 0) := by omega
  simp only [e1, e2, e3, e4, e5, if_false]

theorem encodeKey_ne_nil (tag wt : Nat) : encodeKey tag wt ≠ [] := encodeVarint_ne_nil _

theorem lenPrefixed_encode (p r : Bytes) (h : p.length < 18446744073709551616) :
    lenPrefixed (encodeVarint p.length ++ (p ++ r)) = some (p, r) := by
  unfold lenPrefixed
  rw [decodeVarint_encode _ _ h]
  simp [splitLen]

theorem length_le_lenDelim (tag : Nat) (p : Bytes) : p.length ≤ (lenDelim tag p).length := by
  simp [lenDelim]; omega

theorem length_le_flatMap {α : Type} (g : α → Bytes) (l : List α) (a : α) (h : a ∈ l) :
    (g a).length ≤ (l.flatMap g).length := by
  induction l with
  | nil => simp at h
  | cons x l ih =>
    simp only [List.flatMap_cons, List.length_append]
    rcases List.mem_cons.mp h with rfl | h
    · omega
    · have := ih h; omega

/-- well-typed scalar values: `string`s are UTF-8, integers are in range -/
def ScOk : Sc → SV → Prop
  | .str, .b s => Utf8Rust.valid s = true
  | .bytes, .b _ => True
  | .i32, .i x => -2147483648 ≤ x ∧ x < 2147483648
  | .i64, .i x => -9223372036854775808 ≤ x ∧ x < 9223372036854775808
  | _, _ => False

theorem u64OfInt_lt (x : Int) : u64OfInt x < 18446744073709551616 := by
  unfold u64OfInt; omega

theorem toI32_u64OfInt (x : Int) (h : -2147483648 ≤ x ∧ x < 2147483648) : toI32 (u64OfInt x) = x := by
  unfold toI32 u64OfInt; split <;> omega

theorem toI64_u64OfInt (x : Int) (h : -9223372036854775808 ≤ x ∧ x < 9223372036854775808) :
    toI64 (u64OfInt x) = x := by
  unfold toI64 u64OfInt; split <;> omega

theorem encScalarField_default (tag : Nat) (k : Sc) : encScalarField tag k k.default = [] := by
  cases k <;> simp [encScalarField, Sc.default]

theorem mergeScalar_field (tag : Nat) (k : Sc) (v : SV) (hok : ScOk k v) (hnd : v ≠ k.default)
    (hlen : (encScalarField tag k v).length < 18446744073709551616) (r : Bytes) :
    ∃ wt body, wt < 6 ∧ encScalarField tag k v = encodeKey tag wt ++ body ∧
      mergeScalar k wt (body ++ r) = some (v, r) := by
  cases k <;> cases v <;> try exact hok.elim
  case str.b s | bytes.b s =>
    have hs : s ≠ [] := by simpa [Sc.default] using hnd
    simp only [encScalarField, hs, if_false] at hlen ⊢
    have hl : s.length < 18446744073709551616 := by have := length_le_lenDelim tag s; omega
    refine ⟨2, encodeVarint s.length ++ s, by omega, rfl, ?_⟩
    simp only [ScOk] at hok
    simp [mergeScalar, List.append_assoc, lenPrefixed_encode s r hl, hok]
  case i32.i x | i64.i x =>
    have hx : x ≠ 0 := by simpa [Sc.default] using hnd
    simp only [encScalarField, hx, if_false]
    refine ⟨0, encodeVarint (u64OfInt x), by omega, rfl, ?_⟩
    simp only [mergeScalar, ne_eq, not_true_eq_false, if_false, decodeVarint_encode _ r (u64OfInt_lt x)]
    first | rw [toI32_u64OfInt x hok] | rw [toI64_u64OfInt x hok]

theorem fieldsLoop_nil {σ : Type} (mf : σ → Nat → Nat → Bytes → Option (σ × Bytes)) (fuel : Nat) (s : σ) :
    fieldsLoop mf fuel s [] = some s := by
  cases fuel <;> rfl

/-- The key is at least one byte, so a unit of fuel is left for every byte of `rest`. -/
theorem fieldsLoop_record {σ : Type} (mf : σ → Nat → Nat → Bytes → Option (σ × Bytes)) (fuel : Nat)
    (s s' : σ) (tag wt : Nat) (body rest : Bytes) (h1 : 1 ≤ tag) (h2 : tag < 536870912) (hw : wt < 6)
    (hf : (encodeKey tag wt ++ (body ++ rest)).length ≤ fuel)
    (hm : mf s tag wt (body ++ rest) = some (s', rest)) :
    rest.length ≤ fuel - 1 ∧
    fieldsLoop mf fuel s (encodeKey tag wt ++ (body ++ rest)) = fieldsLoop mf (fuel - 1) s' rest := by
  have hk := decodeKey_encodeKey tag wt (body ++ rest) h1 h2 hw
  obtain ⟨x, a, ha⟩ := List.exists_cons_of_ne_nil (encodeKey_ne_nil tag wt)
  rw [ha, List.cons_append] at hk hf ⊢
  cases fuel with
  | zero => simp at hf
  | succ f =>
    simp only [List.length_cons, List.length_append] at hf
    refine ⟨by simp only [Nat.add_sub_cancel]; omega, ?_⟩
    rw [fieldsLoop, hk]
    simp [hm]

theorem fieldsLoop_lenDelim {σ : Type} (mf : σ → Nat → Nat → Bytes → Option (σ × Bytes)) (fuel : Nat)
    (s s' : σ) (tag : Nat) (p rest : Bytes) (h1 : 1 ≤ tag) (h2 : tag < 536870912)
    (hf : (lenDelim tag p ++ rest).length ≤ fuel)
    (hm : mf s tag 2 (encodeVarint p.length ++ (p ++ rest)) = some (s', rest)) :
    rest.length ≤ fuel - 1 ∧
    fieldsLoop mf fuel s (lenDelim tag p ++ rest) = fieldsLoop mf (fuel - 1) s' rest := by
  simp only [lenDelim, List.append_assoc] at hf ⊢
  rw [← List.append_assoc (encodeVarint p.length)] at hf hm ⊢
  exact fieldsLoop_record mf fuel s s' tag 2 _ rest h1 h2 (by omega) hf hm

theorem set_of_getElem? {α : Type} (l : List α) (i : Nat) (a : α) (h : l[i]? = some a) : l.set i a = l := by
  obtain ⟨hi, rfl⟩ := List.getElem?_eq_some_iff.mp h
  exact List.set_getElem_self hi

theorem getElem?_set_of_getElem? {α : Type} (l : List α) (i : Nat) (a b : α) (h : l[i]? = some a) :
    (l.set i b)[i]? = some b := by
  obtain ⟨hi, _⟩ := List.getElem?_eq_some_iff.mp h
  simp [hi]

/-- One singular scalar field, number `i + 1` (numbers start at 1, slots at 0), its value kept in slot
`i` as `wrap v`: the default value has no
record and is in the slot already (`hst`), any other value is one record (`fieldsLoop_record`). -/
theorem scalar_field {ν : Type} (mf : List ν → Nat → Nat → Bytes → Option (List ν × Bytes)) (wrap : SV → ν)
    (i : Nat) (k : Sc) (v : SV) (st : List ν) (rest : Bytes) (fuel : Nat) (hi : i + 1 < 536870912)
    (hok : ScOk k v) (hlen : (encScalarField (i + 1) k v).length < 18446744073709551616)
    (hf : (encScalarField (i + 1) k v ++ rest).length ≤ fuel) (hst : st[i]? = some (wrap k.default))
    (hmf : ∀ wt r, mergeScalar k wt r = some (v, rest) →
      mf st (i + 1) wt r = some (st.set i (wrap v), rest)) :
    ∃ fuel', rest.length ≤ fuel' ∧ fieldsLoop mf fuel st (encScalarField (i + 1) k v ++ rest) =
      fieldsLoop mf fuel' (st.set i (wrap v)) rest := by
  by_cases hnd : v = k.default
  · subst hnd
    rw [encScalarField_default, List.nil_append] at hf ⊢
    exact ⟨fuel, hf, by rw [set_of_getElem? st i _ hst]⟩
  · obtain ⟨wt, body, hw, he, hm⟩ := mergeScalar_field (i + 1) k v hok hnd hlen rest
    rw [he, List.append_assoc] at hf ⊢
    exact ⟨fuel - 1, fieldsLoop_record mf fuel st _ (i + 1) wt body rest (by omega) hi hw hf (hmf _ _ hm)⟩

def FlatOk : Flat → List SV → Prop
  | [], [] => True
  | k :: ks, v :: vs => ScOk k v ∧ FlatOk ks vs
  | _, _ => False

theorem FlatOk_length : ∀ (s : Flat) (v : List SV), FlatOk s v → s.length = v.length
  | [], [], _ => rfl
  | _ :: ks, _ :: vs, h => by simp [FlatOk_length ks vs h.2]
  | [], _ :: _, h => h.elim
  | _ :: _, [], h => h.elim

def AllOk {φ ν : Type} (Ok : φ → ν → Prop) : List φ → List ν → Prop
  | [], [] => True
  | f :: fs, x :: xs => Ok f x ∧ AllOk Ok fs xs
  | _, _ => False

theorem FlatOk.allOk : ∀ (s : Flat) (v : List SV), FlatOk s v → AllOk ScOk s v
  | [], [], _ => trivial
  | _ :: ks, _ :: vs, h => ⟨h.1, FlatOk.allOk ks vs h.2⟩
  | [], _ :: _, h => h.elim
  | _ :: _, [], h => h.elim

/-- The field loop over a whole message of either kind, from what it does on the records of one field
(`hfield`: they take slot `i` from the field's default to its value).  `enc` encodes one field,
`encFrom t` a run of fields numbered from `t` (`hnil`, `hcons`).  By induction on the part of the
schema still on the wire: `s1`/`v1` are the fields already read with their values, `s2`/`v2` the
fields whose records are the buffer, and the state is `v1` followed by the defaults of `s2` — read so
far, the rest at default. -/
theorem msg_loop {φ ν : Type} (mf : List ν → Nat → Nat → Bytes → Option (List ν × Bytes)) (dflt : φ → ν)
    (enc : Nat → φ → ν → Bytes) (encFrom : Nat → List φ → List ν → Bytes) (Ok : φ → ν → Prop)
    (sch : List φ) (hnil : ∀ t, encFrom t [] [] = [])
    (hcons : ∀ t f fs x xs, encFrom t (f :: fs) (x :: xs) = enc t f x ++ encFrom (t + 1) fs xs)
    (hfield : ∀ i f x, i < sch.length → sch[i]? = some f → Ok f x → ∀ st, st[i]? = some (dflt f) →
      ∀ rest fuel, (enc (i + 1) f x).length < 18446744073709551616 →
      (enc (i + 1) f x ++ rest).length ≤ fuel → ∃ fuel', rest.length ≤ fuel' ∧
        fieldsLoop mf fuel st (enc (i + 1) f x ++ rest) = fieldsLoop mf fuel' (st.set i x) rest) :
    ∀ (s2 s1 : List φ) (v1 v2 : List ν) (fuel : Nat), sch = s1 ++ s2 → s1.length = v1.length →
      AllOk Ok s2 v2 → (encFrom (s1.length + 1) s2 v2).length < 18446744073709551616 →
      (encFrom (s1.length + 1) s2 v2).length ≤ fuel →
      fieldsLoop mf fuel (v1 ++ s2.map dflt) (encFrom (s1.length + 1) s2 v2) = some (v1 ++ v2) := by
  intro s2
  induction s2 with
  | nil =>
    intro s1 v1 v2 fuel _ _ hok _ _
    cases v2 with
    | nil => simp [hnil, fieldsLoop_nil]
    | cons _ _ => exact hok.elim
  | cons f fs ih =>
    intro s1 v1 v2 fuel hs hl hok hb hf
    cases v2 with
    | nil => exact hok.elim
    | cons x xs =>
      rw [hcons] at hb hf ⊢
      rw [List.length_append] at hb
      obtain ⟨fuel', hf', he⟩ := hfield s1.length f x (by simp [hs]) (by simp [hs]) hok.1
        (v1 ++ (f :: fs).map dflt) (by simp [hl]) (encFrom (s1.length + 1 + 1) fs xs) fuel (by omega) hf
      have hset : (v1 ++ (f :: fs).map dflt).set s1.length x = (v1 ++ [x]) ++ fs.map dflt := by simp [hl]
      have ih' := ih (s1 ++ [f]) (v1 ++ [x]) xs fuel' (by simp [hs]) (by simp [hl]) hok.2
      rw [List.length_append, List.length_singleton] at ih'
      rw [he, hset]
      simpa using ih' (by omega) hf'

theorem runFields_encFlat (sch : Flat) (ctx : Nat) (v : List SV) (hsch : sch.length + 1 < 536870912)
    (hok : FlatOk sch v) (hb : (encFlat sch v).length < 18446744073709551616) :
    runFields (mergeFlatField sch ctx) sch.defaults (encFlat sch v) = some v :=
  msg_loop (mergeFlatField sch ctx) Sc.default encScalarField encFlatFrom ScOk sch
    (hnil := fun _ => rfl) (hcons := fun _ _ _ _ _ => rfl)
    (hfield := fun i k x hi hk hkx st hst rest fuel hl hf =>
      scalar_field _ id i k x st rest fuel (by omega) hkx hl hf hst
        (fun wt r hm => by simp only [mergeFlatField, Nat.add_sub_cancel, hk, hm, id]))
    sch [] [] v _ rfl rfl (FlatOk.allOk sch v hok) hb (Nat.le_refl _)

theorem mergeNested_encFlat (sch : Flat) (ctx : Nat) (v : List SV) (r : Bytes) (hctx : ctx ≠ 0)
    (hsch : sch.length + 1 < 536870912) (hok : FlatOk sch v)
    (hb : (encFlat sch v).length < 18446744073709551616) :
    mergeNested ctx (mergeFlatField sch) sch.defaults (encodeVarint (encFlat sch v).length ++ (encFlat sch v ++ r)) =
      some (v, r) := by
  simp [mergeNested, hctx, lenPrefixed_encode _ r hb, runFields_encFlat sch (ctx - 1) v hsch hok hb]

/-- every element is acceptable after the ones before it (`Good pre a`: `a` may follow `pre`; only a
map needs the dependence, its entry must carry a key none before it has) -/
def AllGood {α : Type} (Good : List α → α → Prop) : List α → List α → Prop
  | _, [] => True
  | pre, a :: l => Good pre a ∧ AllGood Good (pre ++ [a]) l

/-- A run of records of one repeated-like field (repeated string / repeated message / map), by
induction on the elements still on the wire.  `slotOf pre` is the field's slot once the elements
`pre` have been merged, `hstep` says that one record takes the slot from `slotOf pre` to
`slotOf (pre ++ [a])`; `fuel'` is what the loop has left for `rest`. -/
theorem rep_loop {α : Type} (sch : List F2) (ctx i : Nat) (hi : i + 1 < 536870912) (elemEnc : α → Bytes)
    (slotOf : List α → V2) (Good : List α → α → Prop)
    (hstep : ∀ (pre : List α) (a : α) (st : List V2) (r : Bytes), st[i]? = some (slotOf pre) →
      Good pre a → (elemEnc a).length < 18446744073709551616 →
      mergeL2Field sch ctx st (i + 1) 2 (encodeVarint (elemEnc a).length ++ (elemEnc a ++ r)) =
        some (st.set i (slotOf (pre ++ [a])), r)) :
    ∀ (l pre : List α) (st : List V2) (rest : Bytes) (fuel : Nat), st[i]? = some (slotOf pre) →
      AllGood Good pre l →
      (l.flatMap (fun a => lenDelim (i + 1) (elemEnc a))).length < 18446744073709551616 →
      (l.flatMap (fun a => lenDelim (i + 1) (elemEnc a)) ++ rest).length ≤ fuel →
      ∃ fuel', rest.length ≤ fuel' ∧
        fieldsLoop (mergeL2Field sch ctx) fuel st (l.flatMap (fun a => lenDelim (i + 1) (elemEnc a)) ++ rest) =
          fieldsLoop (mergeL2Field sch ctx) fuel' (st.set i (slotOf (pre ++ l))) rest := by
  intro l
  induction l with
  | nil =>
    intro pre st rest fuel hst _ _ hf
    refine ⟨fuel, by simpa using hf, ?_⟩
    simp [set_of_getElem? st i _ hst]
  | cons a l ih =>
    intro pre st rest fuel hst hg hb hf
    obtain ⟨hga, hgl⟩ := hg
    simp only [List.flatMap_cons, List.length_append, List.append_assoc] at hb hf ⊢
    have hla : (elemEnc a).length < 18446744073709551616 := by
      have := length_le_lenDelim (i + 1) (elemEnc a); omega
    obtain ⟨hf1, h1⟩ := fieldsLoop_lenDelim (mergeL2Field sch ctx) fuel st (st.set i (slotOf (pre ++ [a])))
      (i + 1) (elemEnc a) (l.flatMap (fun a => lenDelim (i + 1) (elemEnc a)) ++ rest) (by omega) hi
      (by simp only [List.length_append]; omega)
      (hstep pre a st _ hst hga hla)
    obtain ⟨fuel', hf', he⟩ := ih (pre ++ [a]) (st.set i (slotOf (pre ++ [a]))) rest (fuel - 1)
      (getElem?_set_of_getElem? st i _ _ hst) hgl (by omega) hf1
    refine ⟨fuel', hf', ?_⟩
    rw [h1, he]
    simp [List.set_set]

def DistinctKeys : List (Bytes × Bytes) → Prop
  | [] => True
  | e :: rest => (∀ x ∈ rest, x.1 ≠ e.1) ∧ DistinctKeys rest

/-- well-typed field value; the schema of a nested flat message stays within the tag range -/
def F2Ok : F2 → V2 → Prop
  | .sc k, .sc v => ScOk k v
  | .repStr, .repStr l => ∀ s ∈ l, Utf8Rust.valid s = true
  | .repFlat s, .repFlat l => s.length + 1 < 536870912 ∧ ∀ v ∈ l, FlatOk s v
  | .optFlat s, .optFlat o => s.length + 1 < 536870912 ∧ ∀ v, o = some v → FlatOk s v
  | .mapSS, .map l => (∀ e ∈ l, Utf8Rust.valid e.1 = true ∧ Utf8Rust.valid e.2 = true) ∧ DistinctKeys l
  | _, _ => False

theorem mapInsert_fresh (l : List (Bytes × Bytes)) (k v : Bytes) (h : ∀ x ∈ l, x.1 ≠ k) :
    mapInsert l k v = l ++ [(k, v)] := by
  have : l.any (fun e => e.1 == k) = false := by
    simp only [List.any_eq_false, beq_iff_eq]
    exact fun x hx => h x hx
  simp [mapInsert, this]

theorem allGood_map (l pre : List (Bytes × Bytes))
    (hv : ∀ e ∈ l, Utf8Rust.valid e.1 = true ∧ Utf8Rust.valid e.2 = true) (hd : DistinctKeys l)
    (hp : ∀ x ∈ pre, ∀ e ∈ l, x.1 ≠ e.1) :
    AllGood (fun pre e => Utf8Rust.valid e.1 = true ∧ Utf8Rust.valid e.2 = true ∧ ∀ x ∈ pre, x.1 ≠ e.1) pre l := by
  induction l generalizing pre with
  | nil => trivial
  | cons e l ih =>
    refine ⟨⟨(hv e (by simp)).1, (hv e (by simp)).2, fun x hx => hp x hx e (by simp)⟩, ?_⟩
    apply ih _ (fun e' he' => hv e' (by simp [he'])) hd.2
    intro x hx e' he'
    rcases List.mem_append.mp hx with hx | hx
    · exact hp x hx e' (by simp [he'])
    · simp only [List.mem_singleton] at hx; subst hx
      exact fun h => hd.1 e' he' h.symm

theorem allGood_of_forall {α : Type} (G : α → Prop) (l pre : List α) (h : ∀ a ∈ l, G a) :
    AllGood (fun _ a => G a) pre l := by
  induction l generalizing pre with
  | nil => trivial
  | cons a l ih => exact ⟨h a (by simp), ih _ (fun x hx => h x (by simp [hx]))⟩

theorem l2_field (sch : List F2) (ctx : Nat) (hctx : ctx ≠ 0) (i : Nat) (hi : i + 1 < 536870912)
    (f : F2) (x : V2) (hf : sch[i]? = some f) (hok : F2Ok f x) (st : List V2)
    (hst : st[i]? = some f.default) (rest : Bytes) (fuel : Nat)
    (hb : (encL2Field (i + 1) f x).length < 18446744073709551616)
    (hfuel : (encL2Field (i + 1) f x ++ rest).length ≤ fuel) :
    ∃ fuel', rest.length ≤ fuel' ∧
      fieldsLoop (mergeL2Field sch ctx) fuel st (encL2Field (i + 1) f x ++ rest) =
        fieldsLoop (mergeL2Field sch ctx) fuel' (st.set i x) rest := by
  cases f <;> cases x <;> simp only [F2Ok] at hok
  case sc.sc k v =>
    simp only [encL2Field] at hb hfuel ⊢
    simp only [F2.default] at hst
    exact scalar_field (mergeL2Field sch ctx) V2.sc i k v st rest fuel hi hok hb hfuel hst
      (fun wt r hm => by simp [mergeL2Field, hf, hst, hm])
  case repStr.repStr l =>
    -- this and the other repeated-like kinds: `rep_loop` started at the empty slot, given how one
    -- record is merged; `simpa` then removes the `[] ++ l` it leaves
    simp only [encL2Field] at hb hfuel ⊢
    have := rep_loop sch ctx i hi (fun s : Bytes => s) V2.repStr (fun _ s => Utf8Rust.valid s = true)
      (by
        intro pre a st' r hs hg hl
        have : mergeScalar .str 2 (encodeVarint a.length ++ (a ++ r)) = some (.b a, r) := by
          simp [mergeScalar, lenPrefixed_encode a r hl, hg]
        simp [mergeL2Field, hf, hs, this])
      l [] st rest fuel (by simpa [F2.default] using hst) (allGood_of_forall _ l [] hok) hb hfuel
    simpa using this
  case repFlat.repFlat sf l =>
    simp only [encL2Field] at hb hfuel ⊢
    have := rep_loop sch ctx i hi (fun v : List SV => encFlat sf v) V2.repFlat (fun _ v => FlatOk sf v)
      (by
        intro pre a st' r hs hg hl
        simp [mergeL2Field, hf, hs, mergeNested_encFlat sf ctx a r hctx hok.1 hg hl])
      l [] st rest fuel (by simpa [F2.default] using hst) (allGood_of_forall _ l [] hok.2) hb hfuel
    simpa using this
  case optFlat.optFlat sf o =>
    cases o with
    | none =>
      simp only [encL2Field] at hfuel ⊢
      refine ⟨fuel, by simpa using hfuel, ?_⟩
      simp only [F2.default] at hst
      simp [set_of_getElem? st i _ hst]
    | some v =>
      simp only [encL2Field] at hb hfuel ⊢
      have hfo := hok.2 v rfl
      have hl : (encFlat sf v).length < 18446744073709551616 := by
        have := length_le_lenDelim (i + 1) (encFlat sf v); omega
      simp only [F2.default] at hst
      exact ⟨fuel - 1, fieldsLoop_lenDelim _ fuel st _ (i + 1) _ rest (by omega) hi hfuel
        (by simp [mergeL2Field, hf, hst, mergeNested_encFlat sf ctx v rest hctx hok.1 hfo hl])⟩
  case mapSS.map l =>
    simp only [encL2Field] at hb hfuel ⊢
    have := rep_loop sch ctx i hi encEntry V2.map
      (fun pre e => Utf8Rust.valid e.1 = true ∧ Utf8Rust.valid e.2 = true ∧ ∀ x ∈ pre, x.1 ≠ e.1)
      (by
        intro pre a st' r hs hg hl
        have hfo : FlatOk entrySchema [.b a.1, .b a.2] := ⟨hg.1, hg.2.1, trivial⟩
        have hm := mergeNested_encFlat entrySchema ctx [.b a.1, .b a.2] r hctx (by decide) hfo hl
        simp only [encEntry] at hl ⊢
        simp [mergeL2Field, hf, hs, hm, mapInsert_fresh pre a.1 a.2 hg.2.2])
      l [] st rest fuel (by simpa [F2.default] using hst)
      (allGood_map l [] hok.1 hok.2 (by simp)) hb hfuel
    simpa using this

def L2Ok : List F2 → List V2 → Prop := AllOk F2Ok

theorem decodeL2_encL2 (sch : List F2) (v : List V2) (hsch : sch.length + 1 < 536870912)
    (hok : L2Ok sch v) (hb : (encL2 sch v).length < 18446744073709551616) :
    decodeL2 sch (encL2 sch v) = some v :=
  msg_loop (mergeL2Field sch recursionLimit) F2.default encL2Field encL2From _ sch
    (hnil := fun _ => rfl) (hcons := fun _ _ _ _ _ => rfl)
    (hfield := fun i f x hi hf hfx => l2_field sch recursionLimit (by decide) i (by omega) f x hf hfx)
    sch [] [] v _ rfl rfl hok hb (Nat.le_refl _)

end PbWire
