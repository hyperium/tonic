import TonicModel.Lemmas.BalanceDebt
/-
Load-balanced channel (C14): the two counter-models.  With one endpoint reachable and two
unreachable nothing bounds the number of calls that fail: the balancer may keep drawing the two
dead endpoints in turn, each back in the ready set every other call with the parked failure of its
latest attempt.  With endpoint connections that are not lazy (`Reconnect::new(.., is_lazy = false)`)
the first failed attempt leaves `poll_ready` as an error, tower drops the service, nothing re-inserts it.
-/
namespace Balance
open ConnScript BalScript Reconnect

/-- endpoint 0 connected and ready; endpoints 1 and 2 unreachable, `m` attempts behind them:
1 is idle in the pending set, 2 has a (refused) attempt in flight -/
def starved (m : Nat) : B :=
  { lazyEps := true,
    eps := [ { key := 0, member := true,
               r := { st := .connected 1, error := none, hasBeen := true, isLazy := true, made := 1 },
               ready := true, flight := true, fresh := false, w := { up := true, gen := 1, alive := some 1 } },
             { key := 1, member := true,
               r := { st := .idle, error := none, hasBeen := false, isLazy := true, made := m },
               ready := false, flight := false, fresh := false, w := { up := false, gen := 0, alive := none } },
             { key := 2, member := true,
               r := { st := .connecting, error := none, hasBeen := false, isLazy := true, made := m },
               ready := false, flight := false, fresh := false, w := { up := false, gen := 0, alive := none } } ] }

theorem starved_step (m : Nat) :
    (Balance.call (starved m) ⟨[2], 2⟩).2 = .err 2 m ∧
    (Balance.call (Balance.call (starved m) ⟨[2], 2⟩).1 ⟨[1], 1⟩).2 = .err 1 (m + 1) ∧
    (Balance.call (Balance.call (starved m) ⟨[2], 2⟩).1 ⟨[1], 1⟩).1 = starved (m + 1) := by
  simp [starved, Balance.call, pass, phase, tryKeys, tryKey, tryOne, advance_eq, adv, serveEP, Reconnect.call,
    settle]

def alt : Nat → List Choice
  | 0 => []
  | j + 1 => ⟨[2], 2⟩ :: ⟨[1], 1⟩ :: alt j

theorem alt_length (j : Nat) : (alt j).length = 2 * j := by
  induction j with
  | zero => rfl
  | succ j ih => simp [alt, ih]; omega

theorem starved_forever (j : Nat) : ∀ m, ∀ r ∈ calls (starved m) (alt j), r.errored = true := by
  induction j with
  | zero => intro m r hr; cases hr
  | succ j ih =>
    intro m r hr
    obtain ⟨h1, h2, h3⟩ := starved_step m
    have hc : calls (starved m) (alt (j + 1)) =
        .err 2 m :: .err 1 (m + 1) :: calls (starved (m + 1)) (alt j) := by
      rw [← h1, ← h2, ← h3]; rfl
    rw [hc] at hr
    rcases List.mem_cons.1 hr with rfl | hr
    · rfl
    · rcases List.mem_cons.1 hr with rfl | hr
      · rfl
      · exact ih (m + 1) r hr

theorem calls_take (n : Nat) : ∀ (s : B) (l : List Choice), calls s (l.take n) = (calls s l).take n := by
  induction n with
  | zero => intro s l; simp [calls]
  | succ n ih =>
    intro s l
    cases l with
    | nil => simp [calls]
    | cons c cs => simp [calls, List.take_succ_cons, ih]

def starveOps : List BOp := [.up 0, .insert 0, .insert 1, .insert 2, .call, .call, .call]
def starveChs : List Choice := [⟨[1], 1⟩, ⟨[2], 2⟩, ⟨[1], 1⟩]

theorem starved_reachable : exec (B.init true) starveOps starveChs = starved 2 := by decide +kernel

theorem eager_first_call (ch : Choice) :
    (Balance.call (env (B.init false) (.insert 0)) ch).2 = .hang ∧
    memberKeys (Balance.call (env (B.init false) (.insert 0)) ch).1.eps = [] := by
  rw [call_none_ready _ ch (by decide +kernel) (by decide +kernel)]
  decide +kernel

end Balance
