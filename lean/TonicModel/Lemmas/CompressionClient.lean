import TonicModel.Lemmas.CompressionServer
/-
The client clauses of the oracle proved of `call`.  `call_error` and `call_ok` say what `call`
computes; what the client sends does not depend on the response (`Sent`); what the caller sees is
the response stream, collapsed to one item for the single-response shapes (`collapse`).
-/
namespace Compression
open CompObs Spec.Compression

variable {cfg : CliCfg} {shape : Shape} {umdEnc umdAcc : List Bytes} {k : Nat} {resp : CliResp}
  {neg : Option Enc} {accept : List Enc}

/-- The observation of a call (what `call`'s local `out` and `callHttp` build): the request
`prepare_request` makes and what the caller gets. -/
def callObs (cfg : CliCfg) (shape : Shape) (umdEnc umdAcc : List Bytes) (k : Nat) (result : List Item)
    (errAcc : List Bytes) : CliObs :=
  let pr := prepareRequest cfg umdEnc umdAcc (if shape.singleRequest then 1 else k)
  { enc := pr.1, acc := pr.2.1, frames := pr.2.2, result, errAcc }

def collapse (shape : Shape) (items : List Item) : List Item :=
  if shape.singleResponse then
    match unaryRead items with
    | .error (c, k) => [.err c k]
    | .ok f => [.ok f]
  else items

theorem apply_collapse {α} (f : List Item → α) (shape : Shape) (items : List Item) :
    (if shape.singleResponse then
      match unaryRead items with
      | .error (c, k) => f [.err c k]
      | .ok m => f [.ok m]
    else f items) = f (collapse shape items) := by
  unfold collapse
  cases shape.singleResponse
  · rfl
  · rw [if_pos rfl, if_pos rfl]
    cases unaryRead items <;> rfl

theorem call_error {v : Bytes} (hE : fromEncodingHeader resp.encVals cfg.accept = .error v) :
    call cfg shape umdEnc umdAcc k resp = callObs cfg shape umdEnc umdAcc k [.err 12 .unsupported] [v] := by
  rw [call, hE]
  rfl

theorem call_ok (hE : fromEncodingHeader resp.encVals cfg.accept = .ok neg) :
    call cfg shape umdEnc umdAcc k resp =
      match resp.hdrStatus with
      | some (c + 1) => callObs cfg shape umdEnc umdAcc k [.err (c + 1) resp.peerCls] resp.accVals
      | hs => callObs cfg shape umdEnc umdAcc k
          (collapse shape (clientItems (if hs.isSome then none else neg) hs.isSome resp)) [] := by
  rw [call, hE]
  rcases resp.hdrStatus with _ | _ | c
  · exact apply_collapse (callObs cfg shape umdEnc umdAcc k · []) ..
  · exact apply_collapse (callObs cfg shape umdEnc umdAcc k · []) ..
  · rfl

theorem call_plain (hE : fromEncodingHeader resp.encVals cfg.accept = .ok neg)
    (hh : resp.hdrStatus = none) :
    (call cfg shape umdEnc umdAcc k resp).result = collapse shape (clientItems neg false resp) := by
  rw [call_ok hE, hh]
  rfl

structure Sent (cfg : CliCfg) (umdEnc umdAcc : List Bytes) (n : Nat) (o : CliObs) : Prop where
  enc : o.enc = (prepareRequest cfg umdEnc umdAcc n).1
  acc : o.acc = (prepareRequest cfg umdEnc umdAcc n).2.1
  frames : o.frames = (prepareRequest cfg umdEnc umdAcc n).2.2

theorem sent_callObs (result : List Item) (errAcc : List Bytes) :
    Sent cfg umdEnc umdAcc (if shape.singleRequest then 1 else k)
      (callObs cfg shape umdEnc umdAcc k result errAcc) :=
  ⟨rfl, rfl, rfl⟩

theorem call_sent :
    Sent cfg umdEnc umdAcc (if shape.singleRequest then 1 else k) (call cfg shape umdEnc umdAcc k resp) := by
  cases hE : fromEncodingHeader resp.encVals cfg.accept with
  | error v => exact call_error hE ▸ sent_callObs ..
  | ok neg =>
    rw [call_ok hE]
    rcases resp.hdrStatus with _ | _ | c <;> exact sent_callObs ..

theorem cliSend_of_sent {n : Nat} {o : CliObs} (h : Sent cfg [] umdAcc n o) : cliSend cfg.send o = true := by
  unfold cliSend
  rw [h.enc, h.frames, prepareRequest]
  cases cfg.send with
  | none => simp [outFrame]
  | some e => simp [outFrame, asStr_eq_name]

theorem cliAdvertise_of_sent (hA : Agree cfg.accept accept) {n : Nat} {o : CliObs}
    (h : Sent cfg umdEnc [] n o) : cliAdvertise accept o = true := by
  have hl : enabledList cfg.accept = [] ↔ accept = [] := by
    rw [List.eq_nil_iff_forall_not_mem, List.eq_nil_iff_forall_not_mem]
    exact forall_congr' fun e => not_congr (by rw [mem_enabledList, hA e, List.contains_iff_mem])
  rw [cliAdvertise, h.acc, prepareRequest, acceptHeaderValue_eq]
  dsimp only
  by_cases hb : enabledList cfg.accept = []
  · rw [if_pos hb, hl.mp hb]
    rfl
  · rw [if_neg hb, if_neg (mt List.isEmpty_iff.mp (mt hl.mpr hb))]
    exact acceptListOk_model hA

theorem collapse_err (shape : Shape) (ms : List Form) (c : Nat) (k : ErrCls) :
    collapse shape (ms.map .ok ++ [.err c k]) =
      if shape.singleResponse then [.err c k] else ms.map .ok ++ [.err c k] := by
  rw [collapse, unaryRead_oks_err]

theorem collapse_oks (shape : Shape) (ms : List Form) :
    collapse shape (ms.map .ok) =
      if shape.singleResponse then
        match ms with
        | [] => [.err 13 .missing]
        | m :: _ => [.ok m]
      else ms.map .ok := by
  rw [collapse, unaryRead_oks]
  cases ms <;> rfl

theorem collapse_cls {items : List Item} (h : ∀ c, Item.err c .unsupported ∉ items) (c : Nat) :
    Item.err c .unsupported ∉ collapse shape items := by
  unfold collapse
  split
  · split
    · rename_i c' k' hu
      intro hm
      cases List.mem_singleton.mp hm
      rcases unaryRead_error hu with ⟨_, hk⟩ | hm
      · cases hk
      · exact h c hm
    · exact fun hm => nomatch List.mem_singleton.mp hm
  · exact h c

theorem clientItems_err {ms : List Form} {c : Nat} {k : ErrCls}
    (hd : decodeAll neg resp.frames = ms.map .ok ++ [.err c k]) (empty : Bool) :
    clientItems neg empty resp = ms.map .ok ++ [.err c k] := by
  rw [clientItems, hd, firstErr_oks]
  rfl

theorem clientItems_oks {ms : List Form} (hd : decodeAll neg resp.frames = ms.map .ok)
    (ht : resp.trlStatus = none ∨ resp.trlStatus = some 0) (empty : Bool) :
    clientItems neg empty resp = ms.map .ok := by
  rw [clientItems, hd]
  split
  · rfl
  · rcases ht with ht | ht <;> rw [ht] <;> rfl

theorem clientItems_cls {empty : Bool} (hp : resp.peerCls ≠ .unsupported) (c : Nat) :
    Item.err c .unsupported ∉ clientItems neg empty resp := by
  intro h
  unfold clientItems at h
  dsimp only at h
  split at h
  · exact (mem_decodeAll_err h).2 rfl
  · split at h
    · split at h
      · exact (mem_decodeAll_err h).2 rfl
      · rcases List.mem_append.mp h with h | h
        · exact (mem_decodeAll_err h).2 rfl
        · exact hp (Item.err.inj (List.mem_singleton.mp h)).2.symm
    · exact (mem_decodeAll_err h).2 rfl

theorem cliRefuse_of {o : CliObs}
    (h1 : recv accept resp.encVals = .refuse → o.result = [.err 12 .unsupported])
    (h2 : recv accept resp.encVals ≠ .refuse → ∀ c, Item.err c .unsupported ∉ o.result) :
    cliRefuse accept resp o = true := by
  unfold cliRefuse
  split
  · rename_i hr
    rw [h1 hr]
    rfl
  · rename_i hr
    exact List.all_eq_true.mpr fun it hit => bne_iff_ne.mpr fun h => h2 (hr ·) 12 (h ▸ hit)

theorem call_refuse (hA : Agree cfg.accept accept) (hp : resp.peerCls ≠ .unsupported) :
    cliRefuse accept resp (call cfg shape umdEnc umdAcc k resp) = true := by
  have hE := fromEncodingHeader_eq hA resp.encVals
  refine cliRefuse_of (fun hr => ?_) fun hr c => ?_
  · rw [if_pos hr] at hE
    rw [call_error hE]
    rfl
  · rw [if_neg hr] at hE
    rw [call_ok hE]
    split
    · exact fun hm => hp (Item.err.inj (List.mem_singleton.mp hm)).2.symm
    · exact collapse_cls (clientItems_cls hp) c

theorem call_flag (hA : Agree cfg.accept accept) :
    cliFlag accept resp (call cfg shape umdEnc umdAcc k resp) = true := by
  unfold cliFlag
  split
  · rename_i n hr hh hk
    have hE : fromEncodingHeader resp.encVals cfg.accept = .ok none := by
      rw [fromEncodingHeader_eq hA, hr]
      rfl
    obtain ⟨ms, hn, hd⟩ := decodeAll_flagged resp.frames n hk
    rw [call_plain hE hh, clientItems_err hd, collapse_err]
    cases shape.singleResponse
    · rw [if_neg Bool.false_ne_true, List.getLast?_concat, okCount_oks, decide_eq_true hn]
      rfl
    · rfl
  · rfl

theorem call_deliver (hA : Agree cfg.accept accept) :
    cliDeliver accept shape resp (call cfg shape umdEnc umdAcc k resp) = true := by
  have hE := fromEncodingHeader_eq hA resp.encVals
  unfold cliDeliver
  split
  · rfl
  · rename_i hr
    rw [if_neg (hr ·)] at hE
    unfold cliDelivered
    split
    · rename_i hc
      simp only [Bool.and_eq_true, Option.isNone_iff_eq_none, Bool.or_eq_true, beq_iff_eq] at hc
      obtain ⟨⟨hh, ht⟩, hwf⟩ := hc
      rw [call_plain hE hh, clientItems_oks (decodeAll_wellFormed _ _ hwf) ht, collapse_oks]
      cases shape.singleResponse
      · simp [expectItem_eq]
      · cases hfr : resp.frames <;> simp [expectItem_eq]
    · rfl

end Compression
