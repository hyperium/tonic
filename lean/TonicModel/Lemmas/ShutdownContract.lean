import TonicModel.Lemmas.ShutdownProgress
/-
The part of C13 that is taken from hyper on trust, as one named object, and what follows from it.

`Model/Shutdown` has the five steps that are hyper's to take (`connBreak`, `hsDone`, `final`,
`callStart`, `deliver`) enabled by guards written into `step`; `stepH H` is the same transition
system with those guards replaced by an arbitrary `H : Hyper`, and `HyperGracefulContract H` says
what `H` must satisfy.  The system is monotone in `H` and `step` is `stepH hyperModel`: so every
`stepH H`-execution of a safe `H` is a `step`-execution and the safety theorems of C13 hold of it,
and a draining step of the model is enabled over a live `H` too, which is what the maximal-run
theorem over `H` in Props/C13 needs.
-/
namespace Shutdown

/-- hyper does its steps only where the model allows them -/
structure HyperSafety (H : Hyper) : Prop where
  /-- THE graceful-shutdown contract: the connection future resolves only if the peer left, or
  `graceful_shutdown()` was called and either the handshake had not completed or the final GOAWAY
  is out and every accepted stream is settled (answered completely and flushed, or given up by
  its caller) -/
  connDone_only : ∀ cn, H.connDone cn = true →
    cn.peerGone = true ∨ (cn.graceful = true ∧ cn.hs = false)
      ∨ (cn.final = true ∧ ∀ k ∈ cn.calls, k.settled = true)
  /-- a handshake completes once, not after `graceful_shutdown()`, not without a peer -/
  handshake_only : ∀ cn, H.handshake cn = true →
    cn.hs = false ∧ cn.graceful = false ∧ cn.peerGone = false
  /-- the final GOAWAY follows a `graceful_shutdown()` on a connection that is serving -/
  finalGoaway_only : ∀ cn, H.finalGoaway cn = true →
    cn.hs = true ∧ cn.graceful = true ∧ cn.final = false
  /-- streams are accepted on a serving connection, before the final GOAWAY, once each -/
  acceptStream_only : ∀ cn k, H.acceptStream cn k = true →
    cn.hs = true ∧ cn.final = false ∧ cn.peerGone = false ∧ k.started = false
      ∧ k.cancelled = false
  /-- only what was written is delivered, in order, to a caller that is still there -/
  deliver_only : ∀ cn k, H.deliver cn k = true →
    cn.peerGone = false ∧ k.cancelled = false ∧ k.recv < k.sent.length

/-- hyper does not sit on its hands when shutting down -/
structure HyperLiveness (H : Hyper) : Prop where
  /-- the connection future does resolve in each of the three situations -/
  connDone_when : ∀ cn,
    (cn.peerGone = true ∨ (cn.graceful = true ∧ cn.hs = false)
      ∨ (cn.final = true ∧ ∀ k ∈ cn.calls, k.settled = true)) → H.connDone cn = true
  /-- after `graceful_shutdown()` on a serving connection the final GOAWAY goes out -/
  finalGoaway_when : ∀ cn, cn.hs = true → cn.graceful = true → cn.final = false →
    H.finalGoaway cn = true
  /-- what was written to a stream reaches a caller that is still there -/
  deliver_when : ∀ cn k, cn.peerGone = false → k.cancelled = false → k.recv < k.sent.length →
    H.deliver cn k = true

/-- What C13 needs from hyper / h2.  This — together with tokio's `watch` / `select!` semantics,
which `step` writes out for tonic's own two tasks — is the trusted part of the model. -/
structure HyperGracefulContract (H : Hyper) : Prop extends HyperSafety H, HyperLiveness H

theorem hyperModel_contract : HyperGracefulContract hyperModel where
  connDone_only cn := (hyperConnDone_iff cn).1
  handshake_only cn h := by
    simpa only [hyperModel, Bool.and_eq_true, Bool.not_eq_true', and_assoc] using h
  finalGoaway_only cn h := by
    simpa only [hyperModel, Bool.and_eq_true, Bool.not_eq_true', and_assoc] using h
  acceptStream_only cn k h := by
    simpa only [hyperModel, Bool.and_eq_true, Bool.not_eq_true', and_assoc] using h
  deliver_only cn k h := by
    simpa only [hyperModel, Bool.and_eq_true, Bool.not_eq_true', decide_eq_true_eq, and_assoc]
      using h
  connDone_when cn := (hyperConnDone_iff cn).2
  finalGoaway_when cn h1 h2 h3 := by simp only [hyperModel, h1, h2, h3]; rfl
  deliver_when cn k h1 h2 h3 := by simp only [hyperModel, h1, h2, decide_eq_true h3]; rfl

theorem stepH_hyperModel (s : State) (l : Label) : stepH hyperModel s l = step s l := by
  cases l
  case hsDone c | final c =>
    show updConn s c _ _ = updConn s c _ _
    simp only [hyperModel, Bool.and_assoc]
  case deliver c j =>
    show updCall s c j _ _ = updCall s c j _ _
    simp only [hyperModel, Bool.and_assoc]
  case callStart c j =>
    -- the two guards are the same conjunction in a different order
    show updCall s c j _ _ = updCall s c j _ _
    congr 1
    funext cn k
    simp only [hyperModel]
    ac_rfl
  all_goals rfl

/-- `hl`: for a draining step (neither `hsDone` nor `callStart`) nothing need be known of
`handshake` and `acceptStream`. -/
theorem stepH_mono {H H' : Hyper} {s s' : State} {l : Label}
    (hc : ∀ cn, H.connDone cn = true → H'.connDone cn = true)
    (hf : ∀ cn, H.finalGoaway cn = true → H'.finalGoaway cn = true)
    (hd : ∀ cn k, H.deliver cn k = true → H'.deliver cn k = true)
    (hl : l.drains = true ∨ (∀ cn, H.handshake cn = true → H'.handshake cn = true) ∧
      ∀ cn k, H.acceptStream cn k = true → H'.acceptStream cn k = true)
    (h : stepH H s l = some s') : stepH H' s l = some s' := by
  have guard {a x y : Bool} (hxy : x = true → y = true) (h : (a && x) = true) :
      (a && y) = true := by
    rw [Bool.and_eq_true] at h ⊢
    exact ⟨h.1, hxy h.2⟩
  cases l
  case connBreak c => exact updConn_mono (fun cn => guard (hc cn)) h
  case final c => exact updConn_mono (fun cn => guard (hf cn)) h
  case deliver c j => exact updCall_mono (fun cn k => guard (hd cn k)) h
  case hsDone c => exact updConn_mono (fun cn => guard ((hl.resolve_left nofun).1 cn)) h
  case callStart c j => exact updCall_mono (fun cn k => guard ((hl.resolve_left nofun).2 cn k)) h
  all_goals exact h

theorem stepH_sub {H : Hyper} (hs : HyperSafety H) {s s' : State} {l : Label}
    (h : stepH H s l = some s') : step s l = some s' := by
  refine stepH_hyperModel s l ▸ stepH_mono
    (fun cn h => (hyperConnDone_iff cn).2 (hs.connDone_only cn h)) (fun cn h => ?_)
    (fun cn k h => ?_) (Or.inr ⟨fun cn h => ?_, fun cn k h => ?_⟩) h
  · obtain ⟨h1, h2, h3⟩ := hs.finalGoaway_only cn h
    exact hyperModel_contract.finalGoaway_when cn h1 h2 h3
  · obtain ⟨h1, h2, h3⟩ := hs.deliver_only cn k h
    exact hyperModel_contract.deliver_when cn k h1 h2 h3
  · obtain ⟨h1, h2, h3⟩ := hs.handshake_only cn h
    simp only [hyperModel, h1, h2, h3]; rfl
  · obtain ⟨h1, h2, h3, h4, h5⟩ := hs.acceptStream_only cn k h
    simp only [hyperModel, h1, h2, h3, h4, h5]; rfl

theorem runH_sub {H : Hyper} (hs : HyperSafety H) {ls : List Label} {s s' : State}
    (h : runH H s ls = some s') : run s ls = some s' := by
  induction ls generalizing s with
  | nil => exact h
  | cons l ls ih =>
    rw [runH] at h
    split at h
    · next s1 hs1 => exact run_cons.2 ⟨s1, stepH_sub hs hs1, ih h⟩
    · cases h

theorem reachableH_sub {H : Hyper} (hs : HyperSafety H) {g b a : Bool} {s : State}
    (h : ReachableH H g b a s) : Reachable g b a s := by
  induction h with
  | init t => exact .init t
  | step l _ hst ih => exact .step l ih (stepH_sub hs hst)

theorem stepH_of_step_drains {H : Hyper} (hl : HyperLiveness H) {s : State} {l : Label}
    (hd : l.drains = true) (h : (step s l).isSome = true) : (stepH H s l).isSome = true := by
  obtain ⟨s', hs'⟩ := Option.isSome_iff_exists.1 h
  rw [← stepH_hyperModel] at hs'
  exact Option.isSome_iff_exists.2 ⟨s', stepH_mono
    (fun cn h => hl.connDone_when cn ((hyperConnDone_iff cn).1 h))
    (fun cn h =>
      have ⟨h1, h2, h3⟩ := hyperModel_contract.finalGoaway_only cn h
      hl.finalGoaway_when cn h1 h2 h3)
    (fun cn k h =>
      have ⟨h1, h2, h3⟩ := hyperModel_contract.deliver_only cn k h
      hl.deliver_when cn k h1 h2 h3)
    (Or.inl hd) hs'⟩

end Shutdown
