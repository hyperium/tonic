import TonicModel.Model.Reconnect
import TonicModel.Spec.Reconnect
/-
Lemmas about `Reconnect.ErrClass` (the model of `Status::from_error`): plain wrappers are
transparent, the first meaningful node decides, a connect error decides UNAVAILABLE whatever its
cause is.
-/
namespace Reconnect.ErrClass
open ErrChain

theorem findInChain_plain_cons (n : Node) (rest : List Node) (h : n.plain = true) :
    findInChain (n :: rest) = findInChain rest := by
  cases n <;> first | rfl | exact nomatch h

theorem findInChain_plain_prefix (pre rest : List Node) (h : ∀ n ∈ pre, n.plain = true) :
    findInChain (pre ++ rest) = findInChain rest := by
  induction pre with
  | nil => rfl
  | cons n pre ih =>
    rw [List.cons_append, findInChain_plain_cons n _ (h n (by simp))]
    exact ih (fun m hm => h m (by simp [hm]))

/-- The outermost-error shortcuts of `try_from_error` agree with the chain search, except for an
outermost `h2::Error` (which the search skips). -/
theorem tryFromError_eq_findInChain (chain : List Node) (h : ∀ r, chain.head? ≠ some (.h2 r)) :
    tryFromError chain = findInChain chain := by
  rcases chain with _ | ⟨n, rest⟩
  · rfl
  · cases n <;> first | rfl | exact absurd rfl (h _)

theorem fromError_prefix (pre rest : List Node) (h : ∀ n ∈ pre, n.plain = true)
    (hn : ∀ r, rest.head? ≠ some (.h2 r)) :
    fromError (pre ++ rest) = (findInChain rest).getD 2 := by
  rw [fromError, tryFromError_eq_findInChain, findInChain_plain_prefix pre rest h]
  intro r
  cases pre with
  | nil => exact hn r
  | cons m pre =>
    intro hm
    cases hm
    exact nomatch h _ List.mem_cons_self

theorem fromError_connect (pre cause : List Node) (h : ∀ n ∈ pre, n.plain = true) :
    fromError (pre ++ .connectError :: cause) = 14 :=
  fromError_prefix pre _ h nofun

theorem fromError_plain (chain : List Node) (h : ∀ n ∈ chain, n.plain = true) :
    fromError chain = 2 :=
  List.append_nil chain ▸ fromError_prefix chain [] h nofun

theorem fromError_attempt (inConnector : Bool) (cause : List Node) :
    fromError (attemptChain true inConnector cause) = 14 := by
  unfold attemptChain
  exact fromError_connect [.transport] _ (by simp [Node.plain])

/-- Before fix commit 90f5808c (`attemptChain false`) a failure raised outside `Connector::call`
is not a connect error: the class then depends on the cause (here: all plain ⇒ UNKNOWN). -/
theorem fromError_attempt_unfixed (cause : List Node) (h : ∀ n ∈ cause, n.plain = true) :
    fromError (attemptChain false false cause) = 2 := by
  unfold attemptChain
  apply fromError_plain
  intro n hn
  simp at hn
  rcases hn with rfl | hn
  · rfl
  · exact h n hn

theorem isConnectFailure_cons (n : Node) (rest : List Node) (hc : n ≠ .connectError) :
    Spec.Reconnect.isConnectFailure (n :: rest) = (n.plain && Spec.Reconnect.isConnectFailure rest) := by
  cases n <;> first | rfl | exact absurd rfl hc

theorem isConnectFailure_iff (chain : List Node) :
    Spec.Reconnect.isConnectFailure chain = true ↔
      ∃ pre cause, chain = pre ++ .connectError :: cause ∧ ∀ n ∈ pre, n.plain = true := by
  constructor
  · intro h
    induction chain with
    | nil => cases h
    | cons n rest ih =>
      by_cases hc : n = .connectError
      · exact ⟨[], rest, by rw [hc]; rfl, fun _ h => nomatch h⟩
      · rw [isConnectFailure_cons n rest hc, Bool.and_eq_true] at h
        obtain ⟨pre, cause, rfl, hpre⟩ := ih h.2
        exact ⟨n :: pre, cause, rfl, List.forall_mem_cons.2 ⟨h.1, hpre⟩⟩
  · rintro ⟨pre, cause, rfl, hpre⟩
    induction pre with
    | nil => rfl
    | cons m pre ih =>
      have hm := List.forall_mem_cons.1 hpre
      rw [List.cons_append, isConnectFailure_cons m _ (fun hc => by rw [hc] at hm; exact nomatch hm.1),
        hm.1, ih hm.2]
      rfl

theorem classClauses_hold (chain : List Node) :
    (Spec.Reconnect.classClauses chain (fromError chain)).all (·.2) = true := by
  simp only [Spec.Reconnect.classClauses, List.all_cons, List.all_nil, Bool.and_true]
  by_cases h : Spec.Reconnect.isConnectFailure chain = true
  · obtain ⟨pre, cause, rfl, hpre⟩ := (isConnectFailure_iff chain).1 h
    simp [fromError_connect pre cause hpre, ConnScript.unavailable]
  · simp [h]

end Reconnect.ErrClass
