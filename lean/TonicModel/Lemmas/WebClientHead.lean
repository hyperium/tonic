import TonicModel.Model.WebClient
import TonicModel.Model.WebCaller
import TonicModel.Spec.GrpcWeb
import TonicModel.Lemmas.GrpcWeb
/-
Lemmas for the response-head part of C17: a text-mode (base64) grpc-web body is never a sequence
of binary grpc-web frames, and the caller's view of a 200 response does not depend on the rest of
the head.
-/
namespace WebClientHeadLemmas
open Spec.GrpcWeb (WellFramed flagOk rawFrame symVal quantum b64StreamDecode)
open WebServer (Out)

theorem symVal_flag (a : UInt8) (h : flagOk a) : symVal a = none := by
  rw [GrpcWebLemmas.symVal_eq]
  rcases h with rfl | rfl | rfl <;> rfl

theorem wellFramed_first (a : UInt8) (rest : Bytes) (h : WellFramed (a :: rest)) : flagOk a := by
  obtain ⟨items, hv, hb⟩ := h
  cases items with
  | nil => simp at hb
  | cons i is =>
    have hi := (hv i (by simp)).1
    simp only [List.flatMap_cons, rawFrame, List.cons_append] at hb
    have : a = i.1 := (List.cons.inj hb).1
    rw [this]; exact hi

theorem quantum_none {a : UInt8} (h : symVal a = none) (b c d : UInt8) : quantum a b c d = none := by
  rw [quantum, h]

theorem decode_first_sym (a : UInt8) (rest raw : Bytes)
    (h : b64StreamDecode (a :: rest) = some raw) : symVal a ≠ none := by
  intro hs
  -- `rcases`, not `match … with`: unifying `h` with the patterns would evaluate the alphabet
  rcases rest with _ | ⟨b, _ | ⟨c, _ | ⟨d, r⟩⟩⟩
  · cases h
  · cases h
  · cases h
  · rw [b64StreamDecode, quantum_none hs] at h
    cases h

theorem text_not_wellFramed (body raw : Bytes) (hne : body ≠ [])
    (h : b64StreamDecode body = some raw) : ¬ WellFramed body := by
  cases body with
  | nil => exact absurd rfl hne
  | cons a rest =>
    intro hw
    exact decode_first_sym a rest raw h (symVal_flag a (wellFramed_first a rest hw))

theorem endAt_200 (outs : List Out) : WebCaller.endAt 200 outs = WebCaller.endOf outs := rfl

theorem streamingAt_200 (head : WebClient.RespHead) (h : head.status = 200) (outs : List Out) :
    WebCaller.streamingAt head outs = WebCaller.streaming outs := by
  simp [WebCaller.streamingAt, WebCaller.streaming, WebCaller.messagesAt, h, endAt_200]

end WebClientHeadLemmas
