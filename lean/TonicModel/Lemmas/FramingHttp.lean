import TonicModel.Lemmas.FramingRun
/-
What the decoder model does with a response whose HTTP status is not 200 (C04): the body's DATA is
dropped unread, so the stream stays idle (empty buffer, `ReadHeader`) until the body ends or a
trailers frame arrives, and then ends with `inferStatus` of the first trailers frame / the HTTP
status — for EVERY list of data chunks, `Pending`s and trailers frames.
-/
namespace Framing
variable {α : Type}

/-- no body error among the events: data chunks, `Pending`s and trailers frames only -/
def NoErrEvs : List BodyEv → Bool
  | [] => true
  | .err _ :: _ => false
  | _ :: r => NoErrEvs r

/-- the first trailers frame of the body (the one that ends the stream), if any -/
def firstTr : List BodyEv → Option Tr
  | [] => none
  | .trailers t :: _ => some t
  | _ :: r => firstTr r

/-- no trailers frame carries a `grpc-status` -/
def NoStatusEvs : List BodyEv → Bool
  | [] => true
  | .data _ :: r => NoStatusEvs r
  | .pending :: r => NoStatusEvs r
  | .trailers none :: r => NoStatusEvs r
  | _ => false

def Idle (s : DecSt) : Prop := s.buf = [] ∧ s.ph = .hdr ∧ s.trailers = none

theorem idle_init : Idle Dec.init := ⟨rfl, rfl, rfl⟩

theorem idle_eq {s : DecSt} (h : Idle s) : s = Dec.init := by
  obtain ⟨buf, ph, tr⟩ := s
  obtain ⟨hb, hp, ht⟩ := h
  dsimp only at hb hp ht
  subst hb hp ht
  rfl

theorem pre_init (cd : Codec α) (cfg : DecCfg) : Dec.pre cd cfg Dec.init = .need Dec.init := rfl

theorem skips_of_non200 {cfg : DecCfg} {http : Nat} (hdir : cfg.dir = .response http) (h200 : http ≠ 200) :
    cfg.skipsBody = true := by
  simp [DecCfg.skipsBody, hdir, h200]

theorem of_noStatus : ∀ evs, NoStatusEvs evs = true →
    NoErrEvs evs = true ∧ (firstTr evs = none ∨ firstTr evs = some none)
  | [], _ => ⟨rfl, Or.inl rfl⟩
  | .data _ :: r, h => by simpa [NoErrEvs, firstTr] using of_noStatus r (by simpa [NoStatusEvs] using h)
  | .pending :: r, h => by simpa [NoErrEvs, firstTr] using of_noStatus r (by simpa [NoStatusEvs] using h)
  | .trailers none :: r, h => ⟨(of_noStatus r (by simpa [NoStatusEvs] using h)).1, Or.inr rfl⟩
  | .trailers (some _) :: _, h => by simp [NoStatusEvs] at h
  | .err _ :: _, h => by simp [NoStatusEvs] at h

/-- What one `poll_next` of a fresh stream does on a non-200 response: it stays fresh until the body ends. -/
def Non200Poll (http : Nat) (evs : List BodyEv) (s' : DecSt) (evs' : List BodyEv) (o : Item α) : Prop :=
  match o with
  | .msg _ => False
  | .pending => s' = Dec.init ∧ evs'.length < evs.length ∧ firstTr evs' = firstTr evs ∧ NoErrEvs evs' = true
  | .err e => s'.ph = .failed none ∧ inferStatus (firstTr evs) http = some e
  | .none => inferStatus (firstTr evs) http = none

/-- `evs0`: the body the poll started with; `s rest`: where it reached the end of the body -/
theorem finish_non200 (cfg : DecCfg) (http : Nat) (hdir : cfg.dir = .response http)
    (s : DecSt) (evs0 rest : List BodyEv) (htr : s.trailers = firstTr evs0) :
    Non200Poll (α := α) http evs0 (Dec.finish (α := α) cfg s rest).1 (Dec.finish (α := α) cfg s rest).2.1
      (Dec.finish (α := α) cfg s rest).2.2 := by
  unfold Dec.finish Dec.response
  rw [hdir]
  dsimp only
  rw [htr]
  cases h : inferStatus (firstTr evs0) http with
  | none => exact h
  | some e => exact ⟨rfl, h⟩

theorem pollNext_non200 (cd : Codec α) (cfg : DecCfg) (http : Nat) (hdir : cfg.dir = .response http)
    (h200 : http ≠ 200) (evs : List BodyEv) (hne : NoErrEvs evs = true) :
    Non200Poll http evs (Dec.pollNext cd cfg Dec.init evs).1 (Dec.pollNext cd cfg Dec.init evs).2.1
      (Dec.pollNext cd cfg Dec.init evs).2.2 := by
  induction evs with
  | nil =>
    rw [pollNext_nil cd cfg (pre_init cd cfg)]
    exact finish_non200 cfg http hdir _ [] [] rfl
  | cons ev rest ih =>
    cases ev with
    | pending =>
      rw [pollNext_pending cd cfg (pre_init cd cfg)]
      exact ⟨rfl, Nat.lt_succ_self _, rfl, hne⟩
    | data c =>
      -- the chunk is dropped unread, so the poll goes on from the same fresh stream
      have hd : Dec.pollNext cd cfg Dec.init (.data c :: rest) = Dec.pollNext cd cfg Dec.init rest := by
        rw [pollNext_data cd cfg (pre_init cd cfg), accept_skip (skips_of_non200 hdir h200)]
        rfl
      rw [hd]
      have := ih hne
      generalize Dec.pollNext cd cfg Dec.init rest = r at this
      obtain ⟨s', evs', o⟩ := r
      cases o with
      | pending => exact ⟨this.1, Nat.lt_succ_of_lt this.2.1, this.2.2⟩
      | _ => exact this
    | trailers t =>
      rw [pollNext_trailers cd cfg (pre_init cd cfg)]
      exact finish_non200 cfg http hdir _ _ rest rfl
    | err st => exact absurd hne (by simp [NoErrEvs])

/-- the HTTP-status table of `inferStatus` when no `grpc-status` is available, as one expression -/
def httpCode (http : Nat) : Nat :=
  if http = 400 then 13 else if http = 401 then 16 else if http = 403 then 7 else if http = 404 then 12
  else if http = 429 ∨ http = 502 ∨ http = 503 ∨ http = 504 then 14 else 2

theorem inferStatus_noStatus (tr : Option Tr) (http : Nat) (htr : tr = none ∨ tr = some none) (h200 : http ≠ 200) :
    inferStatus tr http = some ⟨httpCode http, .http⟩ := by
  -- past the test for 200, `inferStatus` is `httpCode`'s chain of tests with `some ⟨·, .http⟩` at the leaves
  rcases htr with rfl | rfl <;>
    simp only [inferStatus, httpCode, if_neg h200, apply_ite (fun c => some (St.mk c .http))]

/-- the first result that is not `Pending` -/
def firstReady (l : List (Item α)) : Option (Item α) := (nonPending l).head?

theorem run_non200 (cd : Codec α) (cfg : DecCfg) (http : Nat) (hdir : cfg.dir = .response http)
    (h200 : http ≠ 200) (n : Nat) : ∀ (s : DecSt) (evs : List BodyEv), Idle s → NoErrEvs evs = true →
    evs.length < n →
    ∃ tl, nonPending (Dec.run cd cfg n s evs) =
        (match inferStatus (firstTr evs) http with | some e => .err e | none => .none) :: tl ∧
      (inferStatus (firstTr evs) http ≠ none → ∃ k, tl = List.replicate k .none) := by
  induction n with
  | zero => intro s evs _ _ h; omega
  | succ n ih =>
    intro s evs hs hne hn
    obtain rfl := idle_eq hs
    have hp := pollNext_non200 cd cfg http hdir h200 evs hne
    simp only [Dec.run]
    generalize Dec.pollNext cd cfg Dec.init evs = r at hp
    obtain ⟨s', evs', o⟩ := r
    cases o with
    | msg m => exact absurd hp id
    | none =>
      have : inferStatus (firstTr evs) http = none := hp
      rw [this]
      exact ⟨_, rfl, fun h => absurd rfl h⟩
    | err e =>
      obtain ⟨hph, he⟩ := hp
      dsimp only at hph
      rw [he, run_failed cd cfg n s' evs' hph]
      exact ⟨_, rfl, fun _ => ⟨n, by simp [Item.isPending]⟩⟩
    | pending =>
      obtain ⟨rfl, hl, hf, hne'⟩ := hp
      dsimp only at hl hf hne'
      have := ih _ evs' hs hne' (by omega)
      rw [hf] at this
      simpa [nonPending, Item.isPending] using this

theorem run_non200_no_message (cd : Codec α) (cfg : DecCfg) (hskip : cfg.skipsBody = true) (n : Nat)
    (evs : List BodyEv) : msgsOf (Dec.run cd cfg n Dec.init evs) = [] := by
  have := run_msgs_prefix cd cfg n Dec.init evs (phaseOk_init cfg)
  rw [specFrom_init, accepted_skip hskip, batch_nil] at this
  exact List.prefix_nil.mp this

end Framing
