import TonicModel.Model.RecoverError
import TonicModel.Spec.GrpcResponse
/-
Lemmas about `Model/RecoverError` for C03's synthesised responses: how `Status::try_from_error`'s
chain walk passes wrapper errors, and when the oracle `Spec/GrpcResponse` accepts a body-less
response by its two header values.
-/
namespace RecoverError
open HMapLite HttpLite Interceptor

theorem findStatus_opaque (pre rest : List Link) (hp : ∀ l ∈ pre, l = Link.opaque) :
    findStatus (pre ++ rest) = findStatus rest := by
  induction pre with
  | nil => rfl
  | cons l pre ih =>
    obtain rfl := hp l List.mem_cons_self
    exact ih (fun l hl => hp l (List.mem_cons_of_mem _ hl))

theorem codeOk_codeHeaderValue (n : Nat) : Spec.GrpcResponse.codeOk (codeHeaderValue n) = true := by
  unfold codeHeaderValue
  split <;> decide +kernel

theorem conformant_of_headers (H : Hdrs) (c : Nat) (extra : Nat)
    (hct : getAll nameContentType H = [(grpcContentType, false)])
    (hgs : getAll nameGrpcStatus H = [(codeHeaderValue c, false)]) :
    Spec.GrpcResponse.conformant
      { status := 200, headers := H, frames := List.replicate (extra + 1) Fr.eos } = true := by
  have e1 : str "content-type" = nameContentType := rfl
  have e2 : str "grpc-status" = nameGrpcStatus := rfl
  have h1 : Spec.GrpcResponse.contentTypeOk H = true := by
    simp [Spec.GrpcResponse.contentTypeOk, e1, hct, grpcContentType]
  have h2 : Spec.GrpcResponse.noStatus H = false := by
    simp [Spec.GrpcResponse.noStatus, e2, hgs]
  have h3 : Spec.GrpcResponse.oneStatus H = true := by
    simp only [Spec.GrpcResponse.oneStatus, e2, hgs]
    exact codeOk_codeHeaderValue c
  have h4 : Spec.GrpcResponse.bodyLess (List.replicate (extra + 1) Fr.eos) = true := by
    simp [Spec.GrpcResponse.bodyLess, Spec.GrpcResponse.isEos]
  simp [Spec.GrpcResponse.conformant, Spec.GrpcResponse.clauses, h1, h2, h3, h4]

end RecoverError
