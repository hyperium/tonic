import TonicModel.Spec.GrpcWeb
import TonicModel.Basic.Base64
import TonicModel.Basic.TrailerMap
/-
Helper lemmas shared by C16 and C17: the independent reader (`Spec.GrpcWeb`) against the
base64 engine model (`B64`) and against the frame / trailer-block serialisers.
-/
namespace GrpcWebLemmas
open Spec.GrpcWeb
open TMap (Pair)

/-! ### base64: the reader against the engine -/

theorem alphabet_eq : alphabet = (List.range 64).map B64.b64char := by
  rw [alphabet, TMap.str_lit]
  decide +kernel

theorem b64char_of_b64val {c : UInt8} {n : Nat} (h : B64.b64val c = some n) :
    n < 64 ∧ B64.b64char n = c := by
  have tab : ∀ c : Fin 256, (B64.b64val (UInt8.ofNat c.val)).all
      (fun n => n < 64 && B64.b64char n == UInt8.ofNat c.val) = true := by decide +kernel
  simpa [h] using tab ⟨c.toNat, c.toNat_lt⟩

theorem symVal_eq (c : UInt8) : symVal c = B64.b64val c := by
  simp only [symVal, alphabet_eq]
  split
  · -- a position below 64 holds the symbol of that value
    rename_i h
    have hc := List.getElem_idxOf (x := c) (xs := (List.range 64).map B64.b64char) (by simpa using h)
    rw [List.getElem_map, List.getElem_range] at hc
    exact ((congrArg B64.b64val hc).symm.trans (B64.b64val_char' _ h)).symm
  · -- a symbol that has a value occurs in the table
    rename_i h
    cases hv : B64.b64val c with
    | none => rfl
    | some n =>
      obtain ⟨hn, hc⟩ := b64char_of_b64val hv
      have := List.idxOf_lt_length_of_mem (List.mem_map.2 ⟨n, List.mem_range.2 hn, hc⟩)
      simp only [List.length_map, List.length_range] at this
      exact absurd this h

theorem b64val_pad : B64.b64val B64.PAD = none := by decide

theorem quantum_eq_decTail (a b c d : UInt8) :
    quantum a b c d = B64.decTail [a, b, c, d] := by
  -- `rw`: unfolding `quantum` through its equation lemmas (`simp only [quantum]`) is slow to check
  rw [quantum, symVal_eq a, symVal_eq b, symVal_eq c, symVal_eq d, show PADC = B64.PAD from rfl]
  simp only [B64.decTail, B64.dec2, B64.dec3, B64.dec4, Option.bind_eq_bind]
  cases B64.b64val a with
  | none => simp only [Option.bind_none, ite_self]
  | some va =>
  cases B64.b64val b with
  | none => simp only [Option.bind_some, Option.bind_none, ite_self]
  | some vb =>
  simp only [Option.bind_some]
  by_cases hc : c = B64.PAD
  · -- after a pad both ask for a second pad: `dec4` has no value for the first
    subst hc
    simp only [if_true, b64val_pad, Option.bind_none]
  · simp only [if_neg hc]
    cases B64.b64val c with
    | none => simp only [Option.bind_none, ite_self]
    | some vc =>
    simp only [Option.bind_some]
    split
    · rfl
    · cases B64.b64val d <;> rfl

theorem quantum_of_dec4 {a b c d : UInt8} {h : Bytes} (hd : B64.dec4 a b c d = some h) :
    quantum a b c d = some h := by
  have hpad : d ≠ B64.PAD := by
    rintro rfl
    simp only [B64.dec4, b64val_pad, Option.bind_eq_bind, Option.bind_none, Option.bind_fun_none,
      reduceCtorEq] at hd
  rw [quantum_eq_decTail, B64.decTail, if_neg hpad, hd]

theorem stream_cons4 (a b c d : UInt8) (rest : Bytes) :
    b64StreamDecode (a :: b :: c :: d :: rest) =
      (match quantum a b c d, b64StreamDecode rest with
       | some q, some r => some (q ++ r)
       | _, _ => none) := by
  rw [b64StreamDecode]
  cases quantum a b c d <;> cases b64StreamDecode rest <;> rfl

/-- The reader with the engine's `decTail` for a quantum.  Text-mode test vectors are evaluated
through it: the kernel is slow on the `alphabet` literal that `symVal` searches. -/
def b64StreamE : Bytes → Option Bytes
  | [] => some []
  | a :: b :: c :: d :: rest =>
    match B64.decTail [a, b, c, d], b64StreamE rest with
    | some q, some r => some (q ++ r)
    | _, _ => none
  | _ => none

theorem b64StreamDecode_eq : ∀ s : Bytes, b64StreamDecode s = b64StreamE s
  | [] | [_] | [_, _] | [_, _, _] => rfl
  | a :: b :: c :: d :: rest => by
    rw [stream_cons4, quantum_eq_decTail, b64StreamDecode_eq rest, b64StreamE]

theorem aligned_induction {P : (s : Bytes) → s.length % 4 = 0 → Prop} (nil : P [] rfl)
    (cons4 : ∀ a b c d r hr h, P r hr → P (a :: b :: c :: d :: r) h) :
    ∀ s h, P s h
  | [], _ => nil
  | [_], h => nomatch h
  | [_, _], h => nomatch h
  | [_, _, _], h => nomatch h
  | a :: b :: c :: d :: r, h =>
    have hr : r.length % 4 = 0 := (Nat.add_mod_right _ 4).symm.trans h
    cons4 a b c d r hr h (aligned_induction nil cons4 r hr)

theorem stream_append (s1 s2 : Bytes) (h : s1.length % 4 = 0) :
    b64StreamDecode (s1 ++ s2) =
      (match b64StreamDecode s1, b64StreamDecode s2 with
       | some a, some b => some (a ++ b)
       | _, _ => none) := by
  induction s1, h using aligned_induction with
  | nil => rw [b64StreamDecode, List.nil_append]; cases b64StreamDecode s2 <;> rfl
  | cons4 a b c d r _ _ ih =>
    simp only [List.cons_append, stream_cons4, ih]
    cases quantum a b c d <;> cases b64StreamDecode r <;> cases b64StreamDecode s2 <;> simp

theorem stream_of_decode {s : Bytes} (h : s.length % 4 = 0) :
    ∀ {d : Bytes}, B64.decode s = some d → b64StreamDecode s = some d := by
  induction s, h using aligned_induction with
  | nil => intro d hd; rw [← hd]; rfl
  | cons4 a b c e r _ _ ih =>
    intro d hd
    rw [stream_cons4]
    cases r with
    | nil =>
      simp only [B64.decode] at hd
      rw [quantum_eq_decTail, hd]
      simp [b64StreamDecode]
    | cons f r =>
      rw [B64.decode] at hd
      simp only [Option.bind_eq_bind, Option.bind_eq_some_iff, Option.some.injEq] at hd
      obtain ⟨q, h4, t, ht, rfl⟩ := hd
      rw [quantum_of_dec4 h4, ih ht]

theorem encode_length (x : Bytes) : (B64.encode true x).length = 4 * ((x.length + 2) / 3) :=
  (B64.length_encode true x).trans (if_pos rfl)

theorem encode_length_mod (x : Bytes) : (B64.encode true x).length % 4 = 0 := by
  rw [encode_length, Nat.mul_mod_right]

theorem stream_encode (x : Bytes) : b64StreamDecode (B64.encode true x) = some x :=
  stream_of_decode (encode_length_mod x) (B64.decode_encode true x)

theorem stream_pieces (chunks : List Bytes) :
    b64StreamDecode ((chunks.map (B64.encode true)).flatten) = some chunks.flatten := by
  induction chunks with
  | nil => rfl
  | cons c cs ih =>
    rw [List.map_cons, List.flatten_cons, stream_append _ _ (encode_length_mod c), stream_encode, ih]
    rfl

theorem encode_split {s : Bytes} (h : s.length % 4 = 0) : ∀ {t x : Bytes},
    s ++ t = B64.encode true x →
    ∃ x1 x2, x = x1 ++ x2 ∧ s = B64.encode true x1 ∧ t = B64.encode true x2 := by
  induction s, h using aligned_induction with
  | nil => intro t x h; exact ⟨[], x, rfl, rfl, h⟩
  | cons4 a b c d r _ _ ih =>
    intro t x
    match x with
    | [] => intro h; simp [B64.encode] at h
    | [u] | [u, v] =>
      -- a padded tail is one quantum: nothing follows it
      intro h
      simp only [B64.encode, if_true, List.cons_append, List.nil_append, List.cons.injEq,
        List.append_eq_nil_iff] at h
      obtain ⟨rfl, rfl, rfl, rfl, rfl, rfl⟩ := h
      exact ⟨_, [], (List.append_nil _).symm, rfl, rfl⟩
    | u :: v :: w :: x =>
      intro h
      simp only [B64.encode, List.cons_append, List.cons.injEq] at h
      obtain ⟨rfl, rfl, rfl, rfl, h⟩ := h
      obtain ⟨x1, x2, rfl, rfl, rfl⟩ := ih h
      exact ⟨u :: v :: w :: x1, x2, rfl, rfl, rfl⟩

/-! ### frames and trailer blocks -/

theorem lines_line (l : Bytes) (hl : ∀ b ∈ l, b ≠ 13) (cur rest : Bytes) :
    lines cur (l ++ 13 :: 10 :: rest) = (lines [] rest).map ((cur.reverse ++ l) :: ·) := by
  induction l generalizing cur with
  | nil => simp [lines]
  | cons x xs ih =>
    -- `lines` looks two bytes ahead
    obtain ⟨y, t, e⟩ : ∃ y t, xs ++ 13 :: 10 :: rest = y :: t := by cases xs <;> exact ⟨_, _, rfl⟩
    rw [List.cons_append, e, lines, if_neg fun h => hl x (by simp) h.1, ← e,
      ih fun b hb => hl b (by simp [hb])]
    simp

theorem splitColon_pair (n v : Bytes) (hn : ∀ b ∈ n, b ≠ 58) :
    splitColon (n ++ 58 :: v) = some (n, v) := by
  induction n with
  | nil => simp [splitColon]
  | cons x xs ih =>
    have hx : x ≠ 58 := hn x (by simp)
    have := ih (fun b hb => hn b (by simp [hb]))
    simp [splitColon, hx, this]

theorem parseBlock_cons (p : Pair) (hp : nameOk p.1 ∧ valueOk p.2) (rest : Bytes) :
    parseBlock (lineOf p ++ rest) = (parseBlock rest).map (p :: ·) := by
  have hl : ∀ b ∈ p.1 ++ 58 :: p.2, b ≠ 13 := by
    intro b hb
    rcases List.mem_append.1 hb with hb | hb
    · exact (hp.1 b hb).2
    · rcases List.mem_cons.1 hb with rfl | hb
      · decide
      · exact hp.2 b hb
  have e : lineOf p ++ rest = (p.1 ++ 58 :: p.2) ++ 13 :: 10 :: rest := by simp [lineOf]
  rw [parseBlock, e, lines_line _ hl, parseBlock]
  cases lines [] rest with
  | none => rfl
  | some ls =>
    simp only [Option.map_some, List.reverse_nil, List.nil_append, traverse,
      splitColon_pair _ _ fun b hb => (hp.1 b hb).1]
    cases traverse splitColon ls <;> rfl

theorem parseBlock_lines (ps : List Pair)
    (h : ∀ p ∈ ps, nameOk p.1 ∧ valueOk p.2) :
    parseBlock (ps.flatMap lineOf) = some ps := by
  induction ps with
  | nil => rfl
  | cons p ps ih =>
    rw [List.flatMap_cons, parseBlock_cons p (h p (by simp)), ih fun q hq => h q (by simp [hq])]
    rfl

theorem parseItemsAux_msg (n : Nat) (c : Bool) (p rest : Bytes) (hp : p.length < 4294967296) :
    parseItemsAux (n + 1) (frameBytes c p ++ rest) =
      (parseItemsAux n rest).map (Item.msg c p :: ·) := by
  simp only [frameBytes, u32be, List.cons_append, List.nil_append, parseItemsAux]
  rw [readU32_u32be _ hp]
  have h1 : ¬ (p ++ rest).length < p.length := by simp
  simp only [h1, if_false, List.take_left', List.drop_left']
  cases c <;> cases parseItemsAux n rest <;> simp

theorem parseItemsAux_frames (fs : List (Bool × Bytes)) (hfs : ∀ f ∈ fs, f.2.length < 4294967296)
    (m : Nat) (rest : Bytes) :
    parseItemsAux (fs.length + m) (framesBytes fs ++ rest) =
      (parseItemsAux m rest).map (fs.map (fun f => Item.msg f.1 f.2) ++ ·) := by
  induction fs with
  | nil =>
    simp only [framesBytes, List.nil_append, List.length_nil, Nat.zero_add, List.map_nil]
    cases parseItemsAux m rest <;> simp
  | cons f fs ih =>
    have e : (f :: fs).length + m = (fs.length + m) + 1 := by simp; omega
    simp only [framesBytes, List.append_assoc]
    rw [e, parseItemsAux_msg _ _ _ _ (hfs f (by simp)), ih (fun g hg => hfs g (by simp [hg]))]
    cases parseItemsAux m rest <;> simp

theorem framesBytes_length (fs : List (Bool × Bytes)) : 5 * fs.length ≤ (framesBytes fs).length := by
  induction fs with
  | nil => exact Nat.le_refl 0
  | cons f fs ih =>
    simp only [framesBytes, frameBytes, List.length_append, List.length_cons, u32be_length]
    omega

theorem parseItemsAux_trailers (n : Nat) (ps : List Pair) (blk : Bytes)
    (h : parseBlock blk = some ps) (hlen : blk.length < 4294967296) :
    parseItemsAux (n + 2) (128 :: u32be blk.length ++ blk) = some [Item.trailers ps] := by
  simp only [u32be, List.cons_append, List.nil_append, parseItemsAux]
  rw [readU32_u32be _ hlen]
  simp [h, parseItemsAux]

theorem parseItems_frames_trailers (fs : List (Bool × Bytes))
    (hfs : ∀ f ∈ fs, f.2.length < 4294967296) (ps : List Pair) (blk : Bytes)
    (h : parseBlock blk = some ps) (hlen : blk.length < 4294967296) :
    parseItems (framesBytes fs ++ (128 :: u32be blk.length ++ blk)) =
      some (fs.map (fun f => Item.msg f.1 f.2) ++ [Item.trailers ps]) := by
  have hl5 := framesBytes_length fs
  -- the fuel `parseItems` supplies covers one unit per frame and two for the trailers frame
  obtain ⟨n, hn⟩ : ∃ n, (framesBytes fs ++ (128 :: u32be blk.length ++ blk)).length + 1 =
      fs.length + (n + 2) :=
    ⟨(framesBytes fs).length + blk.length + 4 - fs.length, by
      simp only [List.length_append, List.length_cons, u32be_length]; omega⟩
  rw [parseItems, hn, parseItemsAux_frames _ hfs, parseItemsAux_trailers _ _ _ h hlen]
  rfl

end GrpcWebLemmas
