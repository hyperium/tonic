import TonicModel.Spec.Health
/-
Lemmas about the C18 oracle alone (`Spec/Health`): how its scans of the log change when one
more event is logged, what a stream's view is, and when a stream has nothing to deliver
(`Settled`).  Nothing here mentions the model.
-/
namespace Health
open Spec.Health

section
variable {n : Name} {s0 x : St} {e : Ev} {l : Hist}

theorem closed_cons (n : Name) (e : Ev) (l : Hist) :
    closed n (e :: l) = (decide (e.1 = Op.clear n) || closed n l) := rfl

theorem closed_iff_mem (n : Name) (l : Hist) : closed n l = true ↔ Op.clear n ∈ l.map (·.1) := by
  simp [closed]

theorem closed_of_not_mem (h : Op.clear n ∉ l.map (·.1)) :
    closed n l = false :=
  Bool.eq_false_iff.mpr fun hc => h ((closed_iff_mem n l).mp hc)

/-- The case split behind `latest`, `statuses` and `fresh`; the right disjunct is the hypothesis
of their `_cons_idle` lemmas. -/
theorem update_or_idle (n : Name) (e : Ev) (l : Hist) :
    (closed n l = false ∧ ∃ s r, e = (Op.set n s, r)) ∨
    (closed n l = true ∨ ∀ s, e.1 ≠ Op.set n s) := by
  cases closed n l with
  | true => exact .inr (.inl rfl)
  | false =>
    obtain ⟨op, r⟩ := e
    by_cases h : ∃ s, op = Op.set n s
    · obtain ⟨s, rfl⟩ := h; exact .inl ⟨rfl, s, r, rfl⟩
    · exact .inr (.inr fun s e => h ⟨s, e⟩)

theorem closed_cons_quiet
    (h : closed n l = false → (∀ s, e.1 ≠ Op.set n s) ∧ e.1 ≠ Op.clear n) :
    closed n (e :: l) = closed n l ∧ (closed n l = true ∨ ∀ s, e.1 ≠ Op.set n s) := by
  rw [closed_cons]
  cases hc : closed n l with
  | true => exact ⟨Bool.or_true _, .inl rfl⟩
  | false => exact ⟨by rw [decide_eq_false (h hc).2]; rfl, .inr (h hc).1⟩

theorem latest_cons_set (h : closed n l = false) (s0 s : St) (r : Resp) :
    latest n s0 ((Op.set n s, r) :: l) = s := by
  simp [latest, h]

theorem latest_cons_idle (h : closed n l = true ∨ ∀ s, e.1 ≠ Op.set n s) (s0 : St) :
    latest n s0 (e :: l) = latest n s0 l := by
  rw [latest]
  split
  · rfl
  · next hcl =>
    split
    · next m s he => exact if_neg fun hm => h.resolve_left hcl s (by rw [he, hm])
    · rfl

theorem latest_of_no_set (h : ∀ e ∈ l, ∀ s, e.1 ≠ Op.set n s) : latest n s0 l = s0 := by
  induction l with
  | nil => rfl
  | cons e l ih =>
    rw [latest_cons_idle (.inr (h e List.mem_cons_self))]
    exact ih fun e' he' => h e' (List.mem_cons_of_mem _ he')

theorem statuses_cons_set (h : closed n l = false) (s0 s : St) (r : Resp) :
    statuses n s0 ((Op.set n s, r) :: l) = s :: statuses n s0 l := by
  simp [statuses, h]

theorem statuses_cons_idle (h : closed n l = true ∨ ∀ s, e.1 ≠ Op.set n s) (s0 : St) :
    statuses n s0 (e :: l) = statuses n s0 l := by
  rw [statuses]
  split
  · rfl
  · next hcl =>
    split
    · next m s he => exact if_neg fun hm => h.resolve_left hcl s (by rw [he, hm])
    · rfl

theorem latest_mem_statuses (n : Name) (s0 : St) (l : Hist) : latest n s0 l ∈ statuses n s0 l := by
  induction l with
  | nil => simp [latest, statuses]
  | cons e l ih =>
    rcases update_or_idle n e l with ⟨hcl, s, r, rfl⟩ | h
    · rw [latest_cons_set hcl, statuses_cons_set hcl]; exact List.mem_cons_self
    · rw [latest_cons_idle h, statuses_cons_idle h]; exact ih

/-- `l` is newest first: `b` is what came before the `set`. -/
theorem mem_statuses_split (hx : x ∈ statuses n s0 l) :
    x = s0 ∨ ∃ a r b, l = a ++ (Op.set n x, r) :: b ∧ closed n b = false := by
  induction l with
  | nil => exact .inl (by simpa [statuses] using hx)
  | cons e l ih =>
    have older (hx : x ∈ statuses n s0 l) :
        x = s0 ∨ ∃ a r b, e :: l = a ++ (Op.set n x, r) :: b ∧ closed n b = false :=
      (ih hx).imp_right fun ⟨a, r, b, hl, hb⟩ => ⟨e :: a, r, b, by rw [hl]; rfl, hb⟩
    rcases update_or_idle n e l with ⟨hcl, s, r, rfl⟩ | h
    · rw [statuses_cons_set hcl] at hx
      rcases List.mem_cons.mp hx with rfl | hx
      · exact .inr ⟨[], r, l, rfl, hcl⟩
      · exact older hx
    · rw [statuses_cons_idle h] at hx; exact older hx

end

theorem mem_statuses {n : Name} {s0 x : St} {l : Hist} (hx : x ∈ statuses n s0 l) :
    x = s0 ∨ ∃ r, (Op.set n x, r) ∈ l :=
  (mem_statuses_split hx).imp_right fun ⟨a, r, b, hl, _⟩ => ⟨r, by rw [hl]; simp⟩

section
variable {n : Name} {w : Nat} {e : Ev} {l h : Hist} {v : View}

theorem hasReported_cons (w : Nat) (e : Ev) (l : Hist) :
    hasReported w (e :: l) = (isReport w e || hasReported w l) := rfl

theorem isReport_iff :
    isReport w e = true ↔ ∃ s, e = (Op.next w, Resp.value s) := by
  rw [isReport]
  split
  · next w' s h1 h2 =>
    rw [decide_eq_true_iff]
    exact ⟨fun hw => ⟨s, Prod.ext (hw ▸ h1) h2⟩, fun ⟨s', he⟩ => by rw [he] at h1; cases h1; rfl⟩
  · next hne => exact ⟨fun h => (nomatch h), fun ⟨s, he⟩ => (hne w s (he ▸ rfl) (he ▸ rfl)).elim⟩

theorem isReport_of_ne (h : e.1 ≠ Op.next w) : isReport w e = false := by
  cases hr : isReport w e with
  | false => rfl
  | true => obtain ⟨s, rfl⟩ := isReport_iff.mp hr; exact absurd rfl h

theorem fresh_cons_report (h : isReport w e = true) (n : Name) (l : Hist) :
    fresh n w (e :: l) = false := by
  simp [fresh, h]

theorem fresh_cons_set (h : closed n l = false) (w : Nat)
    (s : St) (r : Resp) : fresh n w ((Op.set n s, r) :: l) = true := by
  simp [fresh, isReport, h]

theorem fresh_cons_idle (hr : isReport w e = false)
    (h : closed n l = true ∨ ∀ s, e.1 ≠ Op.set n s) : fresh n w (e :: l) = fresh n w l := by
  obtain ⟨op, r⟩ := e
  cases op <;> simp [fresh, hr]
  case set m s =>
    rintro rfl hcl
    exact h.elim (fun h => by rw [hcl] at h; cases h) (fun h => absurd rfl (h s))

theorem lastReported_cons_report (w : Nat) (s : St) (l : Hist) :
    lastReported w ((Op.next w, Resp.value s) :: l) = some s := by
  simp [lastReported]

theorem lastReported_cons_other (h : isReport w e = false) (l : Hist) :
    lastReported w (e :: l) = lastReported w l := by
  rw [lastReported]
  split
  · next w' s h1 h2 =>
    refine if_neg fun hw => ?_
    rw [isReport_iff.mpr ⟨s, Prod.ext (hw ▸ h1) h2⟩] at h; cases h
  · rfl

theorem current_cons_set (h : Hist) (n m : Name) (st : St) (r : Resp) :
    current ((Op.set n st, r) :: h) m = if n = m then some st else current h m := rfl

theorem current_cons_clear (h : Hist) (n m : Name) (r : Resp) :
    current ((Op.clear n, r) :: h) m = if n = m then none else current h m := rfl

theorem current_cons_ne (h : Hist) (e : Ev) (n : Name)
    (hs : ∀ st, e.1 ≠ Op.set n st) (hc : e.1 ≠ Op.clear n) : current (e :: h) n = current h n := by
  obtain ⟨op, r⟩ := e
  cases op <;> try rfl
  case set m st => exact if_neg fun e => hs st (by rw [e])
  case clear m => exact if_neg fun e => hc (by rw [e])

theorem numWatches_cons_other (h : Hist) (e : Ev) (hw : ∀ n, e.1 ≠ Op.watch n) :
    numWatches (e :: h) = numWatches h := by
  obtain ⟨op, r⟩ := e
  cases op <;> try rfl
  case watch n => exact absurd rfl (hw n)

theorem numWatches_le_cons (e : Ev) (h : Hist) : numWatches h ≤ numWatches (e :: h) := by
  obtain ⟨op, r⟩ := e
  cases op <;> simp [numWatches]

theorem view_cons_watch (h : Hist) (n : Name) (r : Resp) (w : Nat) :
    view ((Op.watch n, r) :: h) w =
      if numWatches h = w then (current h n).map (fun s0 => ⟨n, s0, []⟩)
      else (view h w).map (·.push (Op.watch n, r)) := rfl

theorem view_cons_drop (h : Hist) (w' : Nat) (r : Resp) (w : Nat) :
    view ((Op.drop w', r) :: h) w =
      if w' = w then none else (view h w).map (·.push (Op.drop w', r)) := rfl

/-! ### what a view is, and how it grows -/

theorem view_cons_cases (hv : view (e :: h) w = some v) :
    (∃ n s0, e.1 = Op.watch n ∧ numWatches h = w ∧ current h n = some s0 ∧ v = ⟨n, s0, []⟩) ∨
    (∃ v', view h w = some v' ∧ v = v'.push e ∧ e.1 ≠ Op.drop w) := by
  have pushed (hd : e.1 ≠ Op.drop w) (hv : (view h w).map (·.push e) = some v) :
      ∃ v', view h w = some v' ∧ v = v'.push e ∧ e.1 ≠ Op.drop w := by
    obtain ⟨v', hv', rfl⟩ := Option.map_eq_some_iff.mp hv
    exact ⟨v', hv', rfl, hd⟩
  rw [view] at hv
  split at hv
  · next n he =>
    split at hv
    · next hw =>
      obtain ⟨s0, hc, rfl⟩ := Option.map_eq_some_iff.mp hv
      exact .inl ⟨n, s0, he, hw, hc, rfl⟩
    · exact .inr (pushed (by rw [he]; simp) hv)
  · next w' he =>
    split at hv
    · cases hv
    · next hne => exact .inr (pushed (by rw [he]; simpa using hne) hv)
  · next hd => exact .inr (pushed (hd w) hv)

theorem view_lt (hv : view h w = some v) : w < numWatches h := by
  induction h generalizing v with
  | nil => cases hv
  | cons e h ih =>
    rcases view_cons_cases hv with ⟨n, s0, he, hw, -⟩ | ⟨v', hv', -⟩
    · simp only [numWatches, he]; omega
    · exact Nat.lt_of_lt_of_le (ih hv') (numWatches_le_cons e h)

theorem view_push (hv : view h w = some v) (e : Ev)
    (hd : e.1 ≠ Op.drop w) : view (e :: h) w = some (v.push e) := by
  have hlt := view_lt hv
  rw [view]
  split
  · rw [if_neg (by omega), hv]; rfl
  · next w' he => rw [if_neg (fun e' => hd (by rw [he, e'])), hv]; rfl
  · rw [hv]; rfl

theorem view_none_cons (hv : view h w = none) (e : Ev)
    (hw : (∀ n, e.1 ≠ Op.watch n) ∨ numWatches h ≠ w) : view (e :: h) w = none := by
  rw [view]
  split
  · next n he => rw [if_neg (hw.resolve_left fun h => h n he), hv]; rfl
  · split
    · rfl
    · rw [hv]; rfl
  · rw [hv]; rfl

theorem view_sound (hv : view h w = some v) :
    ∃ h0 r, h = v.evs ++ (Op.watch v.name, r) :: h0 ∧ current h0 v.name = some v.start ∧
      numWatches h0 = w := by
  induction h generalizing v with
  | nil => cases hv
  | cons e h ih =>
    rcases view_cons_cases hv with ⟨n, s0, he, hw, hc, rfl⟩ | ⟨v', hv', rfl, -⟩
    · obtain ⟨op, r⟩ := e
      cases he
      exact ⟨h, r, rfl, hc, hw⟩
    · obtain ⟨h0, r, hh, hc, hw⟩ := ih hv'
      exact ⟨h0, r, by rw [hh]; rfl, hc, hw⟩

theorem view_log_evs (hv : view h w = some v) (q : List Op)
    (hq : ∀ op ∈ q, op ≠ Op.drop w) :
    ∃ v', view (log h q) w = some v' ∧ v'.name = v.name ∧ v'.start = v.start ∧
      v'.evs.map (·.1) = q.reverse ++ v.evs.map (·.1) := by
  induction q generalizing h v with
  | nil => exact ⟨v, hv, rfl, rfl, by simp⟩
  | cons op q ih =>
    obtain ⟨v', h1, h2, h3, h4⟩ := ih (view_push hv (op, expected h op) (hq op List.mem_cons_self))
      (fun o ho => hq o (List.mem_cons_of_mem _ ho))
    exact ⟨v', h1, h2, h3, by simp [h4, View.push]⟩

/-! ### streams with nothing to deliver -/

/-- Stream `w` has delivered something and its registration has not been updated since. -/
def Settled (w : Nat) (v : View) : Prop :=
  hasReported w v.evs = true ∧ fresh v.name w v.evs = false

theorem expected_next (hv : view h w = some v) :
    expected h (Op.next w) = expectedNext v w := by
  simp only [expected, hv]

theorem expectedNext_of_settled (hs : Settled w v) :
    expectedNext v w = if closed v.name v.evs then .ended else .pending := by
  simp [expectedNext, hs.1, hs.2]

theorem not_settled (hs : ¬ Settled w v) :
    hasReported w v.evs = false ∨ fresh v.name w v.evs = true := by
  cases h1 : hasReported w v.evs with
  | false => exact .inl rfl
  | true =>
    cases h2 : fresh v.name w v.evs with
    | false => exact absurd ⟨h1, h2⟩ hs
    | true => exact .inr rfl

theorem expectedNext_of_not_settled (hs : ¬ Settled w v) :
    expectedNext v w = .value (latest v.name v.start v.evs) :=
  if_pos (by rcases not_settled hs with h | h <;> simp [h])

theorem expectedNext_value {s : St} (h : expectedNext v w = .value s) :
    s = latest v.name v.start v.evs := by
  by_cases hs : Settled w v
  · rw [expectedNext_of_settled hs] at h; split at h <;> cases h
  · rw [expectedNext_of_not_settled hs] at h; cases h; rfl

theorem Settled.push (hs : Settled w v) (hr : isReport w e = false)
    (h : closed v.name v.evs = true ∨ ∀ s, e.1 ≠ Op.set v.name s) : Settled w (v.push e) :=
  ⟨by show hasReported w (e :: v.evs) = true; rw [hasReported_cons, hr, hs.1]; rfl,
   by show fresh v.name w (e :: v.evs) = false; rw [fresh_cons_idle hr h]; exact hs.2⟩

theorem settled_step (hv : view h w = some v) (hs : Settled w v)
    (op : Op) (hop : closed v.name v.evs = true ∨ ∀ st, op ≠ Op.set v.name st) :
    Settled w (v.push (op, expected h op)) := by
  refine hs.push ?_ hop
  by_cases hw : op = Op.next w
  · -- its own poll answers `pending` / `ended`, which is no delivery
    subst hw
    rw [expected_next hv, expectedNext_of_settled hs]
    cases closed v.name v.evs <;> rfl
  · exact isReport_of_ne hw

theorem settled_after_next (hv : view h w = some v) :
    Settled w (v.push (Op.next w, expected h (Op.next w))) := by
  by_cases hs : Settled w v
  · exact settled_step hv hs _ (.inr (by simp))
  · rw [expected_next hv, expectedNext_of_not_settled hs]
    have hr : isReport w (Op.next w, Resp.value (latest v.name v.start v.evs)) = true :=
      isReport_iff.mpr ⟨_, rfl⟩
    exact ⟨by show hasReported w (_ :: v.evs) = true; rw [hasReported_cons, hr]; rfl,
      fresh_cons_report hr _ _⟩

theorem expected_next_settled_log (hv : view h w = some v)
    (hs : Settled w v) (q : List Op) (hd : ∀ op ∈ q, op ≠ Op.drop w)
    (hname : closed v.name v.evs = false →
      ∀ op ∈ q, (∀ st, op ≠ Op.set v.name st) ∧ op ≠ Op.clear v.name) :
    expected (log h q) (Op.next w) = if closed v.name v.evs then .ended else .pending := by
  induction q generalizing h v with
  | nil => rw [log, expected_next hv, expectedNext_of_settled hs]
  | cons op q ih =>
    obtain ⟨hcl, hidle⟩ := closed_cons_quiet (e := (op, expected h op))
      fun hc => hname hc op List.mem_cons_self
    rw [← hcl]
    exact ih (view_push hv (op, expected h op) (hd op List.mem_cons_self))
      (settled_step hv hs op hidle) (fun o ho => hd o (List.mem_cons_of_mem _ ho))
      (fun hc o ho => hname (hcl.symm.trans hc) o (List.mem_cons_of_mem _ ho))

theorem allowed_expected (h : Hist) (op : Op)
    (hup : ∀ w v, view h w = some v → Settled w v →
      lastReported w v.evs = some (latest v.name v.start v.evs)) :
    allowed h op (expected h op) = true := by
  cases op with
  | next w =>
    cases hv : view h w with
    | none => simp [allowed, clauses, expected, hv]
    | some v =>
      simp only [allowed, clauses, expected, hv]
      by_cases hs : Settled w v
      · rw [expectedNext_of_settled hs]
        cases hcl : closed v.name v.evs <;> simp [upToDate, hup w v hv hs, hs.1]
      · rw [expectedNext_of_not_settled hs]
        rcases not_settled hs with h | h <;> simp [latest_mem_statuses, h]
  | _ => simp [allowed, clauses, expected]

/-! ### the status of a name along a run -/

theorem log_append (h : Hist) (a b : List Op) : log h (a ++ b) = log (log h a) b := by
  induction a generalizing h with
  | nil => rfl
  | cons op a ih => exact ih _

theorem current_log_quiet (n : Name) (h : Hist) (q : List Op)
    (hs : ∀ st, Op.set n st ∉ q) (hc : Op.clear n ∉ q) : current (log h q) n = current h n := by
  induction q generalizing h with
  | nil => rfl
  | cons op q ih =>
    rw [log, ih _ (fun st hm => hs st (List.mem_cons_of_mem _ hm)) (fun hm => hc (List.mem_cons_of_mem _ hm))]
    exact current_cons_ne _ _ _ (fun st e => hs st (e ▸ List.mem_cons_self))
      (fun e => hc (e ▸ List.mem_cons_self))

theorem current_log_none (n : Name) (h : Hist) (q : List Op) (hn : current h n = none)
    (hs : ∀ st, Op.set n st ∉ q) : current (log h q) n = none := by
  induction q generalizing h with
  | nil => exact hn
  | cons op q ih =>
    refine ih _ ?_ (fun st hm => hs st (List.mem_cons_of_mem _ hm))
    by_cases hc : op = Op.clear n
    · subst hc; exact if_pos rfl
    · rw [current_cons_ne _ _ _ (fun st e => hs st (e ▸ List.mem_cons_self)) hc]
      exact hn

end

end Health
