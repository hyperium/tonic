import TonicModel.Lemmas.Balance
/-
Load-balanced channel (C14): one whole call (with an endpoint in the channel it gets a result of
its own), the script's own steps, whole scripts, and what every state a script leads to has: lazy
endpoints, parked errors only in idle connections, pairwise different keys, and no endpoint lost
except by `Change::Remove`.
-/
namespace Balance
open ConnScript BalScript Reconnect

/-- who is in the channel: the keys with their membership flag, in list order -/
def table (eps : List EP) : List (Nat × Bool) := eps.map fun e => (e.key, e.member)

theorem members_table (eps : List EP) : members eps = ((table eps).filter (·.2)).length := by
  rw [table, List.filter_map, List.length_map]
  rfl

theorem members_zero (eps : List EP) : members eps = 0 ↔ ∀ e ∈ eps, e.member = false := by
  simp [members, List.filter_eq_nil_iff]

theorem ev_key {a b : EP} (h : Ev a b) : b.key = a.key :=
  Ev.keeps (P := fun b => b.key = a.key) (fun e he => by rw [advance_key]; exact he)
    (fun e he => by rw [tryOne_key]; exact he) (fun e he => he) h rfl

theorem ev_lz {a b : EP} (h : Ev a b) (ha : Lz a) : Lz b ∧ b.member = a.member := by
  refine Ev.keeps (P := fun b => Lz b ∧ b.member = a.member) ?_ ?_ ?_ h ⟨ha, rfl⟩
  · rintro e ⟨hl, hm⟩
    exact ⟨(advance_lz e hl).1, (advance_lz e hl).2.trans hm⟩
  · rintro e ⟨hl, hm⟩
    exact ⟨(tryOne_lz e hl).1, (tryOne_lz e hl).2.trans hm⟩
  · exact fun _ h => h

theorem pw_lz {as bs : List EP} (h : PW as bs) (ha : ∀ e ∈ as, Lz e) : ∀ e ∈ bs, Lz e :=
  h.forall (fun _ _ ev hl => (ev_lz ev hl).1) ha

theorem pw_table {as bs : List EP} (h : PW as bs) (ha : ∀ e ∈ as, Lz e) : table bs = table as := by
  unfold table
  exact h.map_eq (P := Lz) (fun a b ev hl => by rw [ev_key ev, (ev_lz ev hl).2]) ha

theorem pw_members {as bs : List EP} (h : PW as bs) (ha : ∀ e ∈ as, Lz e) : members bs = members as := by
  rw [members_table, members_table, pw_table h ha]

/-! ### one call -/

theorem call_lz (s : B) (ch : Choice) (h : ∀ e ∈ s.eps, Lz e) : ∀ e ∈ (call s ch).1.eps, Lz e :=
  pw_lz (call_pw s ch) h

theorem call_table (s : B) (ch : Choice) (h : ∀ e ∈ s.eps, Lz e) : table (call s ch).1.eps = table s.eps :=
  pw_table (call_pw s ch) h

theorem call_lazyEps (s : B) (ch : Choice) : (call s ch).1.lazyEps = s.lazyEps := by
  unfold call; split
  · rfl
  · split <;> rfl

/-- With at least one endpoint in the channel, a call gets a result of its own: if the first round
of draws serves nothing, every endpoint is left with an attempt in flight; the second poll finds
them all ready to serve, so a second round that serves nothing would leave no endpoint at all. -/
theorem call_definite (s : B) (ch : Choice) (h : ∀ e ∈ s.eps, Lz e) (hm : 0 < members s.eps) :
    (call s ch).2.definite = true := by
  unfold call
  split
  · rename_i r hr
    exact phase_definite _ _ r hr
  · rename_i hr
    have h2 := phase_unserved (fun _ => LazyNear.tried) _ ch.tries (pass_ln s.eps h) hr
    split
    · rename_i r hr2
      exact phase_definite _ _ r hr2
    · rename_i hr2
      have h4 := phase_unserved (fun _ => Servable.tried) _ [ch.final] (fun e he => (pass_rs _ h2 e he).2) hr2
      have hz : members (phase (pass (phase (pass s.eps) ch.tries).1) [ch.final]).1 = 0 :=
        (members_zero _).2 fun e he => by
          cases hme : e.member
          · rfl
          · exact absurd ((h4 e he).1 hme).1 (by rw [(h4 e he).2 hme]; exact Bool.noConfusion)
      rw [pw_members ((((pass_pw _).trans (phase_pw _ _)).trans (pass_pw _)).trans (phase_pw _ _)) h] at hz
      omega

theorem calls_definite (chs : List Choice) : ∀ (s : B), (∀ e ∈ s.eps, Lz e) → 0 < members s.eps →
    ∀ r ∈ calls s chs, r.definite = true := by
  induction chs with
  | nil => intro s _ _ r hr; simp [calls] at hr
  | cons ch chs ih =>
    intro s h hm r hr
    simp only [calls, List.mem_cons] at hr
    rcases hr with rfl | hr
    · exact call_definite s ch h hm
    · exact ih _ (call_lz s ch h) (by rw [pw_members (call_pw s ch) h]; exact hm) r hr

/-! ### nothing ready: the call waits -/

theorem tryKey_none_ready (k : Nat) (eps : List EP) (h : ∀ e ∈ eps, (e.member && e.ready) = false) :
    tryKey k eps = (eps, none) := by
  induction eps with
  | nil => rfl
  | cons a as ih =>
    unfold tryKey
    have ha := h a List.mem_cons_self
    have : (decide (a.key = k) && a.member && a.ready) = false := by
      rw [Bool.and_assoc, ha, Bool.and_false]
    simp [this, ih (fun x hx => h x (List.mem_cons_of_mem _ hx))]

theorem tryKeys_none_ready (ks : List Nat) (eps : List EP) (h : ∀ e ∈ eps, (e.member && e.ready) = false) :
    tryKeys eps ks = (eps, none) := by
  induction ks with
  | nil => rfl
  | cons k ks ih => unfold tryKeys; simp [tryKey_none_ready k eps h, ih]

theorem sweep_none_ready (eps : List EP) (h : ∀ e ∈ eps, (e.member && e.ready) = false) :
    sweep eps = (eps, none) := by
  induction eps with
  | nil => rfl
  | cons a as ih =>
    unfold sweep
    have ha := h a List.mem_cons_self
    simp [ha, ih (fun x hx => h x (List.mem_cons_of_mem _ hx))]

theorem phase_none_ready (ks : List Nat) (eps : List EP) (h : ∀ e ∈ eps, (e.member && e.ready) = false) :
    phase eps ks = (eps, none) := by
  unfold phase; simp [tryKeys_none_ready ks eps h, sweep_none_ready eps h]

theorem pass_no_member (eps : List EP) (h : ∀ e ∈ eps, e.member = false) : pass eps = eps := by
  unfold pass
  conv => rhs; rw [← List.map_id eps]
  apply List.map_congr_left
  intro a ha
  simp [h a ha]

theorem call_none_ready (s : B) (ch : Choice) (h1 : ∀ e ∈ pass s.eps, (e.member && e.ready) = false)
    (h2 : ∀ e ∈ pass (pass s.eps), (e.member && e.ready) = false) :
    call s ch = ({ s with eps := settle (pass (pass s.eps)) }, .hang) := by
  unfold call
  simp only [phase_none_ready _ _ h1, phase_none_ready _ _ h2]

theorem call_no_member (s : B) (ch : Choice) (h : members s.eps = 0) : (call s ch).2 = .hang := by
  have hm := (members_zero s.eps).1 h
  have hp := pass_no_member s.eps hm
  have hr : ∀ e ∈ s.eps, (e.member && e.ready) = false := fun e he => by rw [hm e he]; rfl
  rw [call_none_ready s ch (by rw [hp]; exact hr) (by rw [hp, hp]; exact hr)]

/-! ### the script's own steps -/

theorem blank_lz (k : Nat) : Lz (blank k) := by simp [Lz, blank]

theorem blank_gd (k : Nat) : Gd (blank k) := by simp [Gd, Good, blank, R.init]

theorem ensure_forall {P : EP → Prop} (k : Nat) (eps : List EP) (hb : P (blank k)) (h : ∀ e ∈ eps, P e) :
    ∀ e ∈ ensure k eps, P e := by
  unfold ensure
  split
  · exact h
  · intro e he
    rcases List.mem_append.1 he with he | he
    · exact h e he
    · rw [List.mem_singleton.1 he]; exact hb

theorem onKey_forall {P : EP → Prop} (k : Nat) (f : EP → EP) (eps : List EP) (h : ∀ e ∈ eps, P e)
    (hf : ∀ e, P e → P (f e)) : ∀ e ∈ onKey k f eps, P e := by
  intro e he
  simp only [onKey, List.mem_map] at he
  obtain ⟨a, ha, rfl⟩ := he
  split
  · exact hf a (h a ha)
  · exact h a ha

theorem onKey_map {α} (g : EP → α) (k : Nat) (f : EP → EP) (hf : ∀ e, g (f e) = g e) (eps : List EP) :
    (onKey k f eps).map g = eps.map g := by
  rw [onKey, List.map_map]
  refine List.map_congr_left fun e _ => ?_
  show g (if e.key = k then f e else e) = g e
  split
  · exact hf e
  · rfl

theorem env_forall {P : EP → Prop} (s : B) (op : BOp) (hb : ∀ k, P (blank k))
    (hw : ∀ e w, P e → P { e with w := w }) (hi : ∀ e, P (inserted s.lazyEps e))
    (hr : ∀ e, P e → P (removed e)) (h : ∀ e ∈ s.eps, P e) : ∀ e ∈ (env s op).eps, P e := by
  cases op with
  | up k => exact onKey_forall k _ _ (ensure_forall k _ (hb k) h) fun e => hw e _
  | down k => exact onKey_forall k _ _ (ensure_forall k _ (hb k) h) fun e => hw e _
  | insert k => exact onKey_forall k _ _ (ensure_forall k _ (hb k) h) fun e _ => hi e
  | remove k => exact onKey_forall k _ _ (ensure_forall k _ (hb k) h) hr
  | call => exact h

theorem env_lz (s : B) (op : BOp) (hl : s.lazyEps = true) (h : ∀ e ∈ s.eps, Lz e) :
    ∀ e ∈ (env s op).eps, Lz e :=
  env_forall s op blank_lz (fun _ _ he => he) (fun e => by simp [Lz, inserted, R.init, hl])
    (fun e _ => by simp [Lz, removed]) h

theorem env_lazyEps (s : B) (op : BOp) : (env s op).lazyEps = s.lazyEps := by
  cases op <;> rfl

/-! ### whole scripts -/

theorem exec_keeps {P : B → Prop} (hc : ∀ s ch, P s → P (call s ch).1) (he : ∀ s op, P s → P (env s op))
    (ops : List BOp) : ∀ (s : B) (chs : List Choice), P s → P (exec s ops chs) := by
  induction ops with
  | nil => intro s chs h; exact h
  | cons op ops ih =>
    intro s chs h
    cases op with
    | call => exact ih _ _ (hc s _ h)
    | _ => exact ih (env s _) chs (he s _ h)

def LazyB (s : B) : Prop := s.lazyEps = true ∧ ∀ e ∈ s.eps, Lz e

theorem LazyB.call {s : B} (ch : Choice) (h : LazyB s) : LazyB (call s ch).1 :=
  ⟨by rw [call_lazyEps]; exact h.1, call_lz s ch h.2⟩

theorem LazyB.env {s : B} (op : BOp) (h : LazyB s) : LazyB (env s op) :=
  ⟨by rw [env_lazyEps]; exact h.1, env_lz s op h.1 h.2⟩

theorem exec_lz (ops : List BOp) (s : B) (chs : List Choice) (hl : s.lazyEps = true) (h : ∀ e ∈ s.eps, Lz e) :
    (exec s ops chs).lazyEps = true ∧ ∀ e ∈ (exec s ops chs).eps, Lz e :=
  exec_keeps (P := LazyB) (fun _ ch => LazyB.call ch) (fun _ op => LazyB.env op) ops s chs ⟨hl, h⟩

theorem run_prefix_runAll (ops : List BOp) : ∀ (s : B) (chs : List Choice),
    run s ops chs <+: runAll s ops chs := by
  induction ops with
  | nil => intro s chs; simp [run, runAll]
  | cons op ops ih =>
    intro s chs
    cases op with
    | call =>
      simp only [run, runAll]
      split
      · exact List.prefix_cons_inj _ |>.2 (List.nil_prefix)
      · exact List.prefix_cons_inj _ |>.2 (ih _ _)
    | _ => simpa [run, runAll] using ih (env s _) chs

theorem runAll_keeps {P : B → Prop} {Q : Nat × BRes → Prop} (hc : ∀ s ch, P s → P (call s ch).1)
    (he : ∀ s op, P s → P (env s op)) (hq : ∀ s ch, P s → Q (members s.eps, (call s ch).2))
    (ops : List BOp) : ∀ (s : B) (chs : List Choice), P s → ∀ p ∈ runAll s ops chs, Q p := by
  induction ops with
  | nil => intro s chs _ p hp; cases hp
  | cons op ops ih =>
    intro s chs h p hp
    cases op with
    | call =>
      rcases List.mem_cons.1 hp with rfl | hp
      · exact hq s _ h
      · exact ih _ _ (hc s _ h) p hp
    | _ => exact ih (env s _) chs (he s _ h) p hp

theorem runAll_definite (ops : List BOp) (s : B) (chs : List Choice) (hl : s.lazyEps = true)
    (h : ∀ e ∈ s.eps, Lz e) : ∀ p ∈ runAll s ops chs, 0 < p.1 → p.2.definite = true :=
  runAll_keeps (P := LazyB) (fun _ ch => LazyB.call ch) (fun _ op => LazyB.env op)
    (fun s ch h => call_definite s ch h.2) ops s chs ⟨hl, h⟩

theorem run_definite (ops : List BOp) : ∀ (s : B) (chs : List Choice), s.lazyEps = true → (∀ e ∈ s.eps, Lz e) →
    ∀ p ∈ run s ops chs, 0 < p.1 → p.2.definite = true :=
  fun s chs hl h p hp => runAll_definite ops s chs hl h p ((run_prefix_runAll ops s chs).subset hp)

/-! ### what every reachable state has: parked errors sit in idle connections, keys differ -/

theorem ev_gd {a b : EP} (h : Ev a b) (ha : Gd a) : Gd b :=
  Ev.keeps advance_gd tryOne_gd (fun _ hx => hx) h ha

theorem pw_gd {as bs : List EP} (h : PW as bs) (ha : ∀ e ∈ as, Gd e) : ∀ e ∈ bs, Gd e :=
  h.forall (fun _ _ => ev_gd) ha

theorem env_gd (s : B) (op : BOp) (h : ∀ e ∈ s.eps, Gd e) : ∀ e ∈ (env s op).eps, Gd e :=
  env_forall s op blank_gd (fun _ _ he => he)
    (fun e => by simp [Gd, Good, inserted, R.init]) (fun _ he => he) h

theorem exec_gd (ops : List BOp) (s : B) (chs : List Choice) (h : ∀ e ∈ s.eps, Gd e) :
    ∀ e ∈ (exec s ops chs).eps, Gd e :=
  exec_keeps (fun s ch h => pw_gd (call_pw s ch) h) env_gd ops s chs h

theorem pw_keys {as bs : List EP} (h : PW as bs) : bs.map (·.key) = as.map (·.key) :=
  h.map_eq (P := fun _ => True) (fun _ _ ev _ => ev_key ev) (fun _ _ => trivial)

theorem keys_ensure_nodup (k : Nat) (eps : List EP) (hn : (eps.map (·.key)).Nodup) :
    ((ensure k eps).map (·.key)).Nodup := by
  unfold ensure
  split
  · exact hn
  · rename_i hany
    simp only [List.map_append, List.map_cons, List.map_nil]
    rw [List.nodup_append]
    refine ⟨hn, by simp, ?_⟩
    intro a ha b hb
    simp only [List.mem_singleton] at hb
    subst hb
    intro hab
    apply hany
    simp only [List.any_eq_true, decide_eq_true_eq]
    obtain ⟨e, he, hk⟩ := List.mem_map.1 ha
    exact ⟨e, he, by rw [hk, hab]⟩

theorem env_keys_nodup (s : B) (op : BOp) (hn : (s.eps.map (·.key)).Nodup) :
    ((env s op).eps.map (·.key)).Nodup := by
  cases op with
  | call => exact hn
  | _ =>
    simp only [env]
    rw [onKey_map (·.key)]
    · exact keys_ensure_nodup _ _ hn
    · intro e; rfl

theorem exec_keys_nodup (ops : List BOp) (s : B) (chs : List Choice) (h : (s.eps.map (·.key)).Nodup) :
    ((exec s ops chs).eps.map (·.key)).Nodup :=
  exec_keeps (P := fun s => (s.eps.map (·.key)).Nodup)
    (fun s ch h => by rw [pw_keys (call_pw s ch)]; exact h) env_keys_nodup ops s chs h

/-! ### who is in the channel -/

/-- the keys of the endpoints in the channel, in list order -/
def memberKeys (eps : List EP) : List Nat := (eps.filter (·.member)).map (·.key)

theorem memberKeys_table (eps : List EP) : memberKeys eps = ((table eps).filter (·.2)).map (·.1) := by
  rw [table, List.filter_map, List.map_map]
  rfl

theorem call_memberKeys (s : B) (ch : Choice) (h : ∀ e ∈ s.eps, Lz e) :
    memberKeys (call s ch).1.eps = memberKeys s.eps := by
  rw [memberKeys_table, memberKeys_table, call_table s ch h]

theorem memberKeys_ensure (k : Nat) (eps : List EP) : memberKeys (ensure k eps) = memberKeys eps := by
  unfold ensure
  split
  · rfl
  · simp [memberKeys, List.filter_append, blank]

theorem memberKeys_onKey (k : Nat) (f : EP → EP) (eps : List EP)
    (hf : ∀ e, ((f e).key, (f e).member) = (e.key, e.member)) :
    memberKeys (onKey k f eps) = memberKeys eps := by
  rw [memberKeys_table, memberKeys_table, table, table, onKey_map _ k f hf]

theorem env_up_memberKeys (s : B) (k : Nat) : memberKeys (env s (.up k)).eps = memberKeys s.eps := by
  simp only [env]
  rw [memberKeys_onKey k (fun e => { e with w := e.w.setUp }) _ (fun _ => rfl), memberKeys_ensure]

theorem env_down_memberKeys (s : B) (k : Nat) : memberKeys (env s (.down k)).eps = memberKeys s.eps := by
  simp only [env]
  rw [memberKeys_onKey k (fun e => { e with w := e.w.setDown }) _ (fun _ => rfl), memberKeys_ensure]

theorem mem_memberKeys (k : Nat) (eps : List EP) : k ∈ memberKeys eps ↔ ∃ e ∈ eps, e.key = k ∧ e.member = true := by
  simp only [memberKeys, List.mem_map, List.mem_filter]
  constructor
  · rintro ⟨e, ⟨he, hm⟩, hk⟩; exact ⟨e, he, hk, hm⟩
  · rintro ⟨e, he, hk, hm⟩; exact ⟨e, ⟨he, hm⟩, hk⟩

theorem ensure_has (k : Nat) (eps : List EP) : ∃ e ∈ ensure k eps, e.key = k := by
  unfold ensure
  split
  · rename_i h
    simp only [List.any_eq_true, decide_eq_true_eq] at h
    exact h
  · exact ⟨blank k, by simp, rfl⟩

theorem env_insert_memberKeys (s : B) (k : Nat) : k ∈ memberKeys (env s (.insert k)).eps := by
  rw [mem_memberKeys]
  obtain ⟨e, he, hk⟩ := ensure_has k s.eps
  refine ⟨inserted s.lazyEps e, ?_, by simp [inserted, hk], by simp [inserted]⟩
  simp only [env, onKey, List.mem_map]
  exact ⟨e, he, by simp [hk]⟩

theorem env_remove_memberKeys (s : B) (k : Nat) : k ∉ memberKeys (env s (.remove k)).eps := by
  rw [mem_memberKeys]
  rintro ⟨e, he, hk, hm⟩
  simp only [env, onKey, List.mem_map] at he
  obtain ⟨a, _, rfl⟩ := he
  split at hk <;> rename_i hc
  · simp [hc, removed] at hm
  · exact hc hk

end Balance
