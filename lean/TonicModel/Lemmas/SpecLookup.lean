import TonicModel.Lemmas.SpecWire
/-
Field lookups of the spec decoder evaluated on the record lists of the model's encoders: the
occurrences of field number `1 + i` are the records of the `i`-th field.
-/
namespace SpecWire
open PbWire Spec.RichError

theorem occurrences_append (n : Nat) (a b : List (Nat × Wire)) :
    occurrences n (a ++ b) = occurrences n a ++ occurrences n b := by simp [occurrences]

theorem occurrences_nil (n : Nat) : occurrences n [] = [] := rfl

theorem occurrences_tagged (n : Nat) (ws : List Wire) : occurrences n (ws.map (n, ·)) = ws := by
  induction ws with
  | nil => rfl
  | cons w ws ih => simp only [occurrences] at ih ⊢; simp [ih]

theorem occurrences_of_ne (n : Nat) (recs : List (Nat × Wire)) (h : ∀ x ∈ recs, x.1 ≠ n) :
    occurrences n recs = [] := by
  rw [occurrences, List.filter_eq_nil_iff.mpr fun x hx => by simpa using h x hx, List.map_nil]

theorem occurrences_recsL2From (s : List F2) : ∀ (v : List V2) (t i : Nat) (f : F2) (x : V2),
    s[i]? = some f → v[i]? = some x → occurrences (t + i) (recsL2From t s v) = wires f x := by
  induction s with
  | nil => intro v t i f x hf; simp at hf
  | cons f0 fs ih =>
    intro v t i f x hf hx
    cases v with
    | nil => simp at hx
    | cons x0 xs =>
      rw [recsL2From, occurrences_append]
      cases i with
      | zero =>
        cases hf; cases hx
        rw [Nat.add_zero, occurrences_tagged,
          occurrences_of_ne _ _ fun y hy => by have := (shape_l2 fs (t + 1) xs y hy).1; omega,
          List.append_nil]
      | succ i =>
        rw [occurrences_of_ne _ _ fun y hy => by obtain ⟨w, _, rfl⟩ := List.mem_map.mp hy; simp,
          List.nil_append, ← Nat.add_assoc, Nat.add_right_comm]
        exact ih xs (t + 1) i f x hf hx

theorem mapM_asLen (l : List Bytes) : (l.map Wire.len).mapM asLen = some l := by
  induction l with
  | nil => rfl
  | cons a l ih => simp [List.mapM_cons, asLen, ih]

section
variable (s : List F2) (v : List V2) (i : Nat)

theorem repeatedLen_recsL2 (f : F2) (x : V2) (l : List Bytes) (hf : s[i]? = some f)
    (hx : v[i]? = some x) (hw : wires f x = l.map .len) :
    repeatedLen (1 + i) (recsL2From 1 s v) = some l := by
  rw [repeatedLen, occurrences_recsL2From s v 1 i f x hf hx, hw, mapM_asLen]

theorem stringField_recsL2 (b : Bytes) (hf : s[i]? = some (.sc .str)) (hx : v[i]? = some (.sc (.b b)))
    (hv : Utf8Rust.valid b = true) : stringField (1 + i) (recsL2From 1 s v) = some b := by
  by_cases hb : b = []
  · simp [stringField, repeatedLen_recsL2 s v i _ _ [] hf hx (by simp [wires, wireOf, hb]), hb]
  · simp [stringField, repeatedLen_recsL2 s v i _ _ [b] hf hx (by simp [wires, wireOf, hb]), hv]

theorem bytesField_recsL2 (b : Bytes) (hf : s[i]? = some (.sc .bytes)) (hx : v[i]? = some (.sc (.b b))) :
    bytesField (1 + i) (recsL2From 1 s v) = some b := by
  by_cases hb : b = []
  · simp [bytesField, repeatedLen_recsL2 s v i _ _ [] hf hx (by simp [wires, wireOf, hb]), hb]
  · simp [bytesField, repeatedLen_recsL2 s v i _ _ [b] hf hx (by simp [wires, wireOf, hb])]

theorem repeatedString_recsL2 (l : List Bytes) (hf : s[i]? = some .repStr) (hx : v[i]? = some (.repStr l))
    (hv : ∀ b ∈ l, Utf8Rust.valid b = true) : repeatedString (1 + i) (recsL2From 1 s v) = some l := by
  have : l.all Utf8Rust.valid = true := by simpa [List.all_eq_true] using hv
  simp [repeatedString, repeatedLen_recsL2 s v i _ _ l hf hx rfl, this]

theorem varintField_recsL2 (k : Sc) (x : Int) (hk : k = .i32 ∨ k = .i64) (hf : s[i]? = some (.sc k))
    (hx : v[i]? = some (.sc (.i x))) : varintField (1 + i) (recsL2From 1 s v) = some (u64OfInt x) := by
  rw [varintField, occurrences_recsL2From s v 1 i _ _ hf hx]
  by_cases h0 : x = 0 <;> rcases hk with rfl | rfl <;> simp [wires, wireOf, h0, asVarint, u64OfInt]

theorem messageField_recsL2 (sf : Flat) (o : Option (List SV)) (hf : s[i]? = some (.optFlat sf))
    (hx : v[i]? = some (.optFlat o)) :
    messageField (1 + i) (recsL2From 1 s v) = some (o.map (encFlat sf)) := by
  cases o with
  | none => simp [messageField, repeatedLen_recsL2 s v i _ _ [] hf hx rfl]
  | some y => simp [messageField, repeatedLen_recsL2 s v i _ _ [encFlat sf y] hf hx rfl]

end

end SpecWire
