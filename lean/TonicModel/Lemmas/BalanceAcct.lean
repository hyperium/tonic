import TonicModel.Lemmas.Balance
/-
Load-balanced channel (C14): accounting over one call and over calls in a row, for an arbitrary
weight on endpoints that no step of a call increases.  `Lemmas/BalanceDebt.lean` instantiates it
with the failures the endpoints hold, all of them and those of one endpoint.
-/
namespace Balance
open ConnScript BalScript Reconnect

/-- a weight on endpoints that no step of a call increases, and that a counted result uses up -/
structure Acct where
  w : EP → Nat
  f : Option BRes → Nat
  I : EP → Prop
  f_none : f none = 0
  adv : ∀ e, I e → w (advance e) ≤ w e ∧ I (advance e)
  tri : ∀ e, I e → w (tryOne e).1 + f (tryOne e).2 ≤ w e ∧ I (tryOne e).1
  set : ∀ e, I e → w { e with fresh := false } ≤ w e ∧ I { e with fresh := false }

def Acct.total (A : Acct) (eps : List EP) : Nat := (eps.map A.w).sum

theorem Acct.total_cons (A : Acct) (a : EP) (as : List EP) : A.total (a :: as) = A.w a + A.total as :=
  List.sum_cons

theorem Acct.ev (A : Acct) {a b : EP} (h : Ev a b) (ha : A.I a) : A.w b ≤ A.w a ∧ A.I b := by
  induction h with
  | refl => exact ⟨Nat.le_refl _, ha⟩
  | polled _ ih => exact ⟨Nat.le_trans (A.adv _ ih.2).1 ih.1, (A.adv _ ih.2).2⟩
  | tried _ ih => exact ⟨Nat.le_trans (Nat.le_of_add_right_le (A.tri _ ih.2).1) ih.1, (A.tri _ ih.2).2⟩
  | settled _ ih => exact ⟨Nat.le_trans (A.set _ ih.2).1 ih.1, (A.set _ ih.2).2⟩

theorem Acct.drawn (A : Acct) {o : Option BRes} {as bs : List EP} (h : Drawn o as bs) (ha : ∀ e ∈ as, A.I e) :
    A.total bs + A.f o ≤ A.total as ∧ ∀ e ∈ bs, A.I e := by
  induction h with
  | nil => exact ⟨Nat.le_of_eq (congrArg _ A.f_none), ha⟩
  | cons e _ ih =>
    obtain ⟨ha, has⟩ := List.forall_mem_cons.1 ha
    have hb := A.ev e ha
    have := ih has
    rw [A.total_cons, A.total_cons]
    exact ⟨by omega, List.forall_mem_cons.2 ⟨hb.2, this.2⟩⟩
  | here e hr _ ih =>
    obtain ⟨ha, has⟩ := List.forall_mem_cons.1 ha
    have hb := A.ev e ha
    have ht := A.tri _ hb.2
    rw [hr] at ht
    have := ih has
    rw [A.total_cons, A.total_cons]
    exact ⟨by omega, List.forall_mem_cons.2 ⟨ht.2, this.2⟩⟩

theorem Acct.pw (A : Acct) {as bs : List EP} (h : PW as bs) (ha : ∀ e ∈ as, A.I e) :
    A.total bs ≤ A.total as ∧ ∀ e ∈ bs, A.I e := by
  have := A.drawn h ha
  rwa [A.f_none] at this

theorem Acct.settle (A : Acct) (eps : List EP) (h : ∀ e ∈ eps, A.I e) :
    A.total (settle eps) ≤ A.total eps ∧ ∀ e ∈ settle eps, A.I e :=
  A.pw (settle_pw eps) h

/-- One call, for a weight that counts nothing for a hang (the one result no endpoint served). -/
theorem Acct.call (A : Acct) (h0 : A.f (some .hang) = 0) (s : B) (ch : Choice) (h : ∀ e ∈ s.eps, A.I e) :
    A.total (call s ch).1.eps + A.f (some (call s ch).2) ≤ A.total s.eps ∧ ∀ e ∈ (call s ch).1.eps, A.I e := by
  by_cases hh : (Balance.call s ch).2 = .hang
  · rw [hh, h0]
    exact A.pw (call_pw s ch) h
  · obtain ⟨mid, sa, he⟩ := call_servedAt s ch hh
    have h1 := A.drawn sa h
    have h2 := A.settle mid h1.2
    rw [he]
    exact ⟨by omega, h2.2⟩

theorem Acct.calls (A : Acct) (h0 : A.f (some .hang) = 0) (chs : List Choice) : ∀ (s : B), (∀ e ∈ s.eps, A.I e) →
    ((calls s chs).map fun r => A.f (some r)).sum ≤ A.total s.eps := by
  induction chs with
  | nil => intro s _; simp [Balance.calls]
  | cons ch chs ih =>
    intro s h
    have hc := A.call h0 s ch h
    have := ih _ hc.2
    simp only [Balance.calls, List.map_cons, List.sum_cons]
    omega

end Balance
