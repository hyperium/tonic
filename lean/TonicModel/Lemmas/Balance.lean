import TonicModel.Model.Balance
import TonicModel.Lemmas.Reconnect
/-
Load-balanced channel (C14, `Model/Balance.lean`).  One endpoint first: what a poll (`advance`), a
call (`serveEP`) and a pick (`tryOne`) do to what the endpoint holds (`H`, `D`) and to the
invariants `Lz`, `Gd`.  Then the endpoint list (`Drawn`): every step of a call is a pointwise
evolution (`PW`); a call that is served is served at one place of it (`ServedAt`); a round of draws
that serves nothing keeps what an unserved pick keeps — which is why two rounds suffice.
-/
namespace Balance
open ConnScript BalScript Reconnect

/-- `Lz` for "lazy": the endpoint's `Connection` is what `discover.rs` builds (lazy) and still usable -/
def Lz (e : EP) : Prop := e.member = true → e.r.isLazy = true ∧ e.r.st ≠ .spent

/-- one more poll makes it ready: it is ready, or an attempt is in flight -/
def Near (e : EP) : Prop :=
  e.member = true → e.ready = true ∨ (e.r.st = .connecting ∧ e.r.error = none)

/-- `Good` of the endpoint's `Reconnect`: a parked connect error sits in an idle state machine -/
def Gd (e : EP) : Prop := Good e.r

/-- `H` for "holds": the endpoint holds a failure that the call picking it now would get — a parked
connect error, an attempt in flight that will not give a live connection, or a connection made
during this call whose peer is already gone -/
def H (e : EP) : Prop :=
  e.r.error.isSome = true ∨
  (e.r.st = .connecting ∧ ¬(e.flight = true ∧ e.w.alive = some e.r.made)) ∨
  (∃ c, e.r.st = .connected c ∧ e.w.alive ≠ some c ∧ e.fresh = true)

/-- `D` for "dead peer": an attempt that was accepted, or a connection just established, whose peer
has gone (the part of `H` that needs a server to have been stopped) -/
def D (e : EP) : Prop :=
  (e.r.st = .connecting ∧ e.flight = true ∧ e.w.alive ≠ some e.r.made) ∨
  (∃ c, e.r.st = .connected c ∧ e.w.alive ≠ some c ∧ e.fresh = true)

theorem D.toH {e : EP} (h : D e) : H e :=
  h.elim (fun ⟨hs, _, ha⟩ => .inr (.inl ⟨hs, fun hn => ha hn.2⟩)) (fun h => .inr (.inr h))

theorem settle_H {e : EP} : H { e with fresh := false } → H e := by
  rintro (h | h | ⟨c, _, _, h⟩)
  · exact .inl h
  · exact .inr (.inl h)
  · cases h

theorem settle_D {e : EP} : D { e with fresh := false } → D e := by
  rintro (h | ⟨c, _, _, h⟩)
  · exact .inl h
  · cases h

/-- the state in which `poll_ready` says ready: a parked error to hand out, or a connection whose
peer is there or has not been looked at yet -/
def Ripe (e : EP) : Prop :=
  e.r.error.isSome = true ∨ ∃ c, e.r.st = .connected c ∧ (e.w.alive = some c ∨ e.fresh = true)

/-- a result a caller can take: a response or an error of its own -/
def BRes.definite : BRes → Bool
  | .resp _ _ => true
  | .err _ _ => true
  | .lost _ => true
  | .hang => false
  | .panic => false

def BRes.failed : BRes → Bool
  | .resp _ _ => false
  | _ => true

/-- what a result says about the endpoint `a` that produced it -/
def BRes.servedBy (a : EP) : BRes → Prop
  | .resp k g => k = a.key ∧ g = a.w.gen ∧ a.w.alive.isSome = true
  | .err k _ => k = a.key ∧ H a
  | .lost k => k = a.key ∧ H a ∧ D a
  | .hang => False
  | .panic => False

theorem BRes.servedBy.definite {a : EP} {r : BRes} (h : r.servedBy a) : r.definite = true := by
  cases r <;> first | rfl | exact h.elim

/-! ### one poll

What `advance` leaves alone can be read off its definition; what depends on the arm taken goes
through `adv` (`fun_cases adv e`: one goal per arm, the arm's guards as hypotheses). -/

theorem advance_key (e : EP) : (advance e).key = e.key := rfl

theorem advance_member_le (e : EP) (h : (advance e).member = true) : e.member = true :=
  (Bool.and_eq_true _ _ ▸ h).1

theorem advance_gd (e : EP) (h : Gd e) : Gd (advance e) := pollReady_good e.r (answers e) h

theorem advance_w (e : EP) :
    (advance e).w = e.w ∨ e.w.up = true ∧ ∃ n, (advance e).w = { e.w with alive := some n } := by
  show (if _ ∧ e.w.up = true then _ else e.w) = e.w ∨ _ ∧ ∃ n, (if _ ∧ e.w.up = true then _ else e.w) = _
  split
  · rename_i h; exact .inr ⟨h.2, _, rfl⟩
  · exact .inl rfl

theorem advance_up (e : EP) : (advance e).w.up = e.w.up := by
  rcases advance_w e with h | ⟨_, n, h⟩ <;> rw [h]

theorem advance_gen (e : EP) : (advance e).w.gen = e.w.gen := by
  rcases advance_w e with h | ⟨_, n, h⟩ <;> rw [h]

theorem advance_aliveUp (e : EP) (h : e.w.alive.isSome = true → e.w.up = true) :
    (advance e).w.alive.isSome = true → (advance e).w.up = true := by
  rw [advance_up]
  rcases advance_w e with hw | ⟨hu, _⟩
  · rw [hw]; exact h
  · exact fun _ => hu

/-- `advance`, spelled out state by state. -/
def adv (e : EP) : EP :=
  match e.r.error with
  | some _ => { e with ready := true }
  | none =>
    match e.r.st with
    | .idle =>
      { e with r := { e.r with st := .connecting, made := e.r.made + 1 }, ready := false, flight := e.w.up,
               w := if e.w.up = true then { e.w with alive := some (e.r.made + 1) } else e.w }
    | .connecting =>
      if e.flight = true then
        { e with r := { e.r with st := .connected e.r.made, hasBeen := true }, ready := true, fresh := true }
      else if e.r.hasBeen = true ∨ e.r.isLazy = true then
        { e with r := { e.r with st := .idle, error := some e.r.made }, ready := true }
      else { e with r := { e.r with st := .spent }, ready := false, member := false }
    | .connected c =>
      if e.w.alive = some c ∨ e.fresh = true then { e with r := { e.r with hasBeen := true }, ready := true }
      else
        { e with r := { e.r with hasBeen := true, st := .connecting, made := e.r.made + 1 }, ready := false,
                 flight := e.w.up,
                 w := if e.w.up = true then { e.w with alive := some (e.r.made + 1) } else e.w }
    | .spent => { e with ready := false, member := false }

/-- Arm by arm against `answers`: idle asks `[ok, pending]` (connector ready, attempt started); an
attempt in flight ends `[ok, ok]` or `[err _]`; a connection answers `[ok]` while its peer is
there or unseen, else `[err 0, ok, pending]` (drop it, start the next attempt). -/
theorem advance_eq (e : EP) : advance e = adv e := by
  fun_cases adv e <;> simp [*, advance, answers, pollReady, Reconnect.loop, Reconnect.step, fatal]

theorem advance_lz (e : EP) (h : Lz e) : Lz (advance e) ∧ (advance e).member = e.member := by
  rw [advance_eq]
  unfold Lz at h ⊢
  fun_cases adv e <;> simp_all

theorem advance_near (e : EP) : Near (advance e) := by
  rw [advance_eq]
  unfold Near
  fun_cases adv e <;> simp_all

theorem advance_attempt (e : EP) (h : Lz e) (hm : e.member = true) (hc : e.r.st = .connecting)
    (he : e.r.error = none) : (advance e).ready = true := by
  rw [advance_eq]
  -- laziness rules out the arm in which a failed first attempt spends the service
  have := h hm
  fun_cases adv e <;> simp_all

theorem advance_ripe (e : EP) : (advance e).ready = true → Ripe (advance e) := by
  rw [advance_eq]
  unfold Ripe
  fun_cases adv e <;> simp_all

theorem advance_of_ripe (e : EP) (h : Ripe e) : (advance e).ready = true ∧ (advance e).member = e.member := by
  rw [advance_eq]
  unfold Ripe at h
  fun_cases adv e <;> simp_all

/-- A poll creates a failure to hand out only where it starts an attempt (from idle, or from a
connection found dead) while nothing listens; whatever else the endpoint holds, it held before. -/
theorem advance_H (e : EP) : H (advance e) → H e ∨ e.w.up = false := by
  rw [advance_eq]
  unfold H
  fun_cases adv e <;> simp_all

theorem advance_D (e : EP) : D (advance e) → D e := by
  rw [advance_eq]
  unfold D
  fun_cases adv e <;> simp_all

/-! ### one call on the picked endpoint -/

theorem serveEP_fst (e : EP) :
    (serveEP e).1 = { e with r := (Reconnect.call e.r).1, ready := false, fresh := false } := by
  unfold serveEP; split <;> (rename_i h; rw [h])

theorem serveEP_ready (e : EP) : (serveEP e).1.ready = false := by rw [serveEP_fst]

theorem call_isLazy (r : R) : (Reconnect.call r).1.isLazy = r.isLazy := by
  unfold Reconnect.call; (repeat' split) <;> rfl

theorem serveEP_lz (e : EP) (h : Lz e) : Lz (serveEP e).1 := by
  rw [serveEP_fst]
  show e.member = true → (Reconnect.call e.r).1.isLazy = true ∧ (Reconnect.call e.r).1.st ≠ .spent
  rw [call_isLazy, call_st]
  exact h

theorem serveEP_gd (e : EP) (h : Gd e) : Gd (serveEP e).1 := by
  rw [serveEP_fst]; exact call_good _ h

theorem serveEP_parked {e : EP} {x : Nat} (he : e.r.error = some x) :
    serveEP e = ({ e with r := { e.r with error := none }, ready := false, fresh := false }, .err e.key x) := by
  simp only [serveEP, Reconnect.call, he]

theorem serveEP_connected {e : EP} {c : Nat} (he : e.r.error = none) (hs : e.r.st = .connected c) :
    serveEP e = ({ e with ready := false, fresh := false },
      if e.w.alive = some c then .resp e.key e.w.gen else .lost e.key) := by
  simp only [serveEP, Reconnect.call, he, hs]

/-- A service is only called right after its `poll_ready` said ready (`Ripe`): the call never hits
`Reconnect::call`'s panic branch. -/
theorem serveEP_servedBy (a : EP) (h : Ripe a) : (serveEP a).2.servedBy a := by
  cases he : a.r.error with
  | some x => rw [serveEP_parked he]; exact ⟨rfl, .inl (by rw [he]; rfl)⟩
  | none =>
    obtain ⟨c, hs, ha⟩ := h.resolve_left (by rw [he]; exact Bool.noConfusion)
    rw [serveEP_connected he hs]
    split
    · rename_i hal; exact ⟨rfl, rfl, by rw [hal]; rfl⟩
    · rename_i hal
      have : ∃ c, a.r.st = .connected c ∧ a.w.alive ≠ some c ∧ a.fresh = true := ⟨c, hs, hal, ha.resolve_left hal⟩
      exact ⟨rfl, .inr (.inr this), .inr this⟩

theorem serveEP_clear (a : EP) (h : Ripe a) (hg : Gd a) : ¬ H (serveEP a).1 := by
  cases he : a.r.error with
  | some x =>
    have hs : a.r.st = .idle := hg (by rw [he]; rfl)
    rw [serveEP_parked he]
    simp [H, hs]
  | none =>
    obtain ⟨c, hs, _⟩ := h.resolve_left (by rw [he]; exact Bool.noConfusion)
    rw [serveEP_connected he hs]
    simp [H, he, hs]

/-! ### the picked endpoint: polled once more, then called if still ready -/

theorem tryOne_some {e : EP} {r : BRes} (h : (tryOne e).2 = some r) :
    (advance e).member = true ∧ Ripe (advance e) ∧
      (tryOne e).1 = (serveEP (advance e)).1 ∧ r = (serveEP (advance e)).2 := by
  unfold tryOne at h ⊢
  split at h
  · rename_i hc
    simp only [Bool.and_eq_true] at hc
    rw [if_pos (by simp only [Bool.and_eq_true]; exact hc)]
    exact ⟨hc.1, advance_ripe e hc.2, rfl, (Option.some.inj h).symm⟩
  · cases h

theorem tryOne_servedBy {e : EP} {r : BRes} (h : (tryOne e).2 = some r) : r.servedBy (advance e) := by
  obtain ⟨_, hr, _, rfl⟩ := tryOne_some h
  exact serveEP_servedBy _ hr

theorem tryOne_clear {e : EP} {r : BRes} (hg : Gd e) (h : (tryOne e).2 = some r) :
    ¬ H (tryOne e).1 ∧ (tryOne e).1.member = true := by
  obtain ⟨hm, hr, h1, _⟩ := tryOne_some h
  rw [h1]
  exact ⟨serveEP_clear _ hr (advance_gd e hg), by rw [serveEP_fst]; exact hm⟩

theorem tryOne_key (e : EP) : (tryOne e).1.key = e.key := by
  unfold tryOne; split
  · rw [serveEP_fst]; rfl
  · rfl

theorem tryOne_member_le (e : EP) : (tryOne e).1.member = true → e.member = true := by
  unfold tryOne; split
  · rw [serveEP_fst]; exact advance_member_le e
  · exact advance_member_le e

theorem tryOne_lz (e : EP) (h : Lz e) : Lz (tryOne e).1 ∧ (tryOne e).1.member = e.member := by
  unfold tryOne; split
  · exact ⟨serveEP_lz _ (advance_lz e h).1, by rw [serveEP_fst]; exact (advance_lz e h).2⟩
  · exact advance_lz e h

theorem tryOne_gd (e : EP) (h : Gd e) : Gd (tryOne e).1 := by
  unfold tryOne
  split
  · exact serveEP_gd _ (advance_gd e h)
  · exact advance_gd e h

theorem tryOne_up (e : EP) : (tryOne e).1.w.up = e.w.up := by
  unfold tryOne; split
  · rw [serveEP_fst]; exact advance_up e
  · exact advance_up e

theorem tryOne_none {e : EP} (h : (tryOne e).2 = none) :
    (tryOne e).1 = advance e ∧ ((advance e).member = true → (advance e).ready = false) := by
  unfold tryOne at h ⊢
  split
  · rename_i hc; rw [if_pos hc] at h; cases h
  · rename_i hc
    simp only [Bool.and_eq_true, not_and, Bool.not_eq_true] at hc
    exact ⟨rfl, hc⟩

/-- the picked service was not ready any more, which with `Near` leaves only an attempt in flight -/
theorem tryOne_unserved (e : EP) (hn : (tryOne e).2 = none) :
    Near (tryOne e).1 ∧ ((tryOne e).1.member = true → (tryOne e).1.ready = false) := by
  rw [(tryOne_none hn).1]
  exact ⟨advance_near e, (tryOne_none hn).2⟩

/-! ### the endpoint list -/

/-- what can happen to one endpoint during a call -/
inductive Ev : EP → EP → Prop
  | refl (e : EP) : Ev e e
  | polled {a b : EP} : Ev a b → Ev a (advance b)
  | tried {a b : EP} : Ev a b → Ev a (tryOne b).1
  | settled {a b : EP} : Ev a b → Ev a { b with fresh := false }

theorem Ev.trans {a b c : EP} (h1 : Ev a b) (h2 : Ev b c) : Ev a c := by
  induction h2 with
  | refl => exact h1
  | polled _ ih => exact .polled ih
  | tried _ ih => exact .tried ih
  | settled _ ih => exact .settled ih

theorem Ev.keeps {P : EP → Prop} (hadv : ∀ e, P e → P (advance e)) (htry : ∀ e, P e → P (tryOne e).1)
    (hset : ∀ e, P e → P { e with fresh := false }) {a b : EP} (h : Ev a b) (ha : P a) : P b := by
  induction h with
  | refl => exact ha
  | polled _ ih => exact hadv _ ih
  | tried _ ih => exact htry _ ih
  | settled _ ih => exact hset _ ih

/-- The endpoint list over a stretch of a call whose draws returned `o`: every endpoint evolved on
its own, except that with `o = some r` exactly one was last picked while still ready and served `r`. -/
inductive Drawn : Option BRes → List EP → List EP → Prop
  | nil : Drawn none [] []
  | cons {o : Option BRes} {a b : EP} {as bs : List EP} : Ev a b → Drawn o as bs → Drawn o (a :: as) (b :: bs)
  | here {r : BRes} {a b : EP} {as bs : List EP} : Ev a b → (tryOne b).2 = some r → Drawn none as bs →
      Drawn (some r) (a :: as) ((tryOne b).1 :: bs)

/-- pointwise evolution of the endpoint list -/
abbrev PW : List EP → List EP → Prop := Drawn none

/-- the draws ended in a call, which served `r` -/
abbrev ServedAt (r : BRes) : List EP → List EP → Prop := Drawn (some r)

theorem PW.refl : ∀ l : List EP, PW l l
  | [] => .nil
  | a :: as => .cons (.refl a) (PW.refl as)

theorem Drawn.after {o : Option BRes} {as bs cs : List EP} (h2 : Drawn o bs cs) (h1 : PW as bs) : Drawn o as cs := by
  induction h2 generalizing as with
  | nil => exact h1
  | cons e2 _ ih => cases h1 with | cons e1 t1 => exact .cons (e1.trans e2) (ih t1)
  | here e2 hr _ ih => cases h1 with | cons e1 t1 => exact .here (e1.trans e2) hr (ih t1)

theorem PW.trans {a b c : List EP} (h1 : PW a b) (h2 : PW b c) : PW a c :=
  h2.after h1

theorem Drawn.pw {o : Option BRes} {as bs : List EP} (h : Drawn o as bs) : PW as bs := by
  induction h with
  | nil => exact .nil
  | cons e _ ih => exact .cons e ih
  | here e _ _ ih => exact .cons (.tried e) ih

theorem PW.forall {P Q : EP → Prop} {as bs : List EP} (h : PW as bs)
    (hq : ∀ a b, Ev a b → P a → Q b) (hp : ∀ a ∈ as, P a) : ∀ b ∈ bs, Q b := by
  induction as generalizing bs with
  | nil => cases h; intro b hb; cases hb
  | cons a as ih =>
    cases h with | cons e t =>
    intro b hb
    rcases List.mem_cons.1 hb with rfl | hb
    · exact hq _ _ e (hp _ (List.mem_cons_self))
    · exact ih t (fun a ha => hp a (List.mem_cons_of_mem _ ha)) b hb

theorem PW.map_eq {α} {P : EP → Prop} {f : EP → α} {as bs : List EP} (h : PW as bs)
    (hf : ∀ a b, Ev a b → P a → f b = f a) (hp : ∀ a ∈ as, P a) : bs.map f = as.map f := by
  induction as generalizing bs with
  | nil => cases h; rfl
  | cons a as ih =>
    cases h with | cons e t =>
    simp only [List.map_cons]
    rw [hf _ _ e (hp _ (List.mem_cons_self)), ih t (fun a ha => hp a (List.mem_cons_of_mem _ ha))]

theorem pass_pw (eps : List EP) : PW eps (pass eps) := by
  induction eps with
  | nil => exact .nil
  | cons e es ih =>
    simp only [pass, List.map_cons] at ih ⊢
    refine .cons ?_ ih
    split
    · exact .polled (.refl e)
    · exact .refl e

theorem settle_pw (eps : List EP) : PW eps (settle eps) := by
  induction eps with
  | nil => exact .nil
  | cons e es ih =>
    simp only [settle, List.map_cons] at ih ⊢
    exact .cons (.settled (.refl e)) ih

/-! ### the draws -/

theorem tryKey_drawn (k : Nat) (eps : List EP) : Drawn (tryKey k eps).2 eps (tryKey k eps).1 := by
  induction eps with
  | nil => exact .nil
  | cons e es ih =>
    unfold tryKey
    split
    · cases h : (tryOne e).2 with
      | none => exact .cons (.tried (.refl e)) (PW.refl es)
      | some r => exact .here (.refl e) h (PW.refl es)
    · exact .cons (.refl e) ih

theorem tryKeys_drawn (ks : List Nat) : ∀ eps : List EP, Drawn (tryKeys eps ks).2 eps (tryKeys eps ks).1 := by
  induction ks with
  | nil => exact PW.refl
  | cons k ks ih =>
    intro eps
    have h := tryKey_drawn k eps
    unfold tryKeys
    split
    · rename_i r hr; rw [hr] at h; exact h
    · rename_i hr; rw [hr] at h; exact (ih _).after h

theorem sweep_drawn (eps : List EP) : Drawn (sweep eps).2 eps (sweep eps).1 := by
  induction eps with
  | nil => exact .nil
  | cons e es ih =>
    unfold sweep
    split
    · split
      · rename_i r hr; exact .here (.refl e) hr (PW.refl es)
      · exact .cons (.tried (.refl e)) ih
    · exact .cons (.refl e) ih

theorem phase_drawn (eps : List EP) (ks : List Nat) : Drawn (phase eps ks).2 eps (phase eps ks).1 := by
  have h := tryKeys_drawn ks eps
  unfold phase
  split
  · rename_i r hr; rw [hr] at h; exact h
  · rename_i hr; rw [hr] at h; exact (sweep_drawn _).after h

theorem tryKey_pw (k : Nat) (eps : List EP) : PW eps (tryKey k eps).1 :=
  (tryKey_drawn k eps).pw

theorem tryKeys_pw (ks : List Nat) : ∀ eps : List EP, PW eps (tryKeys eps ks).1 :=
  fun eps => (tryKeys_drawn ks eps).pw

theorem phase_pw (eps : List EP) (ks : List Nat) : PW eps (phase eps ks).1 :=
  (phase_drawn eps ks).pw

theorem call_pw (s : B) (ch : Choice) : PW s.eps (call s ch).1.eps := by
  unfold call
  split
  · exact ((pass_pw _).trans (phase_pw _ _)).trans (settle_pw _)
  · split <;>
    exact ((((pass_pw _).trans (phase_pw _ _)).trans (pass_pw _)).trans (phase_pw _ _)).trans (settle_pw _)

theorem ServedAt.definite {r : BRes} {as bs : List EP} (h : ServedAt r as bs) : r.definite = true := by
  induction as generalizing bs with
  | nil => cases h
  | cons a as ih =>
    cases h with
    | cons _ t => exact ih t
    | here _ hr _ => exact (tryOne_servedBy hr).definite

theorem phase_definite (eps : List EP) (ks : List Nat) (r : BRes) (h : (phase eps ks).2 = some r) :
    r.definite = true :=
  ServedAt.definite (h ▸ phase_drawn eps ks)

theorem call_servedAt (s : B) (ch : Choice) (h : (call s ch).2 ≠ .hang) :
    ∃ mid, ServedAt (call s ch).2 s.eps mid ∧ (call s ch).1.eps = settle mid := by
  have h1 := phase_drawn (pass s.eps) ch.tries
  have h2 := phase_drawn (pass (phase (pass s.eps) ch.tries).1) [ch.final]
  unfold call at h ⊢
  split
  · rename_i r hr
    rw [hr] at h1
    exact ⟨_, h1.after (pass_pw _), rfl⟩
  · rename_i hr
    split
    · rename_i r hr2
      rw [hr2] at h2
      exact ⟨_, h2.after (((pass_pw _).trans (phase_pw _ _)).trans (pass_pw _)), rfl⟩
    · rename_i hr2
      -- neither round served: the result is `.hang`
      simp [hr, hr2] at h

/-! ### when nothing could be served

Every endpoint that was picked was found not ready; what such a pick keeps (`hP`) is kept, and
after the sweep nothing in the channel is ready. -/

theorem tryKey_unserved {P : EP → Prop} (hP : ∀ e, P e → (tryOne e).2 = none → P (tryOne e).1) (k : Nat)
    (eps : List EP) (h : ∀ e ∈ eps, P e) (hn : (tryKey k eps).2 = none) : ∀ e ∈ (tryKey k eps).1, P e := by
  induction eps with
  | nil => exact h
  | cons a as ih =>
    obtain ⟨ha, has⟩ := List.forall_mem_cons.1 h
    unfold tryKey at hn ⊢
    split
    · rename_i hc; rw [if_pos hc] at hn; exact List.forall_mem_cons.2 ⟨hP a ha hn, has⟩
    · rename_i hc; rw [if_neg hc] at hn; exact List.forall_mem_cons.2 ⟨ha, ih has hn⟩

theorem tryKeys_unserved {P : EP → Prop} (hP : ∀ e, P e → (tryOne e).2 = none → P (tryOne e).1) (ks : List Nat) :
    ∀ (eps : List EP), (∀ e ∈ eps, P e) → (tryKeys eps ks).2 = none → ∀ e ∈ (tryKeys eps ks).1, P e := by
  induction ks with
  | nil => intro eps h _; exact h
  | cons k ks ih =>
    intro eps h hn
    unfold tryKeys at hn ⊢
    split
    · rename_i r hr; rw [hr] at hn; cases hn
    · rename_i hr; rw [hr] at hn; exact ih _ (tryKey_unserved hP k eps h hr) hn

theorem sweep_unserved {P : EP → Prop} (hP : ∀ e, P e → (tryOne e).2 = none → P (tryOne e).1) (eps : List EP)
    (h : ∀ e ∈ eps, P e) (hn : (sweep eps).2 = none) :
    ∀ e ∈ (sweep eps).1, P e ∧ (e.member = true → e.ready = false) := by
  induction eps with
  | nil => intro e he; cases he
  | cons a as ih =>
    obtain ⟨ha, has⟩ := List.forall_mem_cons.1 h
    unfold sweep at hn ⊢
    split
    · rename_i hc
      rw [if_pos hc] at hn
      split
      · rename_i r hr; rw [hr] at hn; cases hn
      · rename_i hr
        rw [hr] at hn
        exact List.forall_mem_cons.2 ⟨⟨hP a ha hr, (tryOne_unserved a hr).2⟩, ih has hn⟩
    · rename_i hc
      rw [if_neg hc] at hn
      simp only [Bool.and_eq_true, not_and, Bool.not_eq_true] at hc
      exact List.forall_mem_cons.2 ⟨⟨ha, hc⟩, ih has hn⟩

theorem phase_unserved {P : EP → Prop} (hP : ∀ e, P e → (tryOne e).2 = none → P (tryOne e).1) (eps : List EP)
    (ks : List Nat) (h : ∀ e ∈ eps, P e) (hn : (phase eps ks).2 = none) :
    ∀ e ∈ (phase eps ks).1, P e ∧ (e.member = true → e.ready = false) := by
  unfold phase at hn ⊢
  split
  · rename_i r hr; rw [hr] at hn; cases hn
  · rename_i hr; rw [hr] at hn; exact sweep_unserved hP _ (tryKeys_unserved hP ks eps h hr) hn

def LazyNear (e : EP) : Prop := Lz e ∧ Near e

theorem LazyNear.tried {e : EP} (h : LazyNear e) (hn : (tryOne e).2 = none) : LazyNear (tryOne e).1 :=
  ⟨(tryOne_lz e h.1).1, (tryOne_unserved e hn).1⟩

theorem pass_ln (eps : List EP) (h : ∀ e ∈ eps, Lz e) : ∀ e ∈ pass eps, LazyNear e := by
  intro e he
  simp only [pass, List.mem_map] at he
  obtain ⟨a, ha, rfl⟩ := he
  split
  · exact ⟨(advance_lz a (h a ha)).1, advance_near a⟩
  · rename_i hc
    refine ⟨h a ha, ?_⟩
    intro hm
    simp only [Bool.and_eq_true, Bool.not_eq_true', not_and, Bool.not_eq_false] at hc
    exact Or.inl (hc hm)

def Servable (e : EP) : Prop := e.member = true → e.ready = true ∧ (tryOne e).2 ≠ none

/-- the second poll of endpoints that all have an attempt in flight: all of them are servable -/
theorem pass_rs (eps : List EP) (h : ∀ e ∈ eps, LazyNear e ∧ (e.member = true → e.ready = false)) :
    ∀ e ∈ pass eps, Lz e ∧ Servable e := by
  intro e he
  simp only [pass, List.mem_map] at he
  obtain ⟨a, ha, rfl⟩ := he
  obtain ⟨⟨hl, hnr⟩, hnot⟩ := h a ha
  split
  · rename_i hc
    simp only [Bool.and_eq_true, Bool.not_eq_true'] at hc
    refine ⟨(advance_lz a hl).1, ?_⟩
    intro hm
    rcases hnr hc.1 with hr | ⟨hcg, herr⟩
    · rw [hc.2] at hr; cases hr
    · have h1 := advance_attempt a hl hc.1 hcg herr
      -- the poll `tryOne` adds finds it still ripe
      obtain ⟨h2, h3⟩ := advance_of_ripe _ (advance_ripe a h1)
      refine ⟨h1, ?_⟩
      unfold tryOne
      simp [h2, h3, hm]
  · rename_i hc
    refine ⟨hl, ?_⟩
    intro hm
    -- a member is not ready (`hnot`), so `pass` polled it: this branch has no members
    have := hnot hm
    simp [hm, this] at hc

theorem Servable.tried {e : EP} (h : Servable e) (hn : (tryOne e).2 = none) : Servable (tryOne e).1 :=
  fun hm => absurd hn (h (tryOne_member_le e hm)).2

end Balance
