import TonicModel.Basic.HealthLin
import TonicModel.Lemmas.HealthLin
/-
Real-time order of the schedules found by the linearizability search (C18).  `Lin.Run` records
for every pick `Lin.minimal c others`: no HEAD of another task had returned before `c` was
invoked.  That is the real-time condition for ALL pending calls (`Enabled`, `RunRT`) only when
every task's return stamps increase along the task (`wellStamped`), which is a property of the
record, not of the search.
-/
namespace Health.Lin

/-- return stamps do not decrease along a task's calls -/
def increasing : List Call → Bool
  | [] => true
  | [_] => true
  | d :: e :: r => decide (d.res ≤ e.res) && increasing (e :: r)

/-- every task of the record has increasing return stamps -/
def wellStamped (ts : List Task) : Bool := ts.all (fun t => increasing t.calls)

/-- `c` may come next in real time: NO pending call of another task (head or not) had returned
before `c` was invoked. -/
def Enabled (c : Call) (others : List Task) : Prop :=
  ∀ t ∈ others, ∀ e ∈ t.calls, ¬ e.res < c.inv

/-- `Run` with the real-time condition on all pending calls instead of the heads. -/
inductive RunRT {σ : Type} (acc : σ → Op → Resp → Option σ) (nslots : σ → Nat) : σ → List Task → Prop
  | done {s : σ} {ts : List Task} : total ts = 0 → RunRT acc nslots s ts
  | step {s s' : σ} {ts : List Task} {c : Call} {t : Task} {others : List Task} :
      (c, t, others) ∈ picks [] ts → Enabled c others →
      acc s (localise t c.op) c.ans = some s' →
      RunRT acc nslots s' (afterCall nslots s c t :: others) → RunRT acc nslots s ts

theorem increasing_cons {d : Call} {l : List Call} (h : increasing (d :: l) = true) :
    (∀ e ∈ l, d.res ≤ e.res) ∧ increasing l = true := by
  induction l generalizing d with
  | nil => exact ⟨fun _ h => (by cases h), rfl⟩
  | cons e r ih =>
    simp only [increasing, Bool.and_eq_true, decide_eq_true_eq] at h
    obtain ⟨h1, h2⟩ := h
    obtain ⟨h3, _⟩ := ih h2
    refine ⟨?_, h2⟩
    intro x hx
    rcases List.mem_cons.1 hx with rfl | hx
    · exact h1
    · exact Nat.le_trans h1 (h3 x hx)

theorem enabled_of_minimal {c : Call} {others : List Task} (hw : wellStamped others = true)
    (hm : minimal c others = true) : Enabled c others := by
  intro t ht e he
  have hinc : increasing t.calls = true := (List.all_eq_true.1 hw) t ht
  have hmt := (List.all_eq_true.1 hm) t ht
  cases hc : t.calls with
  | nil => rw [hc] at he; cases he
  | cons d rest =>
    rw [hc] at he hinc
    simp only [hc, Bool.not_eq_true', decide_eq_false_iff_not] at hmt
    rcases List.mem_cons.1 he with rfl | he
    · exact hmt
    · have := (increasing_cons hinc).1 e he
      omega

theorem picks_spec {c : Call} {t : Task} {others : List Task} :
    ∀ (after before : List Task), (c, t, others) ∈ picks before after →
      (∃ t0 ∈ after, t0.calls = c :: t.calls) ∧ ∀ o ∈ others, o ∈ before ∨ o ∈ after := by
  intro after
  induction after with
  | nil => intro before h; simp [picks] at h
  | cons t0 after ih =>
    intro before h
    simp only [picks, List.mem_append] at h
    rcases h with h | h
    · cases hc : t0.calls with
      | nil => simp [hc] at h
      | cons c0 cs =>
        simp only [hc, List.mem_singleton, Prod.mk.injEq] at h
        obtain ⟨rfl, rfl, rfl⟩ := h
        refine ⟨⟨t0, List.mem_cons_self, hc⟩, ?_⟩
        intro o ho
        rcases List.mem_append.1 ho with ho | ho
        · exact Or.inl (List.mem_reverse.1 ho)
        · exact Or.inr (List.mem_cons_of_mem _ ho)
    · obtain ⟨⟨t1, ht1, hc1⟩, hothers⟩ := ih (t0 :: before) h
      refine ⟨⟨t1, List.mem_cons_of_mem _ ht1, hc1⟩, ?_⟩
      intro o ho
      rcases hothers o ho with h1 | h1
      · rcases List.mem_cons.1 h1 with rfl | h1
        · exact Or.inr List.mem_cons_self
        · exact Or.inl h1
      · exact Or.inr (List.mem_cons_of_mem _ h1)

theorem afterCall_calls {σ : Type} (nslots : σ → Nat) (s : σ) (c : Call) (t : Task) :
    (afterCall nslots s c t).calls = t.calls := by
  unfold afterCall; split <;> rfl

theorem run_realtime {σ : Type} (acc : σ → Op → Resp → Option σ) (nslots : σ → Nat)
    {s : σ} {ts : List Task} (h : Run acc nslots s ts) (hw : wellStamped ts = true) :
    RunRT acc nslots s ts := by
  induction h with
  | done h0 => exact .done h0
  | @step s s' ts c t others hp hm hacc _ ih =>
    obtain ⟨⟨t0, ht0, hc0⟩, hothers⟩ := picks_spec ts [] hp
    have hall := List.all_eq_true.1 hw
    have hwo : wellStamped others = true := by
      apply List.all_eq_true.2
      intro o ho
      rcases hothers o ho with h1 | h1
      · cases h1
      · exact hall o h1
    have hwt : increasing t.calls = true := by
      have := hall t0 ht0
      rw [hc0] at this
      exact (increasing_cons this).2
    refine .step hp (enabled_of_minimal hwo hm) hacc (ih ?_)
    apply List.all_eq_true.2
    intro o ho
    rcases List.mem_cons.1 ho with rfl | ho
    · rw [afterCall_calls]; exact hwt
    · exact (List.all_eq_true.1 hwo) o ho

end Health.Lin
