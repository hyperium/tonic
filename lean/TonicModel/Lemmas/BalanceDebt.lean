import TonicModel.Lemmas.BalanceRun
import TonicModel.Lemmas.BalanceAcct
/-
Load-balanced channel (C14): how many calls can still fail once every endpoint is reachable.
An endpoint holds at most one failure that no call has been told about yet (`pot`); with every
endpoint reachable no new failure arises, and every call that errs uses one up.  The same per
endpoint (`potK k`): a reachable endpoint fails at most the one call that gets the failure it
still holds, whatever the other endpoints do.
-/
namespace Balance
open ConnScript BalScript Reconnect

/-- the failure endpoint `e` still holds for some call (0 or 1) -/
def pot (e : EP) : Nat :=
  if e.member = false then 0
  else if e.r.error.isSome = true then 1
  else
    match e.r.st with
    | .connecting => if e.flight = true ∧ e.w.alive = some e.r.made then 0 else 1
    | .connected c => if e.fresh = true ∧ e.w.alive ≠ some c then 1 else 0
    | .idle => 0
    | .spent => 0

/-- the failures the channel still holds -/
def debt (eps : List EP) : Nat := (eps.map pot).sum

/-- reachable: if in the channel, its server listens -/
def Up (e : EP) : Prop := e.member = true → e.w.up = true

/-- a call that did not get a response but an error -/
def BRes.errored : BRes → Bool
  | .resp _ _ => false
  | .hang => false
  | .err _ _ => true
  | .lost _ => true
  | .panic => true

def failN : Option BRes → Nat
  | some r => if r.errored then 1 else 0
  | none => 0

/-! ### `pot` counts what `H` says -/

theorem pot_le_one (e : EP) : pot e ≤ 1 := by
  unfold pot
  split
  · omega
  · split
    · omega
    · split <;> (try split) <;> omega

theorem pot_eq_one (e : EP) : pot e = 1 ↔ e.member = true ∧ H e := by
  unfold pot H
  cases e.member
  · simp
  · cases e.r.error
    · cases e.r.st <;> simp [and_comm]
    · simp

theorem pot_mono {e e' : EP} (h : e'.member = true → H e' → e.member = true ∧ H e) : pot e' ≤ pot e := by
  have h1 := pot_le_one e'
  by_cases hp : pot e' = 1
  · have hh := (pot_eq_one e').1 hp
    exact Nat.le_of_eq (hp.trans ((pot_eq_one e).2 (h hh.1 hh.2)).symm)
  · omega

theorem pot_zero {e : EP} (h : ¬ H e) : pot e = 0 := by
  have h1 := pot_le_one e
  by_cases hp : pot e = 1
  · exact absurd ((pot_eq_one e).1 hp).2 h
  · omega

theorem pot_le_member (e : EP) : pot e ≤ if e.member = true then 1 else 0 := by
  cases hm : e.member
  · simp [pot, hm]
  · simpa using pot_le_one e

/-! ### one endpoint, reachable: no step of a call adds to what it holds -/

theorem advance_pot (e : EP) (h : Up e) : pot (advance e) ≤ pot e ∧ Up (advance e) := by
  refine ⟨pot_mono fun hm hh => ?_, fun hm => by rw [advance_up]; exact h (advance_member_le e hm)⟩
  have hm := advance_member_le e hm
  refine ⟨hm, (advance_H e hh).resolve_right ?_⟩
  rw [h hm]; exact Bool.noConfusion

theorem BRes.servedBy.held {a : EP} {r : BRes} (h : r.servedBy a) (he : r.errored = true) : H a := by
  cases r with
  | err k x => exact h.2
  | lost k => exact h.2.1
  | resp k g => cases he
  | hang => exact h.elim
  | panic => exact h.elim

theorem tryOne_pot (e : EP) (h : Up e) (hg : Gd e) :
    pot (tryOne e).1 + failN (tryOne e).2 ≤ pot e ∧ Up (tryOne e).1 := by
  refine ⟨?_, fun hm => by rw [tryOne_up]; exact h (tryOne_member_le e hm)⟩
  cases hr : (tryOne e).2 with
  | none => rw [(tryOne_none hr).1]; exact (advance_pot e h).1
  | some r =>
    rw [pot_zero (tryOne_clear hg hr).1, Nat.zero_add]
    show (if r.errored = true then 1 else 0) ≤ pot e
    split
    · rename_i he
      rw [← (pot_eq_one (advance e)).2 ⟨(tryOne_some hr).1, (tryOne_servedBy hr).held he⟩]
      exact (advance_pot e h).1
    · exact Nat.zero_le _

theorem settle_pot (e : EP) : pot { e with fresh := false } ≤ pot e :=
  pot_mono fun hm hh => ⟨hm, settle_H hh⟩

/-! ### the endpoint list -/

def UpGood (e : EP) : Prop := Up e ∧ Gd e

/-- the failures held, as a weight that a call that errs uses up -/
def acct : Acct where
  w := pot
  f := failN
  I := UpGood
  f_none := rfl
  adv e h := ⟨(advance_pot e h.1).1, (advance_pot e h.1).2, advance_gd e h.2⟩
  tri e h := ⟨(tryOne_pot e h.1 h.2).1, (tryOne_pot e h.1 h.2).2, tryOne_gd e h.2⟩
  set e h := ⟨settle_pot e, h.1, h.2⟩

theorem debt_cons (a : EP) (as : List EP) : debt (a :: as) = pot a + debt as := List.sum_cons

theorem debt_nil : debt [] = 0 := rfl

theorem sum_indicator (p : BRes → Bool) (l : List BRes) :
    (l.map fun r => if p r = true then 1 else 0).sum = (l.filter p).length := by
  induction l with
  | nil => rfl
  | cons r rs ih =>
    simp only [List.map_cons, List.sum_cons, List.filter_cons, ih]
    split <;> simp <;> omega

theorem call_debt (s : B) (ch : Choice) (h : ∀ e ∈ s.eps, UpGood e) :
    debt (call s ch).1.eps + (if (call s ch).2.errored then 1 else 0) ≤ debt s.eps ∧
      ∀ e ∈ (call s ch).1.eps, UpGood e :=
  acct.call rfl s ch h

theorem calls_debt (chs : List Choice) (s : B) (h : ∀ e ∈ s.eps, UpGood e) :
    ((calls s chs).filter BRes.errored).length ≤ debt s.eps :=
  sum_indicator BRes.errored _ ▸ acct.calls rfl chs s h

theorem members_cons (a : EP) (as : List EP) :
    members (a :: as) = (if a.member = true then 1 else 0) + members as := by
  simp only [members, List.filter_cons]
  split <;> simp <;> omega

theorem debt_le_members (eps : List EP) : debt eps ≤ members eps := by
  induction eps with
  | nil => exact Nat.le_refl _
  | cons a as ih =>
    rw [debt_cons, members_cons]
    have := pot_le_member a
    omega

/-- the endpoint that served is in the channel and holds nothing -/
theorem ServedAt.slack {r : BRes} {as bs : List EP} (h : ServedAt r as bs) (hg : ∀ e ∈ as, Gd e) :
    debt bs + 1 ≤ members bs := by
  induction as generalizing bs with
  | nil => cases h
  | cons a as ih =>
    obtain ⟨hga, hgas⟩ := List.forall_mem_cons.1 hg
    cases h with
    | @here _ _ b _ bs e hr _ =>
      obtain ⟨hc, hm⟩ := tryOne_clear (ev_gd e hga) hr
      have := debt_le_members bs
      rw [debt_cons, members_cons, pot_zero hc, hm, if_pos rfl]
      omega
    | @cons _ _ b _ bs _ t =>
      have := ih t hgas
      have := pot_le_member b
      rw [debt_cons, members_cons]
      omega

theorem settle_debt_le (eps : List EP) : debt (settle eps) ≤ debt eps := by
  induction eps with
  | nil => exact Nat.le_refl _
  | cons a as ih =>
    simp only [settle, List.map_cons] at ih ⊢
    rw [debt_cons, debt_cons]
    have := settle_pot a
    omega

theorem settle_members (eps : List EP) : members (settle eps) = members eps := by
  induction eps with
  | nil => rfl
  | cons a as ih =>
    simp only [settle, List.map_cons] at ih ⊢
    rw [members_cons, members_cons, ih]

theorem call_slack (s : B) (ch : Choice) (hg : ∀ e ∈ s.eps, Gd e) (h : (call s ch).2 ≠ .hang) :
    debt (call s ch).1.eps + 1 ≤ members (call s ch).1.eps := by
  obtain ⟨mid, sa, he⟩ := call_servedAt s ch h
  have := sa.slack hg
  have := settle_debt_le mid
  rw [he, settle_members]
  omega

theorem debt_ensure (k : Nat) (eps : List EP) : debt (ensure k eps) = debt eps := by
  unfold ensure
  split
  · rfl
  · simp [debt, pot, blank]

theorem EW.setUp_alive (w : EW) : w.setUp.alive = w.alive := by
  unfold EW.setUp; split <;> rfl

theorem env_up_debt (s : B) (k : Nat) : debt (env s (.up k)).eps = debt s.eps := by
  simp only [env, debt]
  rw [onKey_map pot k _ (fun e => by simp only [pot, EW.setUp_alive])]
  exact debt_ensure k s.eps

/-! ### one endpoint's failures -/

def potK (k : Nat) (e : EP) : Nat := if e.key = k then pot e else 0

/-- the result is an error that came from endpoint `k` -/
def BRes.errorOf (k : Nat) : BRes → Bool
  | .err k' _ => k' == k
  | .lost k' => k' == k
  | .resp _ _ => false
  | .hang => false
  | .panic => false

def failK (k : Nat) : Option BRes → Nat
  | some r => if r.errorOf k then 1 else 0
  | none => 0

/-- `UpGood` with `Up` asked of endpoint `k` only -/
def UpGoodAt (k : Nat) (e : EP) : Prop := (e.key = k → Up e) ∧ Gd e

theorem BRes.errored_of_errorOf {k : Nat} {r : BRes} (h : r.errorOf k = true) : r.errored = true := by
  cases r <;> first | rfl | cases h

theorem tryOne_res_key (e : EP) (r : BRes) (h : (tryOne e).2 = some r) (k : Nat) (hk : r.errorOf k = true) :
    e.key = k := by
  have hs := tryOne_servedBy h
  cases r with
  | err k' x => exact hs.1.symm.trans (beq_iff_eq.1 hk)
  | lost k' => exact hs.1.symm.trans (beq_iff_eq.1 hk)
  | resp k' g => cases hk
  | hang => cases hk
  | panic => cases hk

theorem failK_le_failN (k : Nat) (o : Option BRes) : failK k o ≤ failN o := by
  cases o with
  | none => exact Nat.le_refl _
  | some r =>
    show (if r.errorOf k = true then 1 else 0) ≤ if r.errored = true then 1 else 0
    split
    · rename_i h; rw [if_pos (BRes.errored_of_errorOf h)]; exact Nat.le_refl _
    · exact Nat.zero_le _

theorem failK_other {k : Nat} {e : EP} (hk : e.key ≠ k) : failK k (tryOne e).2 = 0 := by
  cases hr : (tryOne e).2 with
  | none => rfl
  | some r =>
    show (if r.errorOf k = true then 1 else 0) = 0
    exact if_neg fun he => hk (tryOne_res_key e r hr k he)

/-- on key `k` the weight is `pot`, elsewhere it is nothing and nothing is counted -/
theorem potK_le (k : Nat) {e e' : EP} {n : Nat} (hk : e'.key = e.key) (h1 : e.key = k → pot e' + n ≤ pot e)
    (h0 : e.key ≠ k → n = 0) : potK k e' + n ≤ potK k e := by
  unfold potK
  rw [hk]
  split
  · rename_i h; exact h1 h
  · rename_i h; rw [h0 h]; exact Nat.le_refl _

/-- endpoint `k`'s failures alone: the steps of the other endpoints do not touch the weight -/
def acctK (k : Nat) : Acct where
  w := potK k
  f := failK k
  I := UpGoodAt k
  f_none := rfl
  adv e h :=
    ⟨potK_le k (n := 0) (advance_key e) (fun hk => (advance_pot e (h.1 hk)).1) (fun _ => rfl),
      fun hk => (advance_pot e (h.1 hk)).2, advance_gd e h.2⟩
  tri e h :=
    ⟨potK_le k (tryOne_key e)
        (fun hk => Nat.le_trans (Nat.add_le_add_left (failK_le_failN k _) _) (tryOne_pot e (h.1 hk) h.2).1)
        failK_other,
      fun hk => (tryOne_pot e (h.1 (by rw [← tryOne_key e]; exact hk)) h.2).2, tryOne_gd e h.2⟩
  set e h :=
    ⟨potK_le k (n := 0) rfl (fun _ => settle_pot e) (fun _ => rfl), h.1, h.2⟩

theorem calls_errors_of (k : Nat) (chs : List Choice) (s : B) (h : ∀ e ∈ s.eps, UpGoodAt k e) :
    ((calls s chs).filter (BRes.errorOf k)).length ≤ (acctK k).total s.eps :=
  sum_indicator (BRes.errorOf k) _ ▸ (acctK k).calls rfl chs s h

theorem potK_total_zero (k : Nat) (eps : List EP) (h : ∀ e ∈ eps, e.key ≠ k) : (acctK k).total eps = 0 := by
  induction eps with
  | nil => rfl
  | cons a as ih =>
    obtain ⟨ha, has⟩ := List.forall_mem_cons.1 h
    rw [Acct.total_cons, ih has]
    simp [acctK, potK, ha]

theorem potK_total_le_one (k : Nat) (eps : List EP) (hn : (eps.map (·.key)).Nodup) :
    (acctK k).total eps ≤ 1 := by
  induction eps with
  | nil => simp [Acct.total]
  | cons a as ih =>
    simp only [List.map_cons, List.nodup_cons] at hn
    rw [Acct.total_cons]
    by_cases hk : a.key = k
    · have hz : (acctK k).total as = 0 := by
        apply potK_total_zero
        intro e he hek
        exact hn.1 (List.mem_map.2 ⟨e, he, by rw [hek, hk]⟩)
      have := pot_le_one a
      simp only [acctK, potK, hk, if_true] at hz ⊢
      omega
    · have := ih hn.2
      simp only [acctK, potK, hk, if_false] at this ⊢
      omega

end Balance
