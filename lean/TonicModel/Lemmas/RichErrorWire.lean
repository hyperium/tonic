import TonicModel.Lemmas.SpecWire
import TonicModel.Lemmas.RichError
/-
The concrete prost model satisfies the round-trip laws (`Prost.Laws`) that the parametric C20
theorems assume, for well-formed details and statuses (`WFd`, `WFs`); and both follow from plain
hypotheses with one size bound, that the details bytes as a whole are shorter than 2^64.
-/
namespace RichError
open PbWire

theorem normalize_id (s n : Int) (hs : 0 ≤ s) (hn : 0 ≤ n) (hn' : n < 1000000000) : normalize s n = (s, n) := by
  have h1 : ¬ (n ≤ -nanosPerSec ∨ nanosPerSec ≤ n) := by simp only [nanosPerSec]; omega
  simp only [normalize, h1, if_false]
  have h2 : ¬ (s < 0 ∧ 0 < n) := by omega
  have h3 : ¬ (0 < s ∧ n < 0) := by omega
  simp only [h2, h3, if_false]

theorem durToPb_eq (d : Dur) (h : Spec.RichError.wfDur d = true) : durToPb d = [.i d.secs, .i d.nanos] := by
  simp only [Spec.RichError.wfDur, Bool.and_eq_true, decide_eq_true_eq] at h
  have hs : (d.secs : Int) ≤ i64Max := by simp only [i64Max]; omega
  rw [durToPb, if_pos hs, normalize_id d.secs d.nanos (by omega) (by omega) (by omega)]

theorem durOfPb_durToPb (d : Dur) (h : Spec.RichError.wfDur d = true) : durOfPb (durToPb d) = d := by
  rw [durToPb_eq d h]
  simp only [Spec.RichError.wfDur, Bool.and_eq_true, decide_eq_true_eq] at h
  have hid := normalize_id d.secs d.nanos (by omega) (by omega) (by omega)
  have : ¬ ((d.secs : Int) < 0 ∨ (d.nanos : Int) < 0) := by omega
  simp only [durOfPb, List.getD_cons_zero, List.getD_cons_succ, svInt, durOfPair, hid, this, if_false,
    Int.toNat_natCast]

theorem flatOk_durToPb (d : Dur) (h : Spec.RichError.wfDur d = true) : FlatOk [.i64, .i32] (durToPb d) := by
  rw [durToPb_eq d h]
  simp only [Spec.RichError.wfDur, Bool.and_eq_true, decide_eq_true_eq] at h
  exact ⟨⟨by omega, by omega⟩, ⟨by omega, by omega⟩, trivial⟩

theorem ofPb_toPb (d : ErrorDetail) (h : Spec.RichError.wfDetail d = true) : ofPb d.kind (toPb d) = d := by
  cases d
  case retryInfo x =>
    obtain ⟨o⟩ := x
    cases o with
    | none => rfl
    | some dd => simp [ErrorDetail.kind, toPb, ofPb, getOptFlat, durOfPb_durToPb dd h]
  case debugInfo x | errorInfo x | requestInfo x | resourceInfo x | localizedMessage x => rfl
  case quotaFailure x | preconditionFailure x | badRequest x | help x =>
    simp [ErrorDetail.kind, toPb, ofPb, getRepFlat, flatStr, svBytes, Function.comp_def]

theorem distinctKeys_of_spec (l : List (Bytes × Bytes)) (h : Spec.RichError.distinctKeys l = true) : DistinctKeys l := by
  induction l with
  | nil => trivial
  | cons e rest ih =>
    simp only [Spec.RichError.distinctKeys, Bool.and_eq_true, Bool.not_eq_true', List.any_eq_false,
      beq_iff_eq] at h
    exact ⟨fun x hx => h.1 x hx, ih h.2⟩

theorem l2Ok_repFlat {α : Type} (sf : Flat) (toV : α → List SV) (l : List α)
    (hsf : sf.length + 1 < 536870912) (h : ∀ a ∈ l, FlatOk sf (toV a)) :
    L2Ok [.repFlat sf] [.repFlat (l.map toV)] := by
  refine ⟨⟨hsf, ?_⟩, trivial⟩
  intro v hv
  obtain ⟨a, ha, rfl⟩ := List.mem_map.mp hv
  exact h a ha

theorem l2Ok_toPb (d : ErrorDetail) (h : Spec.RichError.wfDetail d = true) : L2Ok (schemaOf d.kind) (toPb d) := by
  cases d <;> simp only [Spec.RichError.wfDetail, Bool.and_eq_true, List.all_eq_true] at h
  case retryInfo x =>
    refine ⟨⟨by decide, ?_⟩, trivial⟩
    intro v hv
    obtain ⟨dd, hdd, rfl⟩ := Option.map_eq_some_iff.mp hv
    rw [hdd] at h
    exact flatOk_durToPb dd h
  case debugInfo x | requestInfo x | localizedMessage x => exact ⟨h.1, h.2, trivial⟩
  case quotaFailure x | badRequest x | help x =>
    exact l2Ok_repFlat _ _ _ (by decide) fun q hq => ⟨(h q hq).1, (h q hq).2, trivial⟩
  case errorInfo x =>
    exact ⟨h.1.1.1, h.1.1.2, ⟨h.1.2, distinctKeys_of_spec _ h.2⟩, trivial⟩
  case preconditionFailure x =>
    exact l2Ok_repFlat _ _ _ (by decide) fun q hq => ⟨(h q hq).1.1, (h q hq).1.2, (h q hq).2, trivial⟩
  case resourceInfo x => exact ⟨h.1.1.1, h.1.1.2, h.1.2, h.2, trivial⟩

/-- well-formed detail: the Rust-level invariants (`Spec.wfDetail`) and an encoding below 2^64 bytes -/
def WFd (d : ErrorDetail) : Prop :=
  Spec.RichError.wfDetail d = true ∧ (prost.encDetail d).length < 18446744073709551616

/-- well-formed google.rpc.Status: `int32` code, UTF-8 message and type URLs, encoding below 2^64 bytes -/
def WFs (st : PbStatus) : Prop :=
  (-2147483648 ≤ st.code ∧ st.code < 2147483648) ∧ Utf8Rust.valid st.message = true ∧
  (∀ a ∈ st.details, Utf8Rust.valid a.typeUrl = true) ∧
  (prost.encStatus st).length < 18446744073709551616

theorem prost_detail_law (d : ErrorDetail) (h : WFd d) : prost.decDetail d.kind (prost.encDetail d) = some d := by
  have hsch : (schemaOf d.kind).length + 1 < 536870912 := by cases d <;> simp [ErrorDetail.kind, schemaOf]
  simp only [prost]
  rw [decodeL2_encL2 _ _ hsch (l2Ok_toPb d h.1) h.2]
  simp [ofPb_toPb d h.1]

theorem statusOfPb_statusToPb (st : PbStatus) : statusOfPb (statusToPb st) = st := by
  obtain ⟨c, m, ds⟩ := st
  simp [statusOfPb, statusToPb, getInt, getStr, vStr, getRepFlat, flatStr, svBytes, Function.comp_def]

theorem prost_status_law (st : PbStatus) (h : WFs st) : prost.decStatus (prost.encStatus st) = some st := by
  obtain ⟨hc, hm, hu, hb⟩ := h
  have hok : L2Ok statusSchema (statusToPb st) := by
    refine ⟨hc, hm, ⟨by decide, ?_⟩, trivial⟩
    intro v hv
    obtain ⟨a, ha, rfl⟩ := List.mem_map.mp hv
    exact ⟨hu a ha, trivial, trivial⟩
  simp only [prost]
  rw [decodeL2_encL2 _ _ (by decide) hok hb]
  simp [statusOfPb_statusToPb]

theorem kind_ofPb (k : Kind) (vs : List V2) : (ofPb k vs).kind = k := by cases k <;> rfl

theorem prost_kind_law (k : Kind) (b : Bytes) (d : ErrorDetail) (h : prost.decDetail k b = some d) :
    d.kind = k := by
  simp only [prost, Option.map_eq_some_iff] at h
  obtain ⟨vs, _, rfl⟩ := h
  exact kind_ofPb k vs

theorem prost_laws : prost.Laws WFd WFs := ⟨prost_detail_law, prost_status_law⟩

/-- the encoding of a detail is the payload of a record (field 2 of its `Any`) of a record (field 3)
of the status bytes -/
theorem encDetail_le_status (code : Nat) (msg : Bytes) (ds : List ErrorDetail) (d : ErrorDetail) (h : d ∈ ds) :
    (prost.encDetail d).length ≤ (genDetailsBytes prost code msg (ds.map (intoAny prost))).length := by
  have h1 : (prost.encDetail d).length ≤
      (encFlat [.str, .bytes] [.b (typeUrl d.kind), .b (prost.encDetail d)]).length := by
    by_cases hv : prost.encDetail d = []
    · simp [hv]
    · rw [SpecWire.encFlat_eq, encL2, SpecWire.encL2From_eq]
      exact SpecWire.payloadLen_le _ (2, .len (prost.encDetail d)) (by simp [SpecWire.recsL2From, SpecWire.wires, SpecWire.wireOf, hv])
  refine Nat.le_trans h1 ?_
  rw [genDetailsBytes]
  show _ ≤ (encL2 statusSchema (statusToPb _)).length
  rw [encL2, SpecWire.encL2From_eq]
  exact SpecWire.payloadLen_le _ (3, .len (encFlat [.str, .bytes] [.b (typeUrl d.kind), .b (prost.encDetail d)]))
    (by simp only [statusSchema, statusToPb, SpecWire.recsL2From, SpecWire.wires]; simp; exact ⟨d, h, rfl⟩)

theorem wfs_intoAny (code : Nat) (msg : Bytes) (ds : List ErrorDetail) (hmsg : Utf8Rust.valid msg = true)
    (hcode : code ≤ 16)
    (hsize : (genDetailsBytes prost code msg (ds.map (intoAny prost))).length < 18446744073709551616) :
    WFs ⟨code, msg, ds.map (intoAny prost)⟩ := by
  refine ⟨by show (-2147483648 : Int) ≤ (code : Int) ∧ (code : Int) < 2147483648; omega, hmsg, ?_, hsize⟩
  intro a ha
  obtain ⟨d, _, rfl⟩ := List.mem_map.mp ha
  exact valid_typeUrl _

theorem wf_of_plain (code : Nat) (msg : Bytes) (ds : List ErrorDetail)
    (hwf : ∀ d ∈ ds, Spec.RichError.wfDetail d = true) (hmsg : Utf8Rust.valid msg = true)
    (hcode : code ≤ 16)
    (hsize : (genDetailsBytes prost code msg (ds.map (intoAny prost))).length < 18446744073709551616) :
    (∀ d ∈ ds, WFd d) ∧ WFs ⟨code, msg, ds.map (intoAny prost)⟩ :=
  ⟨fun d hd => ⟨hwf d hd, by have := encDetail_le_status code msg ds d hd; omega⟩,
    wfs_intoAny code msg ds hmsg hcode hsize⟩

end RichError
