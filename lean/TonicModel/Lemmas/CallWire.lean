import TonicModel.Lemmas.Call
import TonicModel.Spec.Call
import TonicModel.Props.C04
import TonicModel.Props.C08
/-
The predicates the C02 theorems are stated in; then what the two `EncodeBody`s put on the wire
(from `run_server` / `run_client`), what the reference decoder makes of it (`batch_wire`), the
event lists of deliveries, and the header and status facts taken from C04 and C08.
-/
namespace Call
open Framing Spec.Framing
variable {α : Type}

/-- the encoder serialises the message, and the serialisation fits the default receive limit
(4 MiB), hence also the 32-bit length -/
def MsgOk (cd : Codec α) (m : α) : Prop := cd.serFail m = false ∧ (cd.ser m).length ≤ defaultMaxRecv

instance (cd : Codec α) (m : α) : Decidable (MsgOk cd m) := by unfold MsgOk; exact inferInstance

/-- no entry named `grpc-encoding`: tonic does not reserve that name, and the peer takes such an
entry in a HEADERS frame for the compression announcement -/
def noEncodingName (m : HMap) : Prop := HMap.getAll GRPC_ENCODING m = []

/-- What the theorems ask of a handler script: messages both ends can carry; error statuses
that are errors (code ≠ OK) with a message that is a Rust `String` (valid UTF-8); and no
metadata entry named `grpc-encoding` where it would travel in response *headers* (tonic does not
reserve that name, and the client would take it for the compression announcement). -/
structure ScriptOk (cd : Codec α) (sc : Script α) : Prop where
  msgs : ∀ m ∈ sc.body.msgs, MsgOk cd m
  early : ∀ st, sc.early = some st → st.code ≠ .ok ∧ Utf8.valid st.message = true ∧ noEncodingName st.metadata
  final : ∀ st, sc.final = some st → st.code ≠ .ok ∧ Utf8.valid st.message = true
  initMd : noEncodingName sc.initMd

/-- `got` is the status `want` as the property demands: same code, message, details, and every
custom metadata entry under its name with its values in order -/
def SameStatus (want got : FSt) : Prop :=
  got.code = want.code ∧ got.message = want.message ∧ got.details = want.details ∧
  ∀ k, k ∉ Spec.Call.protocolNames → HMap.getAll k got.metadata = HMap.getAll k want.metadata

theorem encodeErr_none (c : Cfg α) (server : Bool) (m : α) (h : MsgOk c.cd m) :
    encodeErr c.cd (encCfg c server) m = none := by
  have : ¬ (c.cd.ser m).length > u32Max := by
    simp only [MsgOk, defaultMaxRecv] at h; simp only [u32Max]; omega
  simp [encodeErr, encCfg, Framing.payload, this, h.1]

theorem okPrefix_srcOf (c : Cfg α) (server : Bool) (sched : Sched α) (tail : List (SrcEv α))
    (h : ∀ m ∈ sched.msgs, MsgOk c.cd m) :
    okPrefix c.cd (encCfg c server) (srcOf sched ++ tail) = sched.msgs ++ okPrefix c.cd (encCfg c server) tail ∧
    finalSt c.cd (encCfg c server) (srcOf sched ++ tail) = finalSt c.cd (encCfg c server) tail := by
  induction sched with
  | nil => simp [srcOf, Sched.msgs]
  | cons x xs ih =>
    cases x with
    | none =>
      have := ih (by simpa [Sched.msgs] using h)
      simpa [srcOf, Sched.msgs, okPrefix, finalSt] using this
    | some m =>
      have hm : MsgOk c.cd m := h m (by simp [Sched.msgs])
      have := ih (fun m' hm' => h m' (by simp [Sched.msgs] at hm' ⊢; exact Or.inr hm'))
      simp only [srcOf, Sched.msgs, List.map_cons, List.cons_append, okPrefix, finalSt,
        encodeErr_none c server m hm, List.filterMap_cons, id] at this ⊢
      exact ⟨by rw [this.1], this.2⟩

theorem okPrefix_items (c : Cfg α) (server : Bool) (ms : List α) (h : ∀ m ∈ ms, MsgOk c.cd m) :
    okPrefix c.cd (encCfg c server) (ms.map .item) = ms ∧
    finalSt c.cd (encCfg c server) (ms.map .item) = none := by
  induction ms with
  | nil => simp [okPrefix, finalSt]
  | cons m ms ih =>
    have hm := h m (by simp)
    have := ih (fun m' hm' => h m' (by simp [hm']))
    simp [okPrefix, finalSt, encodeErr_none c server m hm, this]

def wireFrames (cd : Codec α) (ms : List α) : Bytes :=
  Spec.Framing.frames (ms.map (fun m => ((0 : UInt8), cd.ser m)))

theorem framesOf_wire (c : Cfg α) (server : Bool) (ms : List α) :
    framesOf c.cd (encCfg c server) ms = wireFrames c.cd ms := by
  rw [framesOf_eq_spec]
  simp [wireFrames, flagByte, encCfg, Framing.payload]

theorem respData_decorate (c : Cfg α) (sc : Script α) (outs : List FrameOut) :
    respData (outs.map (decorate c sc)) = dataConcat outs := by
  rw [respData, List.map_map]
  exact congrArg List.flatten (List.map_congr_left fun o _ => by cases o <;> rfl)

theorem respTrailers_good (c : Cfg α) (sc : Script α) (cfg : EncCfg) (pre : List FrameOut)
    (h : ∀ o ∈ pre, GoodChunk c.cd cfg o) : respTrailers (pre.map (decorate c sc)) = [] := by
  induction pre with
  | nil => rfl
  | cons o os ih =>
    have := ih fun o' ho' => h o' (List.mem_cons_of_mem _ ho')
    rcases h o List.mem_cons_self with rfl | ⟨d, rfl, _, _⟩ <;> exact this

theorem respTrailers_nones (c : Cfg α) (sc : Script α) (k : Nat) :
    respTrailers ((List.replicate k FrameOut.none).map (decorate c sc)) = [] := by
  induction k with
  | zero => rfl
  | succ k ih => exact ih

theorem reqData_eq (outs : List FrameOut) : reqData outs = dataConcat outs :=
  congrArg List.flatten (List.map_congr_left fun o _ => by cases o <;> rfl)

theorem dataConcat_nones (k : Nat) : dataConcat (List.replicate k FrameOut.none) = [] := by
  induction k with
  | zero => rfl
  | succ k ih => rw [List.replicate_succ, dataConcat_cons, ih]; rfl

theorem reqFailed_good (cd : Codec α) (cfg : EncCfg) (pre : List FrameOut) (k : Nat)
    (h : ∀ o ∈ pre, GoodChunk cd cfg o) : reqFailed (pre ++ List.replicate k .none) = false := by
  simp only [reqFailed, List.any_eq_false, List.mem_append, List.mem_replicate]
  intro o ho
  rcases ho with ho | ⟨_, rfl⟩
  · rcases h o ho with rfl | ⟨d, rfl, _, _⟩ <;> simp
  · simp

/-- the framing-level status the server body's trailers are written from -/
def owedOf (respStream : Bool) (sc : Script α) : Framing.St :=
  if respStream then
    match sc.final with
    | some st => ⟨st.code.num, .user⟩
    | none => St.okSt
  else St.okSt

def respMsgs (respStream : Bool) (sc : Script α) : List α :=
  if respStream then sc.body.msgs else sc.body.msgs.take 1

theorem respMsgs_sublist (respStream : Bool) (sc : Script α) : (respMsgs respStream sc).Sublist sc.body.msgs := by
  cases respStream with
  | true => exact .refl _
  | false => exact List.take_sublist _ _

theorem handlerSrc_len (respStream : Bool) (sc : Script α) :
    (handlerSrc respStream sc).length ≤ sc.body.length + 1 := by
  cases respStream with
  | true => simp only [handlerSrc, ↓reduceIte, List.length_append, srcOf, List.length_map]; cases sc.final <;> simp
  | false =>
    simp only [handlerSrc, Bool.false_eq_true, ↓reduceIte, List.length_map, List.length_take, Sched.msgs]
    have := List.length_filterMap_le id sc.body
    omega

theorem item_mem_srcOf {s : Sched α} {m : α} (h : SrcEv.item m ∈ srcOf s) : m ∈ s.msgs := by
  obtain ⟨x, hx, hxe⟩ := List.mem_map.mp h
  cases x with
  | none => cases hxe
  | some m' => cases hxe; exact List.mem_filterMap.mpr ⟨some m, hx, rfl⟩

theorem item_mem_handlerSrc {respStream : Bool} {sc : Script α} {m : α}
    (h : SrcEv.item m ∈ handlerSrc respStream sc) : m ∈ sc.body.msgs := by
  cases respStream with
  | true =>
    rcases List.mem_append.mp h with h | h
    · exact item_mem_srcOf h
    · cases hf : sc.final <;> simp [hf] at h
  | false =>
    obtain ⟨m', hm', he⟩ := List.mem_map.mp h
    cases he
    exact List.mem_of_mem_take hm'

theorem handlerSrc_owed (c : Cfg α) (respStream : Bool) (sc : Script α) (hm : ∀ m ∈ sc.body.msgs, MsgOk c.cd m) :
    okPrefix c.cd (encCfg c true) (handlerSrc respStream sc) = respMsgs respStream sc ∧
    (finalSt c.cd (encCfg c true) (handlerSrc respStream sc)).getD St.okSt = owedOf respStream sc := by
  cases respStream with
  | true =>
    have key := fun tail => okPrefix_srcOf c true sc.body tail hm
    simp only [handlerSrc, ↓reduceIte, respMsgs, owedOf]
    cases sc.final <;> (rw [(key _).1, (key _).2]; exact ⟨List.append_nil _, rfl⟩)
  | false =>
    obtain ⟨h1, h2⟩ := okPrefix_items c true (sc.body.msgs.take 1) fun m h => hm m (List.mem_of_mem_take h)
    simp only [handlerSrc, Bool.false_eq_true, ↓reduceIte, respMsgs, owedOf, h1, h2]
    exact ⟨trivial, rfl⟩

theorem handlerResponse_ok (c : Cfg α) (n : Nat) (respStream : Bool) (sc : Script α)
    (hearly : sc.early = none) (hm : ∀ m ∈ sc.body.msgs, MsgOk c.cd m) (hn : sc.body.length + 2 < n) :
    (handlerResponse c n respStream sc).status = 200 ∧
    (handlerResponse c n respStream sc).headers = Metadata.responseWire sc.initMd ∧
    respData (handlerResponse c n respStream sc).body = wireFrames c.cd (respMsgs respStream sc) ∧
    (respTrailers (handlerResponse c n respStream sc).body).head? =
      some (trailersOfSt c sc (owedOf respStream sc)) := by
  have hlen := handlerSrc_len respStream sc
  obtain ⟨pre, hrun, hgood, hdata, _⟩ :=
    run_server c.cd (encCfg c true) rfl n none (handlerSrc respStream sc)
      (by simp only [Option.isSome_none, Bool.false_eq_true, ↓reduceIte]; omega)
  obtain ⟨hmsgs, hst⟩ := handlerSrc_owed c respStream sc hm
  simp only [handlerResponse, hearly, Enc.init, hrun, true_and]
  constructor
  · rw [respData_decorate, dataConcat_append, dataConcat_append, hdata, dataConcat_nones, owedData, hmsgs,
      framesOf_wire]
    exact (List.append_nil _).trans (List.append_nil _)
  · rw [List.map_append, List.map_append, respTrailers, List.filterMap_append, List.filterMap_append,
      ← respTrailers, ← respTrailers, ← respTrailers, respTrailers_good c sc (encCfg c true) pre hgood,
      respTrailers_nones, owedSt, hst]
    rfl

theorem clientRequest_ok (c : Cfg α) (n : Nat) (r : CallReq α)
    (hm : ∀ m ∈ r.msgs.msgs, MsgOk c.cd m) (hn : r.msgs.length + 1 < n) :
    (clientRequest c n r).headers = Metadata.requestWire r.md ∧
    reqData (clientRequest c n r).body = wireFrames c.cd r.msgs.msgs ∧
    reqFailed (clientRequest c n r).body = false := by
  have hlen : (srcOf r.msgs).length = r.msgs.length := by simp [srcOf]
  obtain ⟨pre, hgood, hdata, _, hrun⟩ :=
    run_client c.cd (encCfg c false) rfl n none (srcOf r.msgs)
      (by simp only [Option.isSome_none, Bool.false_eq_true, ↓reduceIte, hlen]; omega)
  obtain ⟨h1, h2⟩ := okPrefix_srcOf c false r.msgs [] hm
  simp only [List.append_nil, okPrefix, finalSt] at h1 h2
  simp only [owedSt, h2] at hrun
  have hbody : (clientRequest c n r).body = pre ++ List.replicate (n - pre.length) FrameOut.none := by
    simp only [clientRequest, Enc.init, hrun]
  refine ⟨rfl, ?_, ?_⟩
  · rw [hbody, reqData_eq, dataConcat_append, hdata, dataConcat_nones, owedData, h1, framesOf_wire]
    exact List.append_nil _
  · rw [hbody]; exact reqFailed_good c.cd _ pre _ hgood

theorem RespTransports.unique {sent : HttpResp} {d d' : RespDelivery}
    (h : RespTransports sent d) (h' : RespTransports sent d') :
    d'.status = d.status ∧ d'.headers = d.headers ∧ chunkData d'.chunks = chunkData d.chunks ∧
    d'.trailers = d.trailers :=
  ⟨h'.1.trans h.1.symm, h'.2.1.trans h.2.1.symm, h'.2.2.1.trans h.2.2.1.symm, h'.2.2.2.trans h.2.2.2.symm⟩

theorem clean_chunkEvs (cs : List (Option Bytes)) (tail : List BodyEv) (ht : CleanEvs tail = true) :
    CleanEvs (chunkEvs cs ++ tail) = true := by
  induction cs with
  | nil => exact ht
  | cons x xs ih => cases x <;> exact ih

theorem dataOf_chunkEvs (cs : List (Option Bytes)) (tail : List BodyEv) :
    dataOf (chunkEvs cs ++ tail) = chunkData cs ++ dataOf tail := by
  induction cs with
  | nil => rfl
  | cons x xs ih =>
    cases x with
    | none => exact ih
    | some b => exact (congrArg (b ++ ·) ih).trans (List.append_assoc ..).symm

theorem endTr_chunkEvs (tr : Option Tr) (cs : List (Option Bytes)) (tail : List BodyEv) :
    endTr tr (chunkEvs cs ++ tail) = endTr tr tail := by
  induction cs with
  | nil => rfl
  | cons x xs ih => cases x <;> exact ih

theorem length_chunkEvs (cs : List (Option Bytes)) : (chunkEvs cs).length = cs.length := by
  simp [chunkEvs]

/-- `tail` is `[]` for a request and the trailers frame, if any, for a response. -/
theorem holds_chunkEvs {cd : Codec α} {cfg : DecCfg} {fuel : Nat} {ms : List α} (hk : cfg.skipsBody = false)
    (cs : List (Option Bytes)) (tail : List BodyEv) (hc : CleanEvs tail = true) (hd : dataOf tail = [])
    (hx : specFrom cd cfg Dec.init (chunkData cs) = (ms, .clean)) (hf : cs.length + tail.length < fuel) :
    Holds cd cfg fuel Dec.init (chunkEvs cs ++ tail) ms (endTr none tail) := by
  refine ⟨trivial, clean_chunkEvs cs tail hc, ?_, endTr_chunkEvs none cs tail, ?_⟩
  · rw [accepted_keep hk, dataOf_chunkEvs, hd, List.append_nil]
    exact hx
  · rw [List.length_append, length_chunkEvs]
    exact hf

theorem limit_none (dir : Dir) : ({ enc := none, maxSize := none, dir := dir } : DecCfg).limit = defaultMaxRecv :=
  Option.getD_none

theorem spec_wire (cd : Codec α) (laws : CodecLaws cd) (dir : Dir) (ms : List α) (h : ∀ m ∈ ms, MsgOk cd m) :
    specFrom cd { enc := none, maxSize := none, dir := dir } Dec.init (wireFrames cd ms) = (ms, .clean) := by
  have hb := batch_wire cd { enc := none, maxSize := none, dir := dir } laws (ms.map (⟨·, false⟩)) (by
    intro x hx
    obtain ⟨m, hm, rfl⟩ := List.mem_map.mp hx
    have : (cd.ser m).length ≤ defaultMaxRecv := (h m hm).2
    exact ⟨limit_none dir ▸ this, Nat.lt_of_le_of_lt this (by decide)⟩)
  rw [List.map_map, List.map_map] at hb
  exact hb.trans (congrArg (·, Stop.clean) (List.map_id' ms))

theorem protocolNames_eq : Spec.Call.protocolNames = Spec.Metadata.reserved ++ [Status.GRPC_STATUS_DETAILS] := rfl

/-- What the lemmas of C04 and C08 ask of a name. -/
structure Custom (k : Bytes) : Prop where
  notReserved : k ∉ Spec.Metadata.reserved
  ne_details : k ≠ Status.GRPC_STATUS_DETAILS
  ne_status : k ≠ Status.GRPC_STATUS
  ne_message : k ≠ Status.GRPC_MESSAGE
  ne_contentType : k ≠ Status.CONTENT_TYPE
  isCustom : Status.isCustom k = true

theorem custom_name {k : Bytes} (hk : k ∉ Spec.Call.protocolNames) : Custom k := by
  have hr : k ∉ Spec.Metadata.reserved := fun h => hk (protocolNames_eq ▸ List.mem_append_left _ h)
  have hd : k ≠ Status.GRPC_STATUS_DETAILS :=
    fun h => hk (protocolNames_eq ▸ h ▸ List.mem_append_right _ (List.mem_singleton_self _))
  obtain ⟨hr', hc, hs, hm⟩ := Metadata.not_reserved hr
  exact ⟨hr, hd, hs, hm, hc, by simp [Status.isCustom, hr', hd]⟩

/-- the two Bool oracles `carried` and `exactly` test the same per-name statement, over different
lists of names -/
theorem carried_exactly_of (attached got : HMap)
    (h : ∀ k, k ∉ Spec.Call.protocolNames → HMap.getAll k got = HMap.getAll k attached) :
    Spec.Call.carried attached got = true ∧ Spec.Call.exactly attached got = true := by
  have all (keys : List Bytes) : keys.all (fun k =>
      Spec.Call.protocolNames.contains k || HMap.getAll k got == HMap.getAll k attached) = true := by
    simp only [List.all_eq_true, Bool.or_eq_true, List.contains_iff_mem, beq_iff_eq]
    exact fun k _ => Decidable.or_iff_not_imp_left.mpr (h k)
  exact ⟨all _, all _⟩

theorem exactly_requestWire (md : HMap) : Spec.Call.exactly md (Metadata.requestWire md) = true :=
  (carried_exactly_of _ _ fun k hk => C08.C08_preserved_request md k (custom_name hk).notReserved).2

theorem carried_responseWire (md : HMap) : Spec.Call.carried md (Metadata.responseWire md) = true :=
  (carried_exactly_of _ _ fun k hk => (C08.C08_preserved_response md k (custom_name hk).notReserved).1).1

theorem carried_clientUnaryMetadata (md : HMap) :
    Spec.Call.carried md (Metadata.clientUnaryMetadata md) = true :=
  (carried_exactly_of _ _ fun k hk => (C08.C08_preserved_response md k (custom_name hk).notReserved).2).1

theorem encoding_custom : GRPC_ENCODING ∉ Spec.Call.protocolNames := by
  rw [GRPC_ENCODING, Spec.Call.protocolNames]
  repeat rw [HMap.name_lit]
  decide +kernel

theorem encodingCheck_none (h : HMap) (hh : HMap.getAll GRPC_ENCODING h = []) : encodingCheck h = none := by
  simp [encodingCheck, HMap.get, hh]

theorem encodingCheck_requestWire (md : HMap) (h : noEncodingName md) :
    encodingCheck (Metadata.requestWire md) = none :=
  encodingCheck_none _ ((C08.C08_preserved_request md _ (custom_name encoding_custom).notReserved).trans h)

theorem encodingCheck_responseWire (md : HMap) (h : noEncodingName md) :
    encodingCheck (Metadata.responseWire md) = none :=
  encodingCheck_none _ ((C08.C08_preserved_response md _ (custom_name encoding_custom).notReserved).1.trans h)

/-- response headers never carry a `grpc-status`, so a response with a body is not mistaken for
a trailers-only one -/
theorem fromHeaderMap_responseWire (md : HMap) :
    Status.fromHeaderMap .fixed (Metadata.responseWire md) = none := by
  have hr : Status.GRPC_STATUS ∈ Spec.Metadata.reserved := by simp [Spec.Metadata.reserved, Status.GRPC_STATUS]
  have hnil : HMap.getAll Status.GRPC_STATUS (Metadata.responseWire md) = [] :=
    (C08.C08_reserved_never_emitted md Status.GRPC_STATUS hr).2.trans (HMap.getAll_singleton_ne (Ne.symm Status.contentType_ne.1) _)
  simp [Status.fromHeaderMap, HMap.get, hnil]

/-- `add_header` then `from_header_map`; `h0` is `[]` for trailers and `[content-type]` for a
trailers-only response. -/
theorem status_roundtrip (st : FSt) (h0 : HMap) (hutf : Utf8.valid st.message = true)
    (h0c : ∀ k, k ∉ Spec.Call.protocolNames → HMap.getAll k h0 = [])
    (hm0 : HMap.getAll Status.GRPC_MESSAGE h0 = []) (hd0 : HMap.getAll Status.GRPC_STATUS_DETAILS h0 = []) :
    ∃ st', Status.fromHeaderMap .fixed (Status.wire .fixed st h0) = some (.status st') ∧ SameStatus st st' := by
  obtain ⟨h, hw, hr, hmd⟩ := C04.C04_status_roundtrip st h0 hutf hm0 hd0
  rw [Status.addHeader_eq] at hw
  cases hw
  refine ⟨_, hr, rfl, rfl, rfl, fun k hk => ?_⟩
  have n := custom_name hk
  rw [hmd k, if_neg (by simp [n.ne_status, n.ne_message, n.ne_details]), h0c k hk]
  by_cases hg : HMap.getAll k st.metadata = [] <;> simp [hg, n.isCustom]

theorem getAll_extend_responseWire (m md : HMap) {k : Bytes} (hk : k ∉ Spec.Call.protocolNames)
    (hem : HMap.getAll k md = []) :
    HMap.getAll k (HMap.extend m (Metadata.responseWire md)) = HMap.getAll k m := by
  rw [HMap.getAll_extend_of_getAll, (C08.C08_preserved_response md k (custom_name hk).notReserved).1, if_pos hem]

end Call
