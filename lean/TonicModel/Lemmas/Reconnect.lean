import TonicModel.Model.Reconnect
import TonicModel.Spec.Reconnect
/-
The `Reconnect` state machine of C14, bottom up: one iteration of `poll_ready`, a whole poll, one
request through the worker, a session of requests; with these the single-operation and the
flat-script oracle of `Spec/Reconnect.lean` hold of everything the model does. Then two facts about
scripts: `Pending` answers can be struck out (`strip`) without changing any result, and a script
that no longer fails and still holds `need r` successes makes `r` ready (`driveLoop_quiet`). Last,
`driveLoop` as repeated `loop`, which is how Props/C14 reads `drive` as repeated `poll_ready`.
-/
namespace Reconnect
open ConnScript
open Spec.Reconnect (failures reported closedIds sessClauses sessBuildClauses)

theorem step_spec (r : R) (a : Ans) (hs : r.st ≠ .spent) :
    match step r a with
    | (r', .cont) => r'.error = r.error ∧ r'.st ≠ .spent
    | (r', .done .pending) =>
      -- the last conjunct (polling `r'` again with nothing to read changes nothing) is for
      -- `driveLoop_repolls`
      a = .pending ∧ r'.error = r.error ∧ r'.st ≠ .spent ∧ loop r' [] = (r', [], .pending)
    | (r', .done .ready) =>
      (r'.st = .idle ∧ ∃ e, a = .err e ∧ r'.error = some e) ∨
        (r'.error = r.error ∧ ∃ c, r'.st = .connected c)
    | (r', .done (.failed e)) => a = .err e ∧ r'.error = r.error
    | (_, .done .panic) => False := by
  cases hst : r.st with
  | spent => exact absurd hst hs
  | idle => cases a <;> simp [step, hst, loop]
  | connecting =>
    cases a with
    | err e => cases hl : (r.hasBeen || r.isLazy) <;> simp [step, hst, hl]
    | ok => simp [step, hst]
    | pending => simp [step, hst, loop]
  | connected c => cases a <;> simp [step, hst, loop]

theorem failures_append (a b : List Ans) : failures (a ++ b) = failures a ++ failures b := by
  simp [failures, List.filterMap_append]

theorem mem_failures_cons {e : Nat} {a : Ans} {env : List Ans} (h : e ∈ failures env) :
    e ∈ failures (a :: env) :=
  (failures_append [a] env ▸ List.mem_append_right _ h : e ∈ failures ([a] ++ env))

theorem mem_failures_head (e : Nat) (env : List Ans) : e ∈ failures (.err e :: env) := by
  simp [failures]

/-- What keeps `call` from panicking (`call_of_callable`): an error to hand out or a live
connection. -/
def Callable (r : R) : Prop := r.error.isSome = true ∨ ∃ c, r.st = .connected c

/-- A stored error always sits in the `Idle` state. -/
def Good (r : R) : Prop := r.error.isSome = true → r.st = .idle

/-- How a poll (`loop`, `driveLoop`) entered in `r` with no stored error can end after consuming
`used`, by its verdict: an error stored or returned is a failure inside `used`. -/
def Ended (r : R) (used : List Ans) (r' : R) : Poll → Prop
  | .ready =>
    (r'.st = .idle ∧ ∃ e ∈ failures used, r'.error = some e) ∨
      (r'.error = none ∧ ∃ c, r'.st = .connected c)
  | .pending => r'.error = none ∧ r'.st ≠ .spent
  | .failed e => r'.error = none ∧ e ∈ failures used
  | .panic => r'.error = none ∧ r.st = .spent

namespace Ended
variable {r r₁ r' : R} {a : Ans} {used : List Ans} {p : Poll}

/-- The state a poll started in matters for the `panic` verdict alone, which `r₁`, being in use,
excludes. -/
theorem cons (h₁ : r₁.st ≠ .spent) (h : Ended r₁ used r' p) : Ended r (a :: used) r' p := by
  cases p with
  | ready =>
    rcases h with ⟨hi, e, he, h⟩ | h
    · exact .inl ⟨hi, e, mem_failures_cons he, h⟩
    · exact .inr h
  | pending => exact h
  | failed e => exact ⟨h.1, mem_failures_cons h.2⟩
  | panic => exact absurd h.2 h₁

theorem last (he : r.error = none) (hs : r.st ≠ .spent) (h : step r a = (r', .done p)) :
    Ended r [a] r' p := by
  have hstep := step_spec r a hs
  rw [h] at hstep
  cases p with
  | ready =>
    rcases hstep with ⟨hi, e, rfl, h'⟩ | ⟨h', hc⟩
    · exact .inl ⟨hi, e, mem_failures_head e [], h'⟩
    · exact .inr ⟨h'.trans he, hc⟩
  | pending => exact ⟨hstep.2.1.trans he, hstep.2.2.1⟩
  | failed e => obtain ⟨rfl, h'⟩ := hstep; exact ⟨h'.trans he, mem_failures_head e []⟩
  | panic => exact hstep.elim

theorem spent (he : r.error = none) (hs : r.st = .spent) : Ended r [] r .panic := ⟨he, hs⟩

theorem error_sublist (h : Ended r used r' p) : (r'.error.toList).Sublist (failures used) := by
  cases p with
  | ready =>
    rcases h with ⟨_, e, he, h⟩ | ⟨h, _⟩
    · rw [h]; exact List.singleton_sublist.2 he
    · rw [h]; exact List.nil_sublist _
  | pending => rw [h.1]; exact List.nil_sublist _
  | failed e => rw [h.1]; exact List.nil_sublist _
  | panic => rw [h.1]; exact List.nil_sublist _

theorem good (h : Ended r used r' p) : Good r' := by
  intro hsome
  cases p with
  | ready =>
    rcases h with ⟨hi, _⟩ | ⟨h, _⟩
    · exact hi
    · simp [h] at hsome
  | pending => simp [h.1] at hsome
  | failed e => simp [h.1] at hsome
  | panic => simp [h.1] at hsome

theorem callable (h : Ended r used r' .ready) : Callable r' := by
  rcases h with ⟨_, e, _, h⟩ | ⟨_, hc⟩
  · exact .inl (by simp [h])
  · exact .inr hc

theorem failed_of_spent (h : Ended r used r' p) (hsp : r'.st = .spent) :
    r.st = .spent ∨ ∃ e, p = .failed e := by
  cases p with
  | ready =>
    rcases h with ⟨hi, _⟩ | ⟨_, c, hc⟩
    · simp [hi] at hsp
    · simp [hc] at hsp
  | pending => exact absurd hsp h.2
  | failed e => exact .inr ⟨e, rfl⟩
  | panic => exact .inl h.2

end Ended

theorem loop_nil_rest (r : R) : (loop r []).2.1 = [] := by
  unfold loop
  cases r.st <;> rfl

theorem loop_nil (r : R) (he : r.error = none) : Ended r [] (loop r []).1 (loop r []).2.2 := by
  unfold loop
  cases hst : r.st <;> simp [Ended, he, hst]

theorem loop_spec (r : R) (env : List Ans) (he : r.error = none) :
    ∃ used, env = used ++ (loop r env).2.1 ∧ Ended r used (loop r env).1 (loop r env).2.2 := by
  induction env generalizing r with
  | nil => exact ⟨[], (loop_nil_rest r).symm, loop_nil r he⟩
  | cons a env ih =>
    unfold loop
    by_cases hs : r.st = .spent
    · simp only [hs, if_true]
      exact ⟨[], rfl, .spent he hs⟩
    · simp only [hs, if_false]
      have hstep := step_spec r a hs
      rcases h : step r a with ⟨r', _ | p⟩ <;> rw [h] at hstep
      · obtain ⟨used, h1, h2⟩ := ih r' (hstep.1.trans he)
        exact ⟨a :: used, congrArg (a :: ·) h1, h2.cons hstep.2⟩
      · exact ⟨[a], rfl, .last he hs h⟩

theorem driveLoop_spec (r : R) (env : List Ans) (he : r.error = none) :
    ∃ used, env = used ++ (driveLoop r env).2.1 ∧
      Ended r used (driveLoop r env).1 (driveLoop r env).2.2 ∧
      ((driveLoop r env).2.2 = .pending → (driveLoop r env).2.1 = []) := by
  fun_induction driveLoop r env with
  | case1 r => exact ⟨[], (loop_nil_rest r).symm, loop_nil r he, fun _ => loop_nil_rest r⟩
  | case2 r a env hs => exact ⟨[], rfl, .spent he hs, nofun⟩
  | case3 r a env hs r' h ih =>
    have hstep := step_spec r a hs
    rw [h] at hstep
    obtain ⟨used, h1, h2, h3⟩ := ih (hstep.1.trans he)
    exact ⟨a :: used, congrArg (a :: ·) h1, h2.cons hstep.2, h3⟩
  | case4 r a env hs r' h ih =>
    have hstep := step_spec r a hs
    rw [h] at hstep
    obtain ⟨used, h1, h2, h3⟩ := ih (hstep.2.1.trans he)
    exact ⟨a :: used, congrArg (a :: ·) h1, h2.cons hstep.2.2.1, h3⟩
  | case5 r a env hs r' p h hp => exact ⟨[a], rfl, .last he hs h, fun h' => absurd h' hp⟩

theorem loop_good (r : R) (env : List Ans) (he : r.error = none) : Good (loop r env).1 := by
  obtain ⟨_, _, h⟩ := loop_spec r env he
  exact h.good

/-! ### `poll_ready` and `call` from any state; arbitrary use of the two -/

theorem pollReady_spec (r : R) (env : List Ans) :
    (r.error.isSome = true ∧ pollReady r env = (r, env, .ready)) ∨
    (r.error = none ∧ ∃ used, env = used ++ (pollReady r env).2.1 ∧
      Ended r used (pollReady r env).1 (pollReady r env).2.2) := by
  unfold pollReady
  by_cases he : r.error.isSome = true
  · exact .inl ⟨he, by rw [if_pos he]⟩
  · rw [if_neg he]
    have he := Option.not_isSome_iff_eq_none.1 he
    exact .inr ⟨he, loop_spec r env he⟩

theorem pollReady_consumes (r : R) (env : List Ans) :
    ∃ used, env = used ++ (pollReady r env).2.1 ∧
      ((pollReady r env).1.error.toList).Sublist (r.error.toList ++ failures used) := by
  rcases pollReady_spec r env with ⟨_, h⟩ | ⟨he, used, h1, h2⟩
  · exact ⟨[], by rw [h]; rfl, by rw [h]; exact List.sublist_append_left _ _⟩
  · exact ⟨used, h1, by rw [he]; exact h2.error_sublist⟩

theorem pollReady_good (r : R) (env : List Ans) (h : Good r) : Good (pollReady r env).1 := by
  rcases pollReady_spec r env with ⟨_, hp⟩ | ⟨_, _, _, h2⟩
  · rw [hp]; exact h
  · exact h2.good

theorem pollReady_panic {r : R} {env : List Ans} (h : (pollReady r env).2.2 = .panic) :
    r.st = .spent := by
  rcases pollReady_spec r env with ⟨_, hp⟩ | ⟨_, _, _, h2⟩
  · rw [hp] at h; cases h
  · rw [h] at h2; exact h2.2

theorem pollReady_ready {r : R} {env : List Ans} (h : (pollReady r env).2.2 = .ready) :
    Callable (pollReady r env).1 := by
  rcases pollReady_spec r env with ⟨he, hp⟩ | ⟨_, _, _, h2⟩
  · rw [hp]; exact .inl he
  · rw [h] at h2; exact h2.callable

theorem pollReady_spent {r : R} {env : List Ans} (h : (pollReady r env).1.st = .spent) :
    r.st = .spent ∨ ∃ e, (pollReady r env).2.2 = .failed e := by
  rcases pollReady_spec r env with ⟨_, hp⟩ | ⟨_, _, _, h2⟩
  · rw [hp] at h; exact .inl h
  · exact h2.failed_of_spent h

theorem call_st (r : R) : (call r).1.st = r.st := by
  unfold call
  cases r.error with
  | some e => rfl
  | none => cases hst : r.st <;> simp [hst]

theorem good_init (l : Bool) : Good (R.init l) := by simp [Good, R.init]

theorem call_good (r : R) (_h : Good r) : Good (call r).1 := by
  unfold call
  cases he : r.error with
  | some e => simp [Good]
  | none => cases r.st <;> simp [Good, he]

theorem call_of_callable {r : R} (h : Callable r) : (call r).2 ≠ .panic := by
  unfold call
  rcases h with h | ⟨c, h⟩
  · cases he : r.error with
    | some e => nofun
    | none => simp [he] at h
  · cases r.error <;> simp [h]

theorem call_error_cleared {r : R} {e : Nat} (h : (call r).2 = .error e) : (call r).1.error = none := by
  unfold call at h ⊢
  cases he : r.error with
  | some e' => rfl
  | none => cases hst : r.st <;> simp [he, hst] at h

/-- The connect errors handed to calls by an arbitrary operation sequence, in order. -/
def handed (os : List UOut) : List Nat :=
  os.filterMap fun o => match o with
    | .called (.error e) _ => some e
    | .called (.sent _) _ => none
    | .called .panic _ => none
    | .polled _ _ => none

/-- A stored error is handed out or kept, never both and never dropped: with this the sublist of
`runOps_handed_sublist` steps over a `call`. -/
theorem call_handed (r : R) :
    (match (call r).2 with
      | .error e => [e]
      | .sent _ => []
      | .panic => []) ++ (call r).1.error.toList = r.error.toList := by
  unfold call
  cases he : r.error with
  | some e => simp
  | none => cases r.st <;> simp [he]

theorem runOps_handed_sublist (r : R) (env : List Ans) (ops : List UOp) :
    (handed (runOps r env ops).1).Sublist (r.error.toList ++ failures env) := by
  fun_induction runOps r env ops with
  | case1 => exact List.nil_sublist _
  | case2 => exact List.nil_sublist _
  | case3 r env _ r' env' p hp _ os r'' env'' hrun ih =>
    obtain ⟨used, h1, h2⟩ := pollReady_consumes r env
    rw [hp] at h1 h2
    rw [hrun] at ih
    rw [h1, failures_append, ← List.append_assoc]
    exact ih.trans (List.Sublist.append_right h2 _)
  | case4 => exact List.nil_sublist _
  | case5 r env _ r' o hc hpan os r'' env'' hrun ih =>
    have hh := call_handed r
    rw [hc] at hh
    rw [hrun] at ih
    rw [← hh]
    cases o with
    | panic => exact absurd rfl hpan
    | sent c => exact ih
    | error e => exact ih.cons_cons e

theorem runOps_good (r : R) (env : List Ans) (ops : List UOp) (h : Good r) :
    Good (runOps r env ops).2.1 := by
  fun_induction runOps r env ops with
  | case1 => exact h
  | case2 r env _ r' env' hp => exact (hp ▸ pollReady_good r env h : Good (r', env', Poll.panic).1)
  | case3 r env _ r' env' p hp _ os r'' env'' hrun ih =>
    rw [hrun] at ih
    exact ih (hp ▸ pollReady_good r env h : Good (r', env', p).1)
  | case4 r env _ r' hc => exact (hc ▸ call_good r h : Good (r', CallOut.panic).1)
  | case5 r env _ r' o hc _ os r'' env'' hrun ih =>
    rw [hrun] at ih
    exact ih (hc ▸ call_good r h : Good (r', o).1)

/-! ### the single-operation oracle holds of every operation sequence -/
section unit
open Spec.Reconnect (UnitObs UnitEv unitErrs contractOk unitClauses)

/-- The state as the hook reads it back; `spent` is `Connecting(f)` with `f` finished, so the hook
sees `Connecting`. -/
def stNum : St → Nat
  | .idle => 0
  | .connecting => 1
  | .spent => 1
  | .connected _ => 2

/-- How an operation of the model is seen through the hook (`ReconnectHook::state`). After a panic
nothing is read back: the zeros are what `Driver/C14.parseUnitTok` puts there, and no clause
looks at them. -/
def toObs : UOut → UnitObs
  | .polled .ready r => ⟨.ready, stNum r.st, r.error.isSome, r.hasBeen⟩
  | .polled .pending r => ⟨.pending, stNum r.st, r.error.isSome, r.hasBeen⟩
  | .polled (.failed e) r => ⟨.fail e, stNum r.st, r.error.isSome, r.hasBeen⟩
  | .polled .panic _ => ⟨.pollPanic, 0, false, false⟩
  | .called (.sent c) r => ⟨.sent c, stNum r.st, r.error.isSome, r.hasBeen⟩
  | .called (.error e) r => ⟨.cerr e, stNum r.st, r.error.isSome, r.hasBeen⟩
  | .called .panic _ => ⟨.callPanic, 0, false, false⟩

theorem stNum_eq_two (s : St) : (stNum s == 2) = true ↔ ∃ c, s = .connected c := by
  cases s <;> simp [stNum]

/-- `pr`, `fb` are the two history flags of `contractOk` (the operation before was a `poll_ready`
that said ready; some earlier `poll_ready` returned an error); `hpr`, `hfb` tie them to the state. -/
theorem runOps_contract (r : R) (env : List Ans) (ops : List UOp) (pr fb : Bool)
    (hpr : pr = true → Callable r) (hfb : r.st = .spent → fb = true) :
    contractOk pr fb ((runOps r env ops).1.map toObs) = true := by
  fun_induction runOps r env ops generalizing pr fb with
  | case1 => rfl
  | case2 r env _ r' env' hp =>
    have f1 := @pollReady_panic r env
    rw [hp] at f1
    simp [toObs, contractOk, hfb (f1 rfl)]
  | case3 r env _ r' env' p hp hpan os r'' env'' hrun ih =>
    have f2 := @pollReady_ready r env
    have f3 := @pollReady_spent r env
    rw [hp] at f2 f3
    rw [hrun] at ih
    have hsp : ∀ fb', (∀ e, p ≠ .failed e) → r'.st = .spent → (fb || fb') = true := fun fb' hp h =>
      (f3 h).elim (fun h => by rw [hfb h]; rfl) (fun ⟨e, h⟩ => absurd h (hp e))
    cases p with
    | panic => exact absurd rfl hpan
    | ready => exact ih _ _ (fun _ => f2 rfl) (hsp _ (fun _ h => nomatch h))
    | pending => exact ih _ _ (fun h => nomatch h) (hsp _ (fun _ h => nomatch h))
    | failed e => exact ih _ _ (fun h => nomatch h) (fun _ => Bool.or_true _)
  | case4 r env _ r' hc =>
    have c1 := @call_of_callable r
    rw [hc] at c1
    have : pr = false := Bool.eq_false_iff.2 fun h => c1 (hpr h) rfl
    simp [toObs, contractOk, this]
  | case5 r env _ r' o hc hpan os r'' env'' hrun ih =>
    have hst := call_st r
    rw [hc] at hst
    rw [hrun] at ih
    have hsp : r'.st = .spent → (fb || false) = true := fun h => by rw [hfb (hst ▸ h)]; rfl
    cases o with
    | panic => exact absurd rfl hpan
    | sent c => exact ih _ _ (fun h => nomatch h) hsp
    | error e => exact ih _ _ (fun h => nomatch h) hsp

theorem unitErrs_toObs (os : List UOut) : unitErrs (os.map toObs) = handed os := by
  induction os with
  | nil => rfl
  | cons o os ih =>
    simp only [List.map_cons, unitErrs, handed, List.filterMap_cons] at ih ⊢
    rcases o with ⟨p, r⟩ | ⟨c, r⟩
    · cases p <;> simp only [toObs, ih]
    · cases c <;> simp only [toObs, ih]

/-- The second and third clause of `unitClauses`, said of the model's own output. -/
def UOut.Sound : UOut → Prop
  | .polled .ready r => Callable r
  | .called (.error _) r => r.error = none
  | _ => True

theorem runOps_sound (r : R) (env : List Ans) (ops : List UOp) :
    ∀ o ∈ (runOps r env ops).1, o.Sound := by
  fun_induction runOps r env ops with
  | case1 => exact fun _ h => nomatch h
  | case2 => exact List.forall_mem_singleton.2 trivial
  | case3 r env _ r' env' p hp _ os r'' env'' hrun ih =>
    have hready := @pollReady_ready r env
    rw [hp] at hready
    have head : (UOut.polled p r').Sound := by cases p <;> first | trivial | exact hready rfl
    rw [hrun] at ih
    exact List.forall_mem_cons.2 ⟨head, ih⟩
  | case4 => exact List.forall_mem_singleton.2 trivial
  | case5 r env _ r' o hc _ os r'' env'' hrun ih =>
    have herr := @call_error_cleared r
    rw [hc] at herr
    have head : (UOut.called o r').Sound := by cases o <;> first | trivial | exact herr rfl
    rw [hrun] at ih
    exact List.forall_mem_cons.2 ⟨head, ih⟩

theorem runOps_spec (l : Bool) (env : List Ans) (ops : List UOp) :
    (unitClauses env ((runOps (R.init l) env ops).1.map toObs)).all (·.2) = true := by
  simp only [unitClauses, List.all_cons, List.all_nil, Bool.and_true, Bool.and_eq_true,
    List.all_eq_true, List.mem_map]
  -- the four clauses in the order of `unitClauses`
  refine ⟨?_, ?_, ?_, ?_⟩
  · exact runOps_contract (R.init l) env ops false false (fun h => nomatch h) (fun h => nomatch h)
  · rintro _ ⟨o, ho, rfl⟩
    have h := runOps_sound (R.init l) env ops o ho
    rcases o with ⟨p, r⟩ | ⟨c, r⟩
    · cases p with
      | ready =>
        rcases h with h | ⟨c, h⟩
        · simp [toObs, h]
        · simp [toObs, h, stNum]
      | _ => rfl
    · cases c <;> rfl
  · rintro _ ⟨o, ho, rfl⟩
    have h := runOps_sound (R.init l) env ops o ho
    rcases o with ⟨p, r⟩ | ⟨c, r⟩
    · cases p <;> rfl
    · cases c with
      | error e => simp [toObs, show r.error = none from h]
      | _ => rfl
  · rw [List.isSublist_iff_sublist, unitErrs_toObs]
    exact runOps_handed_sublist (R.init l) env ops
end unit

/-! ### one request through the worker -/

theorem drive_of_none {r : R} (he : r.error = none) (env : List Ans) :
    drive r env = driveLoop r env := by
  simp [drive, he]

theorem serve_stored_error (r : R) (e : Nat) (env : List Ans) (h : r.error = some e) :
    serve r env = ({ r with error := none }, env, .err e) := by
  simp [serve, drive, call, h]

theorem serve_spec (r : R) (env : List Ans) (he : r.error = none) :
    ∃ used, env = used ++ (serve r env).2.1 ∧
      match (serve r env).2.2 with
      | .resp c => (serve r env).1.error = none ∧ (serve r env).1.st = .connected c
      | .err e => e ∈ failures used ∧ (serve r env).1.error = none ∧ (serve r env).1.st = .idle
      | .closed e => e ∈ failures used
      | .hang => (serve r env).2.1 = []
      | .panic => r.st = .spent := by
  obtain ⟨used, h1, h2, h3⟩ := driveLoop_spec r env he
  refine ⟨used, ?_⟩
  unfold serve
  rw [drive_of_none he]
  generalize driveLoop r env = out at h1 h2 h3
  obtain ⟨r1, env1, p⟩ := out
  dsimp only at h1 h2 h3 ⊢
  cases p with
  | ready =>
    rcases h2 with ⟨hi, e, hmem, hsome⟩ | ⟨hnone, c, hc⟩
    · simp [call, hsome, h1, hmem, hi]
    · simp [call, hnone, hc, h1]
  | failed e => exact ⟨h1, h2.2⟩
  | pending => exact ⟨h1, h3 rfl⟩
  | panic => exact ⟨h1, h2.2⟩

theorem serve_connected_ok (r : R) (c : Nat) (rest : List Ans)
    (he : r.error = none) (hs : r.st = .connected c) :
    serve r (.ok :: rest) = ({ r with hasBeen := true }, rest, .resp c) := by
  simp [serve, drive, driveLoop, step, call, he, hs]

theorem serve_idle_connects (r : R) (rest : List Ans)
    (he : r.error = none) (hs : r.st = .idle) :
    serve r (.ok :: .ok :: .ok :: rest) =
      ({ r with st := .connected (r.made + 1), made := r.made + 1, hasBeen := true }, rest,
        .resp (r.made + 1)) := by
  simp [serve, drive, driveLoop, step, call, he, hs]

theorem serve_idle_fails (r : R) (e : Nat) (rest : List Ans)
    (he : r.error = none) (hs : r.st = .idle) (hl : (r.hasBeen || r.isLazy) = true) :
    serve r (.ok :: .err e :: rest) =
      ({ r with st := .idle, made := r.made + 1 }, rest, .err e) := by
  simp [serve, drive, driveLoop, step, call, he, hs, hl]

theorem serve_dead_reconnects (r : R) (c x : Nat) (rest : List Ans)
    (he : r.error = none) (hs : r.st = .connected c) :
    serve r (.err x :: .ok :: .ok :: .ok :: rest) =
      ({ r with st := .connected (r.made + 1), made := r.made + 1, hasBeen := true }, rest,
        .resp (r.made + 1)) := by
  simp [serve, drive, driveLoop, step, call, he, hs]

theorem serve_dead_fails (r : R) (c x e : Nat) (rest : List Ans)
    (he : r.error = none) (hs : r.st = .connected c) :
    serve r (.err x :: .ok :: .err e :: rest) =
      ({ r with st := .idle, made := r.made + 1, hasBeen := true }, rest, .err e) := by
  simp [serve, drive, driveLoop, step, call, he, hs]

/-! ### the flat-script oracle holds of every session -/

theorem reported_replicate_closed (n e : Nat) : reported (List.replicate n (Res.closed e)) = [] := by
  induction n with
  | zero => rfl
  | succ n ih => simp [List.replicate_succ, reported] at ih ⊢

/-- What a session over `env` that leaves `rest` unread allows a single result to be. -/
def Allowed (env rest : List Ans) : Res → Prop
  | .panic => False
  | .hang => rest = []
  | .closed e => e ∈ failures env
  | .resp _ => True
  | .err _ => True

theorem Allowed.append (used : List Ans) {env rest : List Ans} {x : Res} (h : Allowed env rest x) :
    Allowed (used ++ env) rest x := by
  cases x with
  | closed e => exact (failures_append used env ▸ List.mem_append_right _ h : e ∈ failures (used ++ env))
  | _ => exact h

theorem session_spec (n : Nat) : ∀ (r : R) (env : List Ans), r.st ≠ .spent →
    (reported (session r env n).1).Sublist (r.error.toList ++ failures env) ∧
    ∀ x ∈ (session r env n).1, Allowed env (session r env n).2.2 x := by
  induction n with
  | zero => intro r env _; exact ⟨List.nil_sublist _, nofun⟩
  | succ n ih =>
    intro r env hs
    cases he : r.error with
    | some e =>
      obtain ⟨i0, i1⟩ := ih { r with error := none } env hs
      rw [session, serve_stored_error r e env he]
      exact ⟨i0.cons_cons e, List.forall_mem_cons.2 ⟨trivial, i1⟩⟩
    | none =>
      obtain ⟨used, h1, h2⟩ := serve_spec r env he
      unfold session
      generalize serve r env = out at h1 h2
      obtain ⟨r', env', res⟩ := out
      dsimp only at h1 h2 ⊢
      subst h1
      rw [failures_append]
      cases res with
      | closed e =>
        refine ⟨by rw [reported_replicate_closed]; exact List.nil_sublist _, fun x hx => ?_⟩
        cases (List.mem_replicate.1 hx).2
        exact (failures_append used env' ▸ List.mem_append_left _ h2 : e ∈ failures (used ++ env'))
      | hang => exact ⟨List.nil_sublist _, List.forall_mem_singleton.2 h2⟩
      | panic => exact absurd h2 hs
      | resp c =>
        obtain ⟨i0, i1⟩ := ih r' env' (by rw [h2.2]; nofun)
        rw [h2.1] at i0
        exact ⟨i0.trans (List.sublist_append_right _ _),
          List.forall_mem_cons.2 ⟨trivial, fun x hx => (i1 x hx).append used⟩⟩
      | err e0 =>
        obtain ⟨i0, i1⟩ := ih r' env' (by rw [h2.2.2]; nofun)
        rw [h2.2.1] at i0
        exact ⟨List.Sublist.append (List.singleton_sublist.2 h2.1) i0,
          List.forall_mem_cons.2 ⟨trivial, fun x hx => (i1 x hx).append used⟩⟩

theorem closedIds_all (rs : List Res) (p : Nat → Bool) (h : ∀ e, Res.closed e ∈ rs → p e = true) :
    (closedIds rs).all p = true := by
  simp only [List.all_eq_true, closedIds, List.mem_filterMap]
  rintro e ⟨r, hr, hre⟩
  cases r <;> simp at hre
  subst hre
  exact h _ hr

/-- `pre` is the part of the script an eager channel was built over; an error stored then may
still be there. -/
theorem session_clauses (r : R) (pre env : List Ans) (n : Nat) (hs : r.st ≠ .spent)
    (hpre : (r.error.toList).Sublist (failures pre)) :
    (sessClauses (pre ++ env) (session r env n).1 (session r env n).2.2.length).all (·.2) = true := by
  obtain ⟨h0, h⟩ := session_spec n r env hs
  have hp : Res.panic ∉ (session r env n).1 := h _
  simp only [sessClauses, List.all_cons, List.all_nil, Bool.and_true, Bool.and_eq_true]
  refine ⟨by simpa using hp, ?_, ?_, ?_⟩
  · rw [List.isSublist_iff_sublist, failures_append]
    exact h0.trans (List.Sublist.append_right hpre _)
  · by_cases hh : Res.hang ∈ (session r env n).1
    · have : (session r env n).2.2 = [] := h _ hh
      simp [this]
    · simp [hh]
  · apply closedIds_all
    intro e he
    simp only [List.contains_eq_mem, decide_eq_true_eq, failures_append]
    exact List.mem_append_right _ (h _ he)

theorem channelSession_spec (isLazy : Bool) (env : List Ans) (n : Nat) :
    (sessBuildClauses isLazy env (channelSession isLazy env n).1
        (channelSession isLazy env n).2.2.2.length ++
      sessClauses env (channelSession isLazy env n).2.1
        (channelSession isLazy env n).2.2.2.length).all (·.2) = true := by
  unfold channelSession
  cases isLazy with
  | true =>
    rw [if_pos rfl, List.all_append, Bool.and_eq_true]
    exact ⟨rfl, session_clauses (R.init true) [] env n nofun (List.nil_sublist _)⟩
  | false =>
    obtain ⟨used, h1, h2, h3⟩ := driveLoop_spec (R.init false) env rfl
    rw [if_neg nofun, connectEager, drive_of_none rfl]
    generalize driveLoop (R.init false) env = out at h1 h2 h3
    obtain ⟨r', env', p⟩ := out
    dsimp only at h1 h2 h3 ⊢
    subst h1
    cases p with
    | ready =>
      rw [List.all_append, Bool.and_eq_true]
      refine ⟨rfl, session_clauses r' used env' n (fun hsp => ?_) h2.error_sublist⟩
      rcases h2.failed_of_spent hsp with h | ⟨_, h⟩ <;> cases h
    | failed e =>
      -- no call is made, so only `build-fails-only-by-a-failure` has content
      have hmem : e ∈ failures used := h2.2
      simp [sessBuildClauses, sessClauses, reported, closedIds, failures_append, hmem]
    | pending =>
      -- likewise `hang-only-when-environment-silent`, which is `h3`
      simp [sessBuildClauses, sessClauses, reported, closedIds, h3 rfl]
    | panic => exact nomatch h2.2

/-! ### `Pending` answers only delay -/

theorem driveLoop_spent (r : R) (env : List Ans) (hs : r.st = .spent) :
    driveLoop r env = (r, env, .panic) := by
  cases env with
  | nil => simp [driveLoop, loop, hs]
  | cons a env => simp [driveLoop, hs]

/-- In `Connected`, `has_been_connected` is overwritten before anything else happens. -/
theorem driveLoop_touch (r : R) (c : Nat) (env : List Ans) (hs : r.st = .connected c) :
    driveLoop { r with hasBeen := true } env = driveLoop r env := by
  cases env with
  | nil => simp [driveLoop, loop, hs]
  | cons a env =>
    rw [driveLoop, driveLoop]
    cases a <;> simp [step, hs]

theorem driveLoop_pending (r : R) (env : List Ans) (hs : r.st ≠ .spent) :
    driveLoop r (.pending :: env) = driveLoop r env := by
  rw [driveLoop, if_neg hs]
  cases hst : r.st with
  | spent => exact absurd hst hs
  | idle => simp [step, hst]
  | connecting => simp [step, hst]
  | connected c => simpa [step, hst] using driveLoop_touch r c env hst

theorem driveLoop_pendings (r : R) (p : Nat) (env : List Ans) (hs : r.st ≠ .spent) :
    driveLoop r (List.replicate p .pending ++ env) = driveLoop r env := by
  induction p with
  | zero => rfl
  | succ p ih => rw [List.replicate_succ, List.cons_append, driveLoop_pending r _ hs, ih]

theorem driveLoop_attempt_fails (r : R) (p q e : Nat) (rest : List Ans) (hst : r.st = .idle) :
    driveLoop r (List.replicate p .pending ++ .ok :: (List.replicate q .pending ++ .err e :: rest)) =
      if (r.hasBeen || r.isLazy) = true then
        ({ r with st := .idle, error := some e, made := r.made + 1 }, rest, .ready)
      else ({ r with st := .spent, made := r.made + 1 }, rest, .failed e) := by
  rw [driveLoop_pendings r _ _ (by rw [hst]; nofun), driveLoop]
  simp only [hst, step, reduceCtorEq, if_false]
  rw [driveLoop_pendings { r with st := .connecting, made := r.made + 1 } _ _ nofun, driveLoop]
  cases hl : (r.hasBeen || r.isLazy) <;> simp [step, hl]

def strip (env : List Ans) : List Ans := env.filter (· ≠ .pending)

theorem driveLoop_strip (r : R) (env : List Ans) :
    driveLoop r (strip env) =
      ((driveLoop r env).1, strip (driveLoop r env).2.1, (driveLoop r env).2.2) := by
  induction env generalizing r with
  | nil =>
    have := loop_nil_rest r
    rw [strip, List.filter_nil, driveLoop]
    generalize loop r [] = out at this
    obtain ⟨r', env', p⟩ := out
    cases this
    rfl
  | cons a env ih =>
    by_cases hs : r.st = .spent
    · simp [driveLoop_spent _ _ hs]
    · by_cases ha : a = .pending
      · subst ha
        rw [driveLoop_pending r env hs, ← ih]
        simp [strip]
      · have hstrip : strip (a :: env) = a :: strip env := by simp [strip, ha]
        have hstep := step_spec r a hs
        rw [hstrip, driveLoop, driveLoop]
        simp only [hs, if_false]
        rcases h : step r a with ⟨r', _ | p⟩ <;> rw [h] at hstep
        · exact ih r'
        · have hp : p ≠ .pending := fun hp => by subst hp; exact ha hstep.1
          simp [hp]

theorem serve_strip (r : R) (env : List Ans) :
    serve r (strip env) = ((serve r env).1, strip (serve r env).2.1, (serve r env).2.2) := by
  cases he : r.error with
  | some e => rw [serve_stored_error r e _ he, serve_stored_error r e _ he]
  | none =>
    unfold serve
    rw [drive_of_none he, drive_of_none he, driveLoop_strip]
    rcases driveLoop r env with ⟨r1, env1, p⟩
    cases p with
    | ready =>
      simp only
      rcases call r1 with ⟨r', o⟩
      cases o <;> rfl
    | failed e => rfl
    | pending => rfl
    | panic => rfl

/-! ### recovery -/

/-- How many `Ready(Ok)` answers the state machine needs to become ready. -/
def need (r : R) : Nat :=
  match r.st with
  | .connected _ => 1
  | .connecting => 2
  | .idle => 3
  | .spent => 0

/-- The connection that will serve the next call if nothing fails any more. -/
def target (r : R) : Nat :=
  match r.st with
  | .connected c => c
  | .connecting => r.made
  | .idle => r.made + 1
  | .spent => 0

def countOk (env : List Ans) : Nat := (env.filter (· = .ok)).length

def Quiet (env : List Ans) : Prop := ∀ a ∈ env, a = .ok ∨ a = .pending

theorem driveLoop_quiet (env : List Ans) :
    ∀ r : R, r.error = none → r.st ≠ .spent → Quiet env → need r ≤ countOk env →
      (driveLoop r env).2.2 = .ready ∧ (driveLoop r env).1.st = .connected (target r) ∧
      (driveLoop r env).1.error = none := by
  induction env with
  | nil =>
    intro r _ hs _ hn
    -- `countOk [] = 0`, and only a spent `r` needs nothing
    have h0 : need r = 0 := Nat.le_zero.1 hn
    cases hst : r.st <;> simp_all [need]
  | cons a env ih =>
    intro r he hs hq hn
    have hq' : Quiet env := fun b hb => hq b (List.mem_cons_of_mem _ hb)
    rcases hq a (List.mem_cons_self) with rfl | rfl
    · have hcount : countOk (.ok :: env) = countOk env + 1 := by simp [countOk]
      rw [hcount] at hn
      rw [driveLoop, if_neg hs]
      cases hst : r.st with
      | spent => exact absurd hst hs
      | idle =>
        simp only [step, hst]
        have := ih { r with st := .connecting, made := r.made + 1 } he nofun hq'
          (by simp [need, hst] at hn ⊢; omega)
        simpa [target, hst] using this
      | connecting =>
        simp only [step, hst]
        have := ih { r with st := .connected r.made } he nofun hq'
          (by simp [need, hst] at hn ⊢; omega)
        simpa [target, hst] using this
      | connected c => simp [step, hst, target, he]
    · have hcount : countOk (.pending :: env) = countOk env := by simp [countOk]
      rw [hcount] at hn
      rw [driveLoop_pending r env hs]
      exact ih r he hs hq' hn

/-- `serve` reads the script through `driveLoop` alone, so a rewrite of the latter (pendings and a
dead connection skipped, in Props/C14) carries over. -/
theorem serve_congr {r r' : R} {env env' : List Ans} (he : r.error = none) (he' : r'.error = none)
    (h : driveLoop r env = driveLoop r' env') : serve r env = serve r' env' := by
  unfold serve
  rw [drive_of_none he, drive_of_none he', h]

/-- The worker's loop is `loop` entered again for as long as it says `Pending` and the script has
more to say. -/
theorem driveLoop_repolls (r : R) (env : List Ans) :
    driveLoop r env =
      if (loop r env).2.2 = .pending ∧ (loop r env).2.1 ≠ [] then
        driveLoop (loop r env).1 (loop r env).2.1
      else loop r env := by
  fun_induction driveLoop r env with
  | case1 r => simp [loop_nil_rest r]
  | case2 r a env hs => simp [hs, loop]
  | case3 r a env hs r' h ih => simpa only [loop, hs, if_false, h] using ih
  | case4 r a env hs r' h =>
    have hstep := step_spec r a hs
    rw [h] at hstep
    rw [loop, if_neg hs, h]
    cases env with
    | nil => simp [driveLoop, hstep.2.2.2]
    | cons b env => simp
  | case5 r a env hs r' p h hp => simp [loop, hs, h, hp]

end Reconnect
