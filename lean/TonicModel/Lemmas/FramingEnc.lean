import TonicModel.Model.Framing
/-
The encoder model (`Enc.loop`, `Enc.pollNext`, `Enc.pollFrame`, `Enc.run`).  What one run of the
inner loop guarantees (`LoopGood`), in terms of the ghost functions `okPrefix` / `finalSt` that say
what is still owed to the consumer; from it, that no poll panics, that `buffer_size` does not matter,
the shape of a whole run in either role (`run_server`, `run_client`) and what the end flag implies.
-/
namespace Framing
variable {α : Type}

def framesOf (cd : Codec α) (cfg : EncCfg) (ms : List α) : Bytes :=
  (ms.map (frameOf cd cfg)).flatten

@[simp] theorem framesOf_nil (cd : Codec α) (cfg : EncCfg) : framesOf cd cfg [] = [] := rfl
@[simp] theorem framesOf_cons (cd : Codec α) (cfg : EncCfg) (m : α) (ms : List α) :
    framesOf cd cfg (m :: ms) = frameOf cd cfg m ++ framesOf cd cfg ms := by
  simp [framesOf]
theorem framesOf_append (cd : Codec α) (cfg : EncCfg) (a b : List α) :
    framesOf cd cfg (a ++ b) = framesOf cd cfg a ++ framesOf cd cfg b := by
  simp [framesOf]

theorem frameOf_ne_nil (cd : Codec α) (cfg : EncCfg) (m : α) : frameOf cd cfg m ≠ [] := by
  simp [frameOf]

theorem frameOf_length (cd : Codec α) (cfg : EncCfg) (m : α) :
    (frameOf cd cfg m).length = 5 + (payload cd cfg m).length := by
  simp [frameOf, u32be]; omega

theorem reserveCap_eq (bufSize len : Nat) :
    reserveCap bufSize len = some ((len / max 1 bufSize + 1) * max 1 bufSize) := by
  have : max 1 bufSize ≠ 0 := by omega
  simp [reserveCap, udiv, this]

theorem compressCall_eq (cd : Codec α) (bufSize : Nat) (e : Enc) (raw : Bytes) :
    compressCall cd bufSize e raw = some (cd.cz e raw) := by
  rw [compressCall, reserveCap_eq, Option.map_some]

theorem decompressCall_eq (cd : Codec α) (bufSize : Nat) (e : Enc) (pl : Bytes) :
    decompressCall cd bufSize e pl = some (cd.dz e pl) := by
  rw [decompressCall, reserveCap_eq, Option.map_some]

theorem compressPanics_false (cd : Codec α) (cfg : EncCfg) (m : α) : compressPanics cd cfg m = false := by
  simp only [compressPanics]
  cases cfg.comp with
  | none => rfl
  | some e => simp [compressCall_eq]

/-- messages the source produces before its first error / first unencodable message -/
def okPrefix (cd : Codec α) (cfg : EncCfg) : List (SrcEv α) → List α
  | [] => []
  | .pending :: r => okPrefix cd cfg r
  | .err _ :: _ => []
  | .item m :: r => match encodeErr cd cfg m with
    | some _ => []
    | none => m :: okPrefix cd cfg r

/-- the status of that first failure, if any -/
def finalSt (cd : Codec α) (cfg : EncCfg) : List (SrcEv α) → Option St
  | [] => none
  | .pending :: r => finalSt cd cfg r
  | .err st :: _ => some st
  | .item m :: r => match encodeErr cd cfg m with
    | some st => some st
    | none => finalSt cd cfg r

/-- The last conjunct for `.data` is the progress `run_prefix` counts polls by: events left, plus one
for a latched error.  A chunk that only flushes a non-empty `buf` takes nothing off, hence the
allowance on the right. -/
def LoopGood (cd : Codec α) (cfg : EncCfg) (buf : Bytes) (evs : List (SrcEv α))
    (s' : EncSt) (evs' : List (SrcEv α)) (o : BytesOut) : Prop :=
  s'.buf = [] ∧ evs'.length ≤ evs.length ∧
  match o with
  | .data d =>
    ∃ ms, d = buf ++ framesOf cd cfg ms ∧ d ≠ [] ∧
      okPrefix cd cfg evs = ms ++ (if s'.error.isSome then [] else okPrefix cd cfg evs') ∧
      finalSt cd cfg evs = (match s'.error with | some st => some st | none => finalSt cd cfg evs') ∧
      evs'.length + (if s'.error.isSome then 1 else 0) < evs.length + (if buf = [] then 0 else 1)
  | .pending =>
    buf = [] ∧ s'.error = none ∧ okPrefix cd cfg evs = okPrefix cd cfg evs' ∧
      finalSt cd cfg evs = finalSt cd cfg evs' ∧ evs'.length < evs.length
  | .err st => buf = [] ∧ s'.error = none ∧ okPrefix cd cfg evs = [] ∧ finalSt cd cfg evs = some st
  | .done => buf = [] ∧ s'.error = none ∧ evs = [] ∧ evs' = []
  | .panic => False

theorem loop_item (cd : Codec α) (cfg : EncCfg) (buf : Bytes) (m : α) (rest : List (SrcEv α)) :
    Enc.loop cd cfg buf (.item m :: rest) =
      match encodeErr cd cfg m with
      | some st => if buf.isEmpty then (⟨[], none⟩, rest, .err st) else (⟨[], some st⟩, rest, .data buf)
      | none =>
        if (buf ++ frameOf cd cfg m).length ≥ cfg.yieldThr then (⟨[], none⟩, rest, .data (buf ++ frameOf cd cfg m))
        else Enc.loop cd cfg (buf ++ frameOf cd cfg m) rest := by
  rw [Enc.loop, compressPanics_false, encodeItem]
  cases encodeErr cd cfg m <;> rfl

/-- Where the loop stops without appending (end of source, `Pending`, an error, a refused message):
an empty buffer reports the event `x` itself, a non-empty one is flushed first and the error, if
any, latched as `e`. -/
theorem flush_good (cd : Codec α) (cfg : EncCfg) (buf : Bytes) (evs rest : List (SrcEv α)) (x : BytesOut)
    (e : Option St) (r : EncSt × List (SrcEv α) × BytesOut)
    (hr : r = if buf.isEmpty then (⟨[], none⟩, rest, x) else (⟨[], e⟩, rest, .data buf))
    (hx : LoopGood cd cfg [] evs ⟨[], none⟩ rest x)
    (hok : okPrefix cd cfg evs = if e.isSome then [] else okPrefix cd cfg rest)
    (hfin : finalSt cd cfg evs = e.or (finalSt cd cfg rest))
    (hlen : rest.length + (if e.isSome then 1 else 0) ≤ evs.length) :
    LoopGood cd cfg buf evs r.1 r.2.1 r.2.2 := by
  subst hr
  cases buf with
  | nil => exact hx
  | cons b bs =>
    show LoopGood cd cfg (b :: bs) evs ⟨[], e⟩ rest (.data (b :: bs))
    refine ⟨rfl, by omega, [], by simp, by simp, by simpa using hok, by cases e <;> exact hfin, ?_⟩
    simp only [reduceCtorEq, if_false]
    omega

theorem loop_good (cd : Codec α) (cfg : EncCfg) (evs : List (SrcEv α)) : ∀ (buf : Bytes),
    LoopGood cd cfg buf evs (Enc.loop cd cfg buf evs).1 (Enc.loop cd cfg buf evs).2.1
      (Enc.loop cd cfg buf evs).2.2 := by
  induction evs with
  | nil =>
    intro buf
    rw [Enc.loop]
    exact flush_good cd cfg buf [] [] .done none _ rfl (by simp [LoopGood]) rfl rfl (Nat.le_refl _)
  | cons ev rest ih =>
    intro buf
    cases ev with
    | pending =>
      rw [Enc.loop]
      exact flush_good cd cfg buf _ rest .pending none _ rfl (by simp [LoopGood, okPrefix, finalSt]) rfl rfl
        (Nat.le_succ _)
    | err st =>
      rw [Enc.loop]
      exact flush_good cd cfg buf _ rest (.err st) (some st) _ rfl (by simp [LoopGood, okPrefix, finalSt]) rfl rfl
        (Nat.le_refl _)
    | item m =>
      rw [loop_item]
      cases he : encodeErr cd cfg m with
      | some st =>
        exact flush_good cd cfg buf _ rest (.err st) (some st) _ rfl (by simp [LoopGood, okPrefix, finalSt, he])
          (by simp [okPrefix, he]) (by simp [finalSt, he]) (Nat.le_refl _)
      | none =>
        have hne : buf ++ frameOf cd cfg m ≠ [] := by simp [frameOf_ne_nil]
        dsimp only
        split
        · exact ⟨rfl, Nat.le_succ _, [m], by simp, hne, by simp [okPrefix, he], by simp [finalSt, he],
            by simp only [Option.isSome_none, Bool.false_eq_true, if_false, List.length_cons]; omega⟩
        · -- the loop goes on with a non-empty buffer, so it ends in a data chunk: prepend `m`
          obtain ⟨h1, h2, h3⟩ := ih (buf ++ frameOf cd cfg m)
          generalize Enc.loop cd cfg (buf ++ frameOf cd cfg m) rest = r at h1 h2 h3
          obtain ⟨s', evs', o⟩ := r
          refine ⟨h1, Nat.le_succ_of_le h2, ?_⟩
          cases o with
          | data d =>
            obtain ⟨ms, hd, hd', hok, hfin, hprog⟩ := h3
            rw [if_neg hne] at hprog
            exact ⟨m :: ms, by simp [hd], hd', by simp [okPrefix, he, hok], by simp [finalSt, he, hfin],
              Nat.lt_add_right _ hprog⟩
          | pending => exact absurd h3.1 hne
          | err st => exact absurd h3.1 hne
          | done => exact absurd h3.1 hne
          | panic => exact h3

theorem pollNext_ne_panic (cd : Codec α) (cfg : EncCfg) (s : EncSt) (evs : List (SrcEv α)) :
    (Enc.pollNext cd cfg s evs).2.2 ≠ .panic := by
  unfold Enc.pollNext
  cases s.error with
  | some st => simp
  | none =>
    intro hp
    have h := loop_good cd cfg evs s.buf
    rw [hp] at h
    exact h.2.2

theorem pollFrame_ne_panic (cd : Codec α) (cfg : EncCfg) (b : BodySt) (evs : List (SrcEv α)) :
    (Enc.pollFrame cd cfg b evs).2.2 ≠ .panic := by
  have h := pollNext_ne_panic cd cfg b.inner evs
  unfold Enc.pollFrame
  generalize Enc.pollNext cd cfg b.inner evs = r at h
  obtain ⟨s', evs', o⟩ := r
  -- by end flag, what `poll_next` returned and the role: `poll_frame` adds no panic of its own
  cases b.isEndStream <;> cases o <;> cases cfg.server <;> simp at h ⊢

theorem run_forall (cd : Codec α) (cfg : EncCfg) (P : FrameOut → Prop)
    (step : ∀ (b : BodySt) (evs : List (SrcEv α)), P (Enc.pollFrame cd cfg b evs).2.2) (n : Nat) :
    ∀ (b : BodySt) (evs : List (SrcEv α)), ∀ o ∈ Enc.run cd cfg n b evs, P o := by
  induction n with
  | zero => intro b evs o ho; simp [Enc.run] at ho
  | succ n ih =>
    intro b evs o ho
    rcases List.mem_cons.mp ho with rfl | ho
    · exact step b evs
    · exact ih _ _ o ho

theorem run_ne_panic (cd : Codec α) (cfg : EncCfg) (n : Nat) : ∀ (b : BodySt) (evs : List (SrcEv α)),
    ∀ o ∈ Enc.run cd cfg n b evs, o ≠ .panic :=
  run_forall cd cfg (· ≠ .panic) (pollFrame_ne_panic cd cfg) n

theorem loop_bufSize (cd : Codec α) (cfg : EncCfg) (k : Nat) (evs : List (SrcEv α)) : ∀ (buf : Bytes),
    Enc.loop cd { cfg with bufSize := k } buf evs = Enc.loop cd cfg buf evs := by
  induction evs with
  | nil => intro buf; simp [Enc.loop]
  | cons ev rest ih =>
    intro buf
    cases ev with
    | pending => simp [Enc.loop]
    | err st => simp [Enc.loop]
    | item m =>
      -- `encode_item` does not read `buffer_size`
      rw [loop_item, loop_item, ih]
      rfl

theorem pollFrame_bufSize (cd : Codec α) (cfg : EncCfg) (k : Nat) (b : BodySt) (evs : List (SrcEv α)) :
    Enc.pollFrame cd { cfg with bufSize := k } b evs = Enc.pollFrame cd cfg b evs := by
  simp only [Enc.pollFrame, Enc.pollNext, loop_bufSize]

theorem run_bufSize (cd : Codec α) (cfg : EncCfg) (k : Nat) (n : Nat) : ∀ (b : BodySt) (evs : List (SrcEv α)),
    Enc.run cd { cfg with bufSize := k } n b evs = Enc.run cd cfg n b evs := by
  induction n with
  | zero => intros; rfl
  | succ n ih =>
    intro b evs
    simp only [Enc.run, pollFrame_bufSize]
    generalize Enc.pollFrame cd cfg b evs = r
    obtain ⟨b', evs', o⟩ := r
    simp only [ih]

theorem trace_run (cd : Codec α) (cfg : EncCfg) (n : Nat) : ∀ (b : BodySt) (evs : List (SrcEv α)),
    (Enc.trace cd cfg n b evs).1.map (·.2) = Enc.run cd cfg n b evs := by
  induction n with
  | zero => intros; rfl
  | succ n ih =>
    intro b evs
    simp only [Enc.trace, Enc.run]
    generalize Enc.pollFrame cd cfg b evs = r
    obtain ⟨b', evs', o⟩ := r
    simp [ih]

theorem trace_flags (cd : Codec α) (cfg : EncCfg) (n : Nat) : ∀ (b : BodySt) (evs : List (SrcEv α)),
    (Enc.trace cd cfg n b evs).1.map (·.1) ++ [(Enc.trace cd cfg n b evs).2] = Enc.endFlags cd cfg n b evs := by
  induction n with
  | zero => intros; rfl
  | succ n ih =>
    intro b evs
    simp only [Enc.trace, Enc.endFlags]
    generalize Enc.pollFrame cd cfg b evs = r
    obtain ⟨b', evs', o⟩ := r
    simp [ih]

def FrameOut.bytes : FrameOut → Bytes
  | .data b => b
  | _ => []

def dataConcat (outs : List FrameOut) : Bytes := (outs.map FrameOut.bytes).flatten

@[simp] theorem dataConcat_nil : dataConcat [] = [] := rfl
@[simp] theorem dataConcat_cons (o : FrameOut) (os : List FrameOut) :
    dataConcat (o :: os) = o.bytes ++ dataConcat os := by simp [dataConcat]
theorem dataConcat_append (a b : List FrameOut) : dataConcat (a ++ b) = dataConcat a ++ dataConcat b := by
  simp [dataConcat]

def WholeFrames (cd : Codec α) (cfg : EncCfg) (d : Bytes) : Prop := ∃ ms, d = framesOf cd cfg ms

/-- Outputs allowed before the end of a body: pending, or a non-empty chunk of whole frames. -/
def GoodChunk (cd : Codec α) (cfg : EncCfg) (o : FrameOut) : Prop :=
  o = .pending ∨ ∃ d, o = .data d ∧ d ≠ [] ∧ WholeFrames cd cfg d

theorem run_none (cd : Codec α) (cfg : EncCfg) (b : BodySt) (evs : List (SrcEv α))
    (h : Enc.pollFrame cd cfg b evs = (b, evs, .none)) (n : Nat) :
    Enc.run cd cfg n b evs = List.replicate n .none := by
  induction n with
  | zero => rfl
  | succ n ih => rw [Enc.run, h, List.replicate_succ, ← ih]

theorem run_ended (cd : Codec α) (cfg : EncCfg) (n : Nat) (b : BodySt) (evs : List (SrcEv α))
    (h : b.isEndStream = true) : Enc.run cd cfg n b evs = List.replicate n .none :=
  run_none cd cfg b evs (by rw [Enc.pollFrame, if_pos h]) n

/-- what is still owed, from a between-polls state (`buf` is always empty there) -/
def owedData (cd : Codec α) (cfg : EncCfg) (e : Option St) (evs : List (SrcEv α)) : Bytes :=
  match e with
  | some _ => []
  | none => framesOf cd cfg (okPrefix cd cfg evs)

def owedSt (cd : Codec α) (cfg : EncCfg) (e : Option St) (evs : List (SrcEv α)) : Option St :=
  match e with
  | some st => some st
  | none => finalSt cd cfg evs

/-- Either role, `n` polls from the between-polls state with latched error `e`: the polls first
yield good chunks carrying exactly the owed data (`pre`), and leave a between-polls state whose next
poll is the last event — the owed status as an error of `poll_next`, or, when nothing is owed, the
end of the source.  What the body makes of that last event is the only place where the roles differ. -/
def RunPrefix (cd : Codec α) (cfg : EncCfg) (n : Nat) (e : Option St) (evs : List (SrcEv α)) : Prop :=
  ∃ pre e' evs', Enc.run cd cfg n ⟨⟨[], e⟩, false⟩ evs
      = pre ++ Enc.run cd cfg (n - pre.length) ⟨⟨[], e'⟩, false⟩ evs' ∧
    (∀ o ∈ pre, GoodChunk cd cfg o) ∧ dataConcat pre = owedData cd cfg e evs ∧ pre.length < n ∧
    match owedSt cd cfg e evs with
    | some st => ∃ s1 evs1, Enc.pollNext cd cfg ⟨[], e'⟩ evs' = (s1, evs1, .err st)
    | none => e' = none ∧ evs' = []

theorem RunPrefix.cons {cd : Codec α} {cfg : EncCfg} {n : Nat} {e e' : Option St} {evs evs' : List (SrcEv α)}
    (x : FrameOut) (hx : GoodChunk cd cfg x)
    (hrun : Enc.run cd cfg (n + 1) ⟨⟨[], e⟩, false⟩ evs = x :: Enc.run cd cfg n ⟨⟨[], e'⟩, false⟩ evs')
    (hdata : x.bytes ++ owedData cd cfg e' evs' = owedData cd cfg e evs)
    (hst : owedSt cd cfg e evs = owedSt cd cfg e' evs') (h : RunPrefix cd cfg n e' evs') :
    RunPrefix cd cfg (n + 1) e evs := by
  obtain ⟨pre, e2, evs2, h1, h2, h3, h4, h5⟩ := h
  refine ⟨x :: pre, e2, evs2, by simp [hrun, h1], ?_, by simp [h3, hdata], by simp; omega, by rw [hst]; exact h5⟩
  intro o ho
  rcases List.mem_cons.mp ho with rfl | ho
  · exact hx
  · exact h2 o ho

theorem run_prefix (cd : Codec α) (cfg : EncCfg) (n : Nat) :
    ∀ (e : Option St) (evs : List (SrcEv α)),
      evs.length + (if e.isSome then 1 else 0) + 1 < n + 1 → RunPrefix cd cfg n e evs := by
  induction n with
  | zero => intro e evs h; omega
  | succ n ih =>
    intro e evs hn
    cases e with
    -- a latched error is the last event
    | some st => exact ⟨[], some st, evs, rfl, by simp, rfl, by simp, _, _, rfl⟩
    | none =>
      have hn' : evs.length < n + 1 := by simpa using hn
      have hg := loop_good cd cfg evs []
      generalize hr : Enc.loop cd cfg [] evs = r at hg
      obtain ⟨⟨b', e'⟩, evs', o⟩ := r
      obtain ⟨hbuf, hlen, hcase⟩ := hg
      dsimp only at hbuf hlen hcase
      subst hbuf
      cases o with
      | panic => exact hcase.elim
      | done =>
        obtain ⟨_, _, rfl, _⟩ := hcase
        exact ⟨[], none, [], rfl, by simp, rfl, by simp, rfl, rfl⟩
      | err st =>
        obtain ⟨_, _, hok, hfin⟩ := hcase
        refine ⟨[], none, evs, rfl, by simp, by simp [owedData, hok], by simp, ?_⟩
        simp only [owedSt, hfin, Enc.pollNext]
        exact ⟨_, _, hr⟩
      | pending =>
        obtain ⟨_, rfl, hok, hfin, hlt⟩ := hcase
        exact .cons .pending (Or.inl rfl) (by simp [Enc.run, Enc.pollFrame, Enc.pollNext, hr])
          (by simp [FrameOut.bytes, owedData, hok]) (by simp [owedSt, hfin])
          (ih none evs' (by simp only [Option.isSome_none, Bool.false_eq_true, if_false]; omega))
      | data d =>
        obtain ⟨ms, hd, hne, hok, hfin, hprog⟩ := hcase
        refine .cons (.data d) (Or.inr ⟨d, rfl, hne, ms, by simpa using hd⟩)
          (by simp [Enc.run, Enc.pollFrame, Enc.pollNext, hr]) ?_ (by simp only [owedSt, hfin])
          (ih e' evs' (by simp only [if_true] at hprog; omega))
        simp only [FrameOut.bytes, owedData, hok, hd, List.nil_append]
        cases e' <;> simp [framesOf_append]

/-- Server body, from any between-polls state: after enough polls the outputs are good chunks
carrying exactly the owed data, one trailers frame with the owed status, then `none` forever. -/
theorem run_server (cd : Codec α) (cfg : EncCfg) (hs : cfg.server = true) (n : Nat) :
    ∀ (e : Option St) (evs : List (SrcEv α)),
      evs.length + (if e.isSome then 1 else 0) + 1 < n + 1 →
      ∃ pre, Enc.run cd cfg n ⟨⟨[], e⟩, false⟩ evs
          = pre ++ [.trailers ((owedSt cd cfg e evs).getD St.okSt)] ++ List.replicate (n - pre.length - 1) .none ∧
        (∀ o ∈ pre, GoodChunk cd cfg o) ∧ dataConcat pre = owedData cd cfg e evs ∧ pre.length < n := by
  intro e evs hn
  obtain ⟨pre, e', evs', hrun, hgood, hdata, hpl, hlast⟩ := run_prefix cd cfg n e evs hn
  refine ⟨pre, ?_, hgood, hdata, hpl⟩
  obtain ⟨k, hk⟩ : ∃ k, n - pre.length = k + 1 := ⟨n - pre.length - 1, by omega⟩
  rw [hrun, hk, List.append_assoc, Nat.add_sub_cancel]
  congr 1
  -- the last event becomes the trailers frame and ends the body
  simp only [Enc.run, Enc.pollFrame, Bool.false_eq_true, if_false, hs, if_true]
  cases ho : owedSt cd cfg e evs with
  | some st =>
    rw [ho] at hlast
    obtain ⟨s1, evs1, h⟩ := hlast
    simp [h, run_ended]
  | none =>
    rw [ho] at hlast
    obtain ⟨rfl, rfl⟩ := hlast
    simp [Enc.pollNext, Enc.loop, run_ended]

/-- Client body, from any between-polls state: good chunks carrying exactly the owed data, then
the first failure as an error (after which the caller stops polling), or `none` for ever; never
a trailers frame before that point. -/
theorem run_client (cd : Codec α) (cfg : EncCfg) (hs : cfg.server = false) (n : Nat) :
    ∀ (e : Option St) (evs : List (SrcEv α)),
      evs.length + (if e.isSome then 1 else 0) + 1 < n + 1 →
      ∃ pre, (∀ o ∈ pre, GoodChunk cd cfg o) ∧ dataConcat pre = owedData cd cfg e evs ∧ pre.length < n ∧
        match owedSt cd cfg e evs with
        | some st => ∃ post, Enc.run cd cfg n ⟨⟨[], e⟩, false⟩ evs = pre ++ .err st :: post
        | none => Enc.run cd cfg n ⟨⟨[], e⟩, false⟩ evs = pre ++ List.replicate (n - pre.length) .none := by
  intro e evs hn
  obtain ⟨pre, e', evs', hrun, hgood, hdata, hpl, hlast⟩ := run_prefix cd cfg n e evs hn
  refine ⟨pre, hgood, hdata, hpl, ?_⟩
  cases ho : owedSt cd cfg e evs with
  | some st =>
    -- the last event is passed on as an error
    rw [ho] at hlast
    obtain ⟨k, hk⟩ : ∃ k, n - pre.length = k + 1 := ⟨n - pre.length - 1, by omega⟩
    rw [hrun, hk]
    simp only [Enc.run, Enc.pollFrame, Bool.false_eq_true, if_false, hs]
    obtain ⟨s1, evs1, h⟩ := hlast
    rw [h]
    exact ⟨_, rfl⟩
  | none =>
    rw [ho] at hlast
    obtain ⟨rfl, rfl⟩ := hlast
    dsimp only
    rw [hrun, run_none cd cfg _ _ (by simp [Enc.pollFrame, Enc.pollNext, Enc.loop, hs])]

theorem pollFrame_end (cd : Codec α) (cfg : EncCfg) (b : BodySt) (evs : List (SrcEv α))
    (hb : b.isEndStream = false) (h : (Enc.pollFrame cd cfg b evs).1.isEndStream = true) :
    cfg.server = true ∧ ∃ st, (Enc.pollFrame cd cfg b evs).2.2 = .trailers st := by
  unfold Enc.pollFrame at h ⊢
  generalize Enc.pollNext cd cfg b.inner evs = r at h ⊢
  obtain ⟨s', evs', o⟩ := r
  -- by what `poll_next` returned and the role: only a server's error / end sets the flag
  cases o <;> cases hs : cfg.server <;> simp [hb, hs] at h ⊢

theorem endFlags_ended (cd : Codec α) (cfg : EncCfg) (n : Nat) : ∀ (b : BodySt) (evs : List (SrcEv α)),
    b.isEndStream = true → Enc.endFlags cd cfg n b evs = List.replicate (n + 1) true := by
  induction n with
  | zero => intro b evs h; simp [Enc.endFlags, Enc.isEndStream, h]
  | succ n ih =>
    intro b evs h
    simp only [Enc.endFlags, Enc.pollFrame, h, ↓reduceIte, Enc.isEndStream]
    rw [ih b evs h]
    simp [List.replicate_succ]

theorem endFlags_sound (cd : Codec α) (cfg : EncCfg) (n : Nat) : ∀ (b : BodySt) (evs : List (SrcEv α)),
    b.isEndStream = false → ∀ (i : Nat), (Enc.endFlags cd cfg n b evs)[i]? = some true →
    cfg.server = true ∧ (∃ (j : Nat) (st : St), j < i ∧ (Enc.run cd cfg n b evs)[j]? = some (FrameOut.trailers st)) ∧
    ∀ (j : Nat) (o : FrameOut), i ≤ j → (Enc.run cd cfg n b evs)[j]? = some o → o = FrameOut.none := by
  induction n with
  | zero => intro b evs hb i hi; cases i <;> simp [Enc.endFlags, Enc.isEndStream, hb] at hi
  | succ n ih =>
    intro b evs hb i hi
    cases i with
    | zero => simp [Enc.endFlags, Enc.isEndStream, hb] at hi
    | succ i =>
      have hend := pollFrame_end cd cfg b evs hb
      simp only [Enc.endFlags, Enc.run] at hi ⊢
      generalize Enc.pollFrame cd cfg b evs = r at hi hend ⊢
      obtain ⟨b', evs', o⟩ := r
      simp only [List.getElem?_cons_succ] at hi
      cases hb' : b'.isEndStream with
      -- not ended by this poll: the trailers frame comes later, one place on
      | false =>
        obtain ⟨hs, ⟨j, st, hj, hrun⟩, hafter⟩ := ih b' evs' hb' i hi
        refine ⟨hs, ⟨j + 1, st, by omega, by simpa using hrun⟩, ?_⟩
        intro j' o' hle hget
        cases j' with
        | zero => omega
        | succ j' => exact hafter j' o' (by omega) (by simpa using hget)
      -- this poll ended the body: it returned the trailers frame, and every later poll returns `none`
      | true =>
        obtain ⟨hs, st, ho⟩ := hend hb'
        dsimp only at ho
        subst ho
        refine ⟨hs, ⟨0, st, by omega, by simp⟩, ?_⟩
        intro j' o' hle hget
        cases j' with
        | zero => omega
        | succ j' =>
          rw [run_ended cd cfg n b' evs' hb'] at hget
          simp only [List.getElem?_cons_succ] at hget
          have := List.mem_of_getElem? hget
          exact (List.mem_replicate.mp this).2

/-- a prefix of a schedule that cannot fail: `Pending`s and encodable items only -/
def AllOk (cd : Codec α) (cfg : EncCfg) : List (SrcEv α) → Prop
  | [] => True
  | .pending :: r => AllOk cd cfg r
  | .item m :: r => encodeErr cd cfg m = none ∧ AllOk cd cfg r
  | .err _ :: _ => False

def itemsOfEvs : List (SrcEv α) → List α
  | [] => []
  | .item m :: r => m :: itemsOfEvs r
  | _ :: r => itemsOfEvs r

theorem okPrefix_append (cd : Codec α) (cfg : EncCfg) (pre tail : List (SrcEv α)) (h : AllOk cd cfg pre) :
    okPrefix cd cfg (pre ++ tail) = itemsOfEvs pre ++ okPrefix cd cfg tail ∧
    finalSt cd cfg (pre ++ tail) = finalSt cd cfg tail := by
  induction pre with
  | nil => simp [itemsOfEvs]
  | cons ev r ih =>
    cases ev with
    | pending => simpa [okPrefix, itemsOfEvs, finalSt] using ih h
    | err st => exact absurd h (by simp [AllOk])
    | item m =>
      obtain ⟨he, hr⟩ := h
      simp [okPrefix, itemsOfEvs, finalSt, he, ih hr]

theorem serFail_encodeErr (cd : Codec α) (cfg : EncCfg) (m : α) (h : cd.serFail m = true) :
    encodeErr cd cfg m = some ⟨13, .encode⟩ := by
  simp [encodeErr, h]

end Framing
