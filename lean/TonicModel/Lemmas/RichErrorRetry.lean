import TonicModel.Model.RichError
/-
`prost_types::Duration::normalize` in two stages (`stage1` carries whole seconds out of the nanos,
saturating; `stage2` makes the two signs agree), and when its seconds come out as `i64::MIN` (the
trigger of the panic in `From<pb::RetryInfo>` before fix-C20-retry-delay-i64-min), in terms of
the RAW `(seconds, nanos)` a peer sends.
-/
namespace RichError

theorem tdiv_tmod_facts (n : Int) : n = 1000000000 * n.tdiv nanosPerSec + n.tmod nanosPerSec ∧
    (n < 0 ∨ (0 ≤ n.tmod nanosPerSec ∧ n.tmod nanosPerSec < 1000000000)) ∧
    (0 < n ∨ (-1000000000 < n.tmod nanosPerSec ∧ n.tmod nanosPerSec ≤ 0)) := by
  have e : nanosPerSec = 1000000000 := rfl
  refine ⟨?_, ?_, ?_⟩
  · have := Int.mul_tdiv_add_tmod n nanosPerSec
    rw [e] at this ⊢; omega
  · by_cases h : n < 0
    · exact Or.inl h
    · right
      have h1 := Int.tmod_nonneg nanosPerSec (show 0 ≤ n by omega)
      have h2 := Int.tmod_lt_of_pos n (show (0:Int) < nanosPerSec by decide)
      rw [e] at h1 h2 ⊢; omega
  · by_cases h : 0 < n
    · exact Or.inl h
    · right
      have h1 := Int.tmod_nonneg nanosPerSec (show 0 ≤ -n by omega)
      have h2 := Int.tmod_lt_of_pos (-n) (show (0:Int) < nanosPerSec by decide)
      rw [Int.neg_tmod] at h1 h2
      rw [e] at h1 h2 ⊢; omega

def stage1 (s n : Int) : Int × Int :=
  if n ≤ -nanosPerSec ∨ nanosPerSec ≤ n then
    if i64Min ≤ s + n.tdiv nanosPerSec ∧ s + n.tdiv nanosPerSec ≤ i64Max then
      (s + n.tdiv nanosPerSec, n.tmod nanosPerSec)
    else if n < 0 then (i64Min, -999999999)
    else (i64Max, 999999999)
  else (s, n)

def stage2 (p : Int × Int) : Int × Int :=
  if p.1 < 0 ∧ 0 < p.2 then
    (if p.1 + 1 ≤ i64Max then (p.1 + 1, p.2 - nanosPerSec) else (p.1, 999999999))
  else if 0 < p.1 ∧ p.2 < 0 then
    (if i64Min ≤ p.1 - 1 then (p.1 - 1, p.2 + nanosPerSec) else (p.1, -999999999))
  else p

theorem normalize_stages (s n : Int) : normalize s n = stage2 (stage1 s n) := rfl

theorem stage2_fst (p1 p2 : Int) (h : i64Min ≤ p1) :
    (stage2 (p1, p2)).1 = i64Min ↔ (p1 = i64Min ∧ p2 ≤ 0) := by
  have e1 : nanosPerSec = 1000000000 := rfl
  have e2 : i64Min = -9223372036854775808 := rfl
  have e3 : i64Max = 9223372036854775807 := rfl
  unfold stage2
  simp only
  repeat' split
  all_goals simp only
  all_goals omega

/-- The left side of the equivalence is the condition under which `stage2_fst` keeps `i64::MIN`. -/
theorem stage1_min_iff (s n : Int) (hs : i64Min ≤ s) (hs' : s ≤ i64Max) :
    i64Min ≤ (stage1 s n).1 ∧
    (((stage1 s n).1 = i64Min ∧ (stage1 s n).2 ≤ 0) ↔ (n ≤ 0 ∧ s + n.tdiv nanosPerSec ≤ i64Min)) := by
  have e1 : nanosPerSec = 1000000000 := rfl
  have e2 : i64Min = -9223372036854775808 := rfl
  have e3 : i64Max = 9223372036854775807 := rfl
  obtain ⟨hn, hpos, hneg⟩ := tdiv_tmod_facts n
  unfold stage1
  repeat' split
  all_goals simp only [true_and]
  all_goals omega

theorem normalize_fst_min_iff (s n : Int) (hs : i64Min ≤ s) (hs' : s ≤ i64Max) :
    (normalize s n).1 = i64Min ↔ (n ≤ 0 ∧ s + n.tdiv nanosPerSec ≤ i64Min) := by
  rw [normalize_stages]
  obtain ⟨h1, h2⟩ := stage1_min_iff s n hs hs'
  rw [← h2]
  exact stage2_fst _ _ h1

end RichError
