import TonicModel.Model.Call
import TonicModel.Lemmas.FramingWire
import TonicModel.Lemmas.Status
/-
The decoder side of the end-to-end call model (C02).  One poll on a clean body, whatever status its
trailers carry, is read off `pollNext_exact` and `pollNext_good` (Lemmas/FramingDec.lean, as are
`PhaseOk`, `specFrom`, `accepted`, `CleanEvs`, `endTr`, `respTr`), with the trailers the stream
holds at its end tracked explicitly; `nextItem`, `readN` and `drain` follow by the shape of what
the body still holds.
-/
namespace Call
open Framing Spec.Framing
variable {α : Type}

/-- what the stream yields once the body has been read to its end -/
def endOf (cfg : DecCfg) (tr : Option Tr) : Ended :=
  match respTr cfg tr with
  | none => .done
  | some e => .err e

theorem endOf_none {cfg : DecCfg} {tr : Option Tr} (h : respTr cfg tr = none) : endOf cfg tr = .done := by
  simp only [endOf, h]

theorem endOf_some {cfg : DecCfg} {tr : Option Tr} {e : St} (h : respTr cfg tr = some e) :
    endOf cfg tr = .err e := by
  simp only [endOf, h]

/-- What one `poll_next` does on a clean body (data/`Pending`, then at most one trailers frame)
whose bytes the reference decoder reads as `ms` followed by a clean end. -/
def EndPoll (cd : Codec α) (cfg : DecCfg) (s : DecSt) (evs : List BodyEv) (ms : List α)
    (s' : DecSt) (evs' : List BodyEv) (o : Item α) : Prop :=
  match o with
  | .msg m => ∃ ms', ms = m :: ms' ∧ PhaseOk cfg s' ∧ CleanEvs evs' = true ∧
      specFrom cd cfg s' (accepted cfg evs') = (ms', .clean) ∧
      endTr s'.trailers evs' = endTr s.trailers evs ∧ evs'.length ≤ evs.length
  | .pending => PhaseOk cfg s' ∧ CleanEvs evs' = true ∧ specFrom cd cfg s' (accepted cfg evs') = (ms, .clean) ∧
      endTr s'.trailers evs' = endTr s.trailers evs ∧ evs'.length < evs.length
  | .none => ms = [] ∧ respTr cfg (endTr s.trailers evs) = none ∧ s'.trailers = endTr s.trailers evs
  | .err e => ms = [] ∧ respTr cfg (endTr s.trailers evs) = some e

/-- `EndPoll` mentions the start `s`, `evs` of a poll only through `endTr s.trailers evs` and
`evs.length`. -/
theorem EndPoll.mono {cd : Codec α} {cfg : DecCfg} {s0 s1 s' : DecSt} {evs0 evs1 evs' : List BodyEv}
    {ms : List α} {o : Item α} (h : EndPoll cd cfg s1 evs1 ms s' evs' o)
    (htr : endTr s1.trailers evs1 = endTr s0.trailers evs0) (hl : evs1.length ≤ evs0.length) :
    EndPoll cd cfg s0 evs0 ms s' evs' o := by
  cases o with
  | msg m =>
    obtain ⟨ms', a1, a2, a3, a4, a5, a6⟩ := h
    exact ⟨ms', a1, a2, a3, a4, a5.trans htr, Nat.le_trans a6 hl⟩
  | pending =>
    obtain ⟨a2, a3, a4, a5, a6⟩ := h
    exact ⟨a2, a3, a4, a5.trans htr, Nat.lt_of_lt_of_le a6 hl⟩
  | none =>
    obtain ⟨a1, a2, a3⟩ := h
    exact ⟨a1, htr ▸ a2, a3.trans htr⟩
  | err e => exact ⟨h.1, htr ▸ h.2⟩

theorem pollNext_end (cd : Codec α) (cfg : DecCfg) (evs : List BodyEv) : ∀ (s : DecSt) (ms : List α),
    PhaseOk cfg s → CleanEvs evs = true → specFrom cd cfg s (accepted cfg evs) = (ms, .clean) →
    EndPoll cd cfg s evs ms (Dec.pollNext cd cfg s evs).1 (Dec.pollNext cd cfg s evs).2.1
      (Dec.pollNext cd cfg s evs).2.2 := by
  intro s ms h hc hx
  have hg := pollNext_good cd cfg evs s h
  have he := pollNext_exact cd cfg ms .clean _ evs s h hc (fun e => nomatch e) hx rfl
  generalize Dec.pollNext cd cfg s evs = r at hg he
  obtain ⟨s', evs', o⟩ := r
  obtain ⟨hl, hg⟩ := hg
  obtain ⟨hc', _, he⟩ := he
  cases o with
  | msg m =>
    obtain ⟨htr, _, ms', rfl, hx'⟩ := he
    exact ⟨ms', rfl, hg.1, hc', hx', htr, hl⟩
  | pending => exact ⟨hg.1, hc', he.2.2, he.1, hg.2.1⟩
  | none => exact ⟨he.1, he.2.1, he.2.2.2.1⟩
  | err e => exact he

/-- The stream in state `s`, with `evs` still to come from the body, holds exactly the messages
`ms` and then ends with trailers `tr`; a `message()` call polls often enough to get through `evs`. -/
structure Holds (cd : Codec α) (cfg : DecCfg) (fuel : Nat) (s : DecSt) (evs : List BodyEv) (ms : List α)
    (tr : Option Tr) : Prop where
  phase : PhaseOk cfg s
  clean : CleanEvs evs = true
  spec : specFrom cd cfg s (accepted cfg evs) = (ms, .clean)
  trailers : endTr s.trailers evs = tr
  fuel : evs.length < fuel

variable {cd : Codec α} {cfg : DecCfg} {fuel : Nat} {s : DecSt} {evs : List BodyEv} {ms : List α} {tr : Option Tr}

theorem nextItem_end : ∀ {fuel s evs}, Holds cd cfg fuel s evs ms tr →
    (nextItem cd cfg fuel s evs).2.2 ≠ .pending ∧
    EndPoll cd cfg s evs ms (nextItem cd cfg fuel s evs).1 (nextItem cd cfg fuel s evs).2.1
      (nextItem cd cfg fuel s evs).2.2 := by
  intro fuel
  induction fuel with
  | zero => exact fun h => absurd h.fuel (Nat.not_lt_zero _)
  | succ n ih =>
    intro s evs h
    have he := pollNext_end cd cfg evs s ms h.phase h.clean h.spec
    unfold nextItem
    rcases hr : Dec.pollNext cd cfg s evs with ⟨s1, evs1, o⟩
    rw [hr] at he
    cases o with
    | msg m => exact ⟨nofun, he⟩
    | none => exact ⟨nofun, he⟩
    | err e => exact ⟨nofun, he⟩
    | pending =>
      obtain ⟨e1, e2, e3, e4, e5⟩ := he
      obtain ⟨hne, hend⟩ := ih ⟨e1, e2, e3, e4.trans h.trailers, Nat.lt_of_lt_of_le e5 (Nat.le_of_lt_succ h.fuel)⟩
      exact ⟨hne, hend.mono e4 (Nat.le_of_lt e5)⟩

theorem nextItem_cons {m : α} (h : Holds cd cfg fuel s evs (m :: ms) tr) :
    ∃ s' evs', nextItem cd cfg fuel s evs = (s', evs', .msg m) ∧ Holds cd cfg fuel s' evs' ms tr := by
  obtain ⟨hne, hend⟩ := nextItem_end h
  generalize nextItem cd cfg fuel s evs = r at hne hend
  obtain ⟨s1, evs1, o⟩ := r
  cases o with
  | pending => exact absurd rfl hne
  | none => exact absurd hend.1 (List.cons_ne_nil _ _)
  | err e => exact absurd hend.1 (List.cons_ne_nil _ _)
  | msg m' =>
    obtain ⟨ms', a1, a2, a3, a4, a5, a6⟩ := hend
    cases a1
    exact ⟨s1, evs1, rfl, a2, a3, a4, a5.trans h.trailers, Nat.lt_of_le_of_lt a6 h.fuel⟩

theorem nextItem_nil (h : Holds cd cfg fuel s evs [] tr) :
    ∃ s' evs', nextItem cd cfg fuel s evs =
        (s', evs', match respTr cfg tr with | none => .none | some e => .err e) ∧
      (respTr cfg tr = none → s'.trailers = tr) := by
  obtain ⟨hne, hend⟩ := nextItem_end h
  have htr := h.trailers
  subst htr
  generalize nextItem cd cfg fuel s evs = r at hne hend
  obtain ⟨s1, evs1, o⟩ := r
  cases o with
  | pending => exact absurd rfl hne
  | none => exact ⟨s1, evs1, by rw [hend.2.1], fun _ => hend.2.2⟩
  | err e => exact ⟨s1, evs1, by rw [hend.2], fun h => absurd (hend.2.symm.trans h) nofun⟩
  | msg m' => obtain ⟨ms', a1, _⟩ := hend; exact absurd a1 nofun

theorem readN_holds (k : Nat) : ∀ {s evs ms}, Holds cd cfg fuel s evs ms tr →
    (readN cd cfg fuel k s evs).1 = ms.take k ∧
    (readN cd cfg fuel k s evs).2.1 = (if k ≤ ms.length then .open else endOf cfg tr) ∧
    (ms.length < k → respTr cfg tr = none → (readN cd cfg fuel k s evs).2.2.trailers = tr) := by
  induction k with
  | zero => exact fun _ => ⟨rfl, rfl, nofun⟩
  | succ k ih =>
    intro s evs ms h
    cases ms with
    | nil =>
      obtain ⟨s', evs', hi, htr⟩ := nextItem_nil h
      simp only [readN, hi, endOf]
      cases hr : respTr cfg tr with
      | none => exact ⟨rfl, rfl, fun _ _ => htr hr⟩
      | some e => exact ⟨rfl, rfl, fun _ h => absurd h nofun⟩
    | cons m ms =>
      obtain ⟨s', evs', hi, h'⟩ := nextItem_cons h
      obtain ⟨i1, i2, i3⟩ := ih h'
      simp only [readN, hi, List.take_succ_cons, List.length_cons, Nat.add_le_add_iff_right,
        Nat.add_lt_add_iff_right]
      exact ⟨congrArg (m :: ·) i1, i2, i3⟩

/-- `k` calls of `message()` on a clean body holding `ms`: the first `k` messages if there are
that many (and the stream is left open); otherwise all of them, then the end of the stream —
clean, with the body's trailers held by the stream, or the error the trailers carry. -/
theorem readN_end (cd : Codec α) (cfg : DecCfg) (fuel : Nat) (k : Nat) :
    ∀ (s : DecSt) (evs : List BodyEv) (ms : List α),
    PhaseOk cfg s → CleanEvs evs = true → specFrom cd cfg s (accepted cfg evs) = (ms, .clean) →
    evs.length < fuel →
    (readN cd cfg fuel k s evs).1 = ms.take k ∧
    (readN cd cfg fuel k s evs).2.1 =
      (if k ≤ ms.length then .open else endOf cfg (endTr s.trailers evs)) ∧
    (ms.length < k → respTr cfg (endTr s.trailers evs) = none →
      (readN cd cfg fuel k s evs).2.2.trailers = endTr s.trailers evs) :=
  fun _ _ _ hp hc hx hn => readN_holds k ⟨hp, hc, hx, rfl, hn⟩

theorem drain_end (h : Holds cd cfg fuel s evs ms tr) (hm : ms.length < fuel) :
    ∃ s', drain cd cfg fuel s evs = (ms, endOf cfg tr, s') ∧ (respTr cfg tr = none → s'.trailers = tr) := by
  obtain ⟨r1, r2, r3⟩ := readN_holds fuel h
  rw [List.take_of_length_le (Nat.le_of_lt hm)] at r1
  rw [if_neg (Nat.not_le.mpr hm)] at r2
  exact ⟨_, Prod.ext r1 (Prod.ext r2 rfl), r3 hm⟩

end Call
