import TonicModel.Model.WebClient
import TonicModel.Spec.GrpcWeb
import TonicModel.Lemmas.WebClient
import TonicModel.Lemmas.GrpcWeb
/-
`decode_trailers_frame` (after fix 1bfb22e3), read in both directions.  Forward, on trailers frames
as servers write them (`Spec.GrpcWeb.trailersFrame`, names in any case): the frame decodes to
exactly the trailers written, names in lower case.  Backward, on arbitrary blocks: when decoding
succeeds, the map lists every line of the block (`Spec.GrpcWeb.readBlockLoose` / `exactPairs`), so
nothing is dropped silently.
-/
namespace WebClientLemmas
open WebClient
open Spec.GrpcWeb (looseLines splitColon readBlockLoose exactPairs dropSpace lowerName traverse
  rawFrame lineOfSp trailersBlock trailersFrame lowerNameOk anyCaseNameOk plainValueOk
  fieldValueOk tchar isUpper)
open TMap (Pair)

theorem headerNameByte_tab : ∀ n : Fin 256,
    headerNameByte (UInt8.ofNat n.val) =
      if tchar (UInt8.ofNat n.val) then some (Ascii.toLower (UInt8.ofNat n.val)) else none := by
  unfold tchar
  rw [TMap.str_lit]
  decide +kernel

theorem headerNameByte_eq (b : UInt8) :
    headerNameByte b = if tchar b then some (Ascii.toLower b) else none := by
  simpa using headerNameByte_tab ⟨b.toNat, b.toNat_lt⟩

theorem tchar_sep : tchar 58 = false ∧ tchar 13 = false := by
  unfold tchar
  rw [TMap.str_lit]
  decide +kernel

theorem mapOpt_nameByte (k : Bytes) :
    mapOpt headerNameByte k = if k.all tchar then some (lowerName k) else none := by
  induction k with
  | nil => rfl
  | cons b r ih =>
    rw [mapOpt, headerNameByte_eq, ih, List.all_cons]
    cases tchar b <;> cases r.all tchar <;> rfl

theorem parseName_eq (k : Bytes) :
    parseName k = if anyCaseNameOk k then some (lowerName k) else none := by
  rw [parseName, mapOpt_nameByte, anyCaseNameOk]
  by_cases hl : k.length ≤ 65535 <;> cases k.isEmpty <;> cases k.all tchar <;> simp [hl]

theorem parseValue_eq (v : Bytes) : parseValue v = if fieldValueOk v then some v else none := rfl

theorem toLower_of_not_upper {b : UInt8} (h : isUpper b = false) : Ascii.toLower b = b := by
  rw [Ascii.toLower, if_neg]
  simpa [isUpper] using h

theorem lowerNameOk_any {k : Bytes} (h : lowerNameOk k = true) :
    anyCaseNameOk k = true ∧ lowerName k = k := by
  simp only [lowerNameOk, anyCaseNameOk, Bool.and_eq_true, List.all_eq_true] at h ⊢
  refine ⟨⟨h.1, fun b hb => (h.2 b hb).1⟩, ?_⟩
  exact (List.map_congr_left fun b hb =>
    toLower_of_not_upper (by simpa using (h.2 b hb).2)).trans (List.map_id' k)

theorem name_no_sep (k : Bytes) (h : anyCaseNameOk k = true) : ∀ b ∈ k, b ≠ 58 ∧ b ≠ 13 := by
  simp only [anyCaseNameOk, Bool.and_eq_true, List.all_eq_true] at h
  intro b hb
  have ht := h.2 b hb
  constructor <;> rintro rfl
  · rw [tchar_sep.1] at ht; cases ht
  · rw [tchar_sep.2] at ht; cases ht

theorem fieldValueOk_of_plain {v : Bytes} (h : plainValueOk v = true) : fieldValueOk v = true :=
  (Bool.and_eq_true_iff.1 h).1

theorem value_no_cr (v : Bytes) (h : fieldValueOk v = true) : ∀ b ∈ v, b ≠ 13 := by
  simp only [fieldValueOk, List.all_eq_true] at h
  rintro b hb rfl
  exact absurd (h 13 hb) (by decide)

/-- what tonic's server writes lies in the domain of the independent reader's block lemmas -/
theorem pairs_ok {ps : List Pair}
    (h : ∀ p ∈ ps, lowerNameOk p.1 = true ∧ plainValueOk p.2 = true) :
    ∀ p ∈ ps, Spec.GrpcWeb.nameOk p.1 ∧ Spec.GrpcWeb.valueOk p.2 :=
  fun p hp => ⟨name_no_sep p.1 (lowerNameOk_any (h p hp).1).1,
    value_no_cr p.2 (fieldValueOk_of_plain (h p hp).2)⟩

theorem lineOfSp_false : lineOfSp false = Spec.GrpcWeb.lineOf := by
  funext p; simp [lineOfSp, Spec.GrpcWeb.lineOf]

theorem parseBlock_trailersBlock {ps : List Pair}
    (h : ∀ p ∈ ps, lowerNameOk p.1 = true ∧ plainValueOk p.2 = true) :
    Spec.GrpcWeb.parseBlock (trailersBlock false ps) = some ps := by
  rw [trailersBlock, lineOfSp_false]
  exact GrpcWebLemmas.parseBlock_lines ps (pairs_ok h)

theorem crlfLines_loose (cur b : Bytes) : crlfLines true cur b = looseLines cur b := by
  fun_induction looseLines cur b with
  | case1 cur h => simp [crlfLines, h]
  | case2 cur h => simp [crlfLines, h]
  | case3 cur x => rfl
  | case4 cur a b rest h ih => rw [crlfLines, if_pos h, ih]
  | case5 cur a b rest h ih => rw [crlfLines, if_neg h, ih]

theorem crlfLines_line (w : Bool) (l : Bytes) (hl : ∀ b ∈ l, b ≠ 13) (cur rest : Bytes) :
    crlfLines w cur (l ++ 13 :: 10 :: rest) = (cur.reverse ++ l) :: crlfLines w [] rest := by
  induction l generalizing cur with
  | nil => simp [crlfLines]
  | cons x xs ih =>
    have hx : x ≠ 13 := hl x (by simp)
    -- at least two bytes follow `x`, so `crlfLines` looks at `x` and its successor
    obtain ⟨y, ys, e⟩ : ∃ y ys, xs ++ 13 :: 10 :: rest = y :: ys := by cases xs <;> simp
    rw [List.cons_append, e, crlfLines, if_neg (by simp [hx]), ← e,
      ih (fun b hb => hl b (by simp [hb]))]
    simp

theorem splitFirst_colon : ∀ (l cur : Bytes),
    splitFirst 58 cur l =
      match splitColon l with
      | some (k, v) => (cur.reverse ++ k, some v)
      | none => (cur.reverse ++ l, none) := by
  intro l
  induction l with
  | nil => intro cur; simp [splitFirst, splitColon]
  | cons b r ih =>
    intro cur
    by_cases hb : b = 58
    · subst hb; simp [splitFirst, splitColon]
    · simp only [splitFirst, hb, if_false, splitColon, ih (b :: cur)]
      cases splitColon r with
      | none => simp
      | some p => simp

theorem splitFirst_sep (k x : Bytes) (hk : ∀ b ∈ k, b ≠ 58) (cur : Bytes) :
    splitFirst 58 cur (k ++ 58 :: x) = (cur.reverse ++ k, some x) := by
  rw [splitFirst_colon, GrpcWebLemmas.splitColon_pair k x hk]

theorem splitOn_none (w : Bytes) (hw : ∀ b ∈ w, b ≠ 13) (cur : Bytes) :
    splitOn 13 cur w = [cur.reverse ++ w] := by
  induction w generalizing cur with
  | nil => simp [splitOn]
  | cons y ys ih =>
    have hy : y ≠ 13 := hw y (by simp)
    simp only [splitOn, hy, if_false]
    rw [ih (fun b hb => hw b (by simp [hb]))]
    simp

theorem stripSpace_drop (v : Bytes) : stripSpace true v = dropSpace v := by
  rcases v with _ | ⟨b, r⟩
  · rfl
  · by_cases hb : b = 32
    · subst hb; rfl
    · simp [stripSpace, dropSpace, hb]

theorem dropSpace_plain {v : Bytes} (h : v.head? ≠ some 32) : dropSpace v = v := by
  rcases v with _ | ⟨b, r⟩
  · rfl
  · simp [dropSpace, show b ≠ 32 by simpa using h]

/-! ### a trailers frame as servers write it -/

theorem parseLine_any (sp : Bool) (p : Pair) (hk : anyCaseNameOk p.1 = true)
    (hv : plainValueOk p.2 = true) :
    parseLine true (p.1 ++ (if sp then [58, 32] else [58]) ++ p.2) = some (lowerName p.1, p.2) := by
  simp only [plainValueOk, Bool.and_eq_true, bne_iff_ne, ne_eq] at hv
  have hline : p.1 ++ (if sp then [58, 32] else [58]) ++ p.2 =
      p.1 ++ 58 :: ((if sp then [32] else []) ++ p.2) := by
    cases sp <;> simp
  have hstrip : dropSpace ((if sp then [32] else []) ++ p.2) = p.2 := by
    cases sp
    · exact dropSpace_plain hv.2
    · rfl
  simp only [parseLine, lineKV, if_true, hline,
    splitFirst_sep p.1 _ (fun b hb => (name_no_sep p.1 hk b hb).1) [], List.reverse_nil,
    List.nil_append, stripSpace_drop, hstrip, parseName_eq, hk, parseValue_eq, hv.1]

theorem block_lines (sp : Bool) (ps : List Pair)
    (h : ∀ p ∈ ps, (∀ b ∈ p.1, b ≠ 13) ∧ ∀ b ∈ p.2, b ≠ 13) :
    crlfLines true [] (trailersBlock sp ps) =
      ps.map (fun p => p.1 ++ (if sp then [58, 32] else [58]) ++ p.2) := by
  induction ps with
  | nil => rfl
  | cons p ps ih =>
    have hp := h p (by simp)
    have hl : ∀ b ∈ p.1 ++ (if sp then [58, 32] else [58]) ++ p.2, b ≠ 13 := by
      intro b hb
      simp only [List.mem_append] at hb
      rcases hb with (hb | hb) | hb
      · exact hp.1 b hb
      · cases sp <;> simp at hb <;> rcases hb with rfl | rfl <;> decide
      · exact hp.2 b hb
    have e : trailersBlock sp (p :: ps) =
        (p.1 ++ (if sp then [58, 32] else [58]) ++ p.2) ++ 13 :: 10 :: trailersBlock sp ps := by
      simp [trailersBlock, lineOfSp, List.flatMap_cons]
    rw [e, crlfLines_line true _ hl, ih (fun q hq => h q (by simp [hq]))]
    simp

theorem mapOpt_map_fun {α β γ : Type} (f : α → Option γ) (g : β → α) (k : β → γ) :
    ∀ (l : List β), (∀ x ∈ l, f (g x) = some (k x)) → mapOpt f (l.map g) = some (l.map k) := by
  intro l
  induction l with
  | nil => intro _; rfl
  | cons x xs ih =>
    intro h
    simp only [List.map_cons, mapOpt, h x (by simp), ih (fun y hy => h y (by simp [hy]))]

theorem decode_rawFrame (fl : UInt8) (blk : Bytes) :
    decodeTrailersFrame true (rawFrame fl blk) =
      (mapOpt (fun l => parseLine true l) (crlfLines true [] blk)).map some := by
  have hlen : ¬ (rawFrame fl blk).length < 5 := by
    rw [rawFrame_length]; omega
  have hdrop : (rawFrame fl blk).drop 5 = blk := by
    simp [rawFrame, u32be]
  simp only [decodeTrailersFrame, hlen, if_false, hdrop, if_true]
  cases mapOpt (fun l => parseLine true l) (crlfLines true [] blk) <;> rfl

theorem decode_trailersFrame_any (sp : Bool) (ps : List Pair)
    (h : ∀ p ∈ ps, anyCaseNameOk p.1 = true ∧ plainValueOk p.2 = true) :
    decodeTrailersFrame true (trailersFrame sp ps) =
      some (some (ps.map (fun p => (lowerName p.1, p.2)))) := by
  have hcr : ∀ p ∈ ps, (∀ b ∈ p.1, b ≠ 13) ∧ ∀ b ∈ p.2, b ≠ 13 := fun p hp =>
    ⟨fun b hb => (name_no_sep p.1 (h p hp).1 b hb).2,
      value_no_cr p.2 (fieldValueOk_of_plain (h p hp).2)⟩
  rw [trailersFrame, decode_rawFrame, block_lines sp ps hcr,
    mapOpt_map_fun _ _ (fun p => (lowerName p.1, p.2)) ps
      (fun p hp => parseLine_any sp p (h p hp).1 (h p hp).2)]
  rfl

theorem decode_trailersFrame (sp : Bool) (ps : List Pair)
    (h : ∀ p ∈ ps, lowerNameOk p.1 = true ∧ plainValueOk p.2 = true) :
    decodeTrailersFrame true (trailersFrame sp ps) = some (some ps) := by
  rw [decode_trailersFrame_any sp ps (fun p hp => ⟨(lowerNameOk_any (h p hp).1).1, (h p hp).2⟩)]
  rw [List.map_congr_left (g := fun p => p) fun p hp => by rw [(lowerNameOk_any (h p hp).1).2],
    List.map_id']

/-! ### an arbitrary block: nothing is dropped -/

theorem parseLine_exact (line : Bytes) (p : Pair) (h : parseLine true line = some p) :
    ∃ raw : Pair, splitColon line = some raw ∧ p = (lowerName raw.1, dropSpace raw.2) := by
  simp only [parseLine, lineKV, if_true, splitFirst_colon, parseName_eq, parseValue_eq,
    stripSpace_drop] at h
  cases hs : splitColon line with
  | none => simp [hs] at h
  | some raw =>
    refine ⟨raw, rfl, ?_⟩
    simp only [hs, List.reverse_nil, List.nil_append] at h
    -- only a legal name with a legal value gives a pair, and then it is this one
    by_cases hk : anyCaseNameOk raw.1 = true
    · by_cases hv : fieldValueOk (dropSpace raw.2) = true
      · simpa [hk, hv] using h.symm
      · simp [hk, hv] at h
    · simp [hk] at h

theorem mapOpt_parseLine (ls : List Bytes) (ps : List Pair)
    (h : mapOpt (fun l => parseLine true l) ls = some ps) :
    ∃ raw : List Pair, traverse splitColon ls = some raw ∧ ps = exactPairs raw := by
  fun_induction mapOpt (fun l => parseLine true l) ls generalizing ps with
  | case1 => cases h; exact ⟨[], rfl, rfl⟩
  | case2 l r p ps' hr hl ih =>
    cases h
    obtain ⟨raw1, hs1, rfl⟩ := parseLine_exact l p hl
    obtain ⟨raws, hs2, rfl⟩ := ih ps' hr
    exact ⟨raw1 :: raws, by rw [traverse, hs1, hs2], rfl⟩
  | case3 => cases h

theorem decode_lists_every_line (blk : Bytes) (ps : List Pair)
    (h : decodeTrailersFrame true (rawFrame 128 blk) = some (some ps)) :
    ∃ raw : List Pair, readBlockLoose blk = some raw ∧ ps = exactPairs raw := by
  rw [decode_rawFrame, crlfLines_loose] at h
  cases hm : mapOpt (fun l => parseLine true l) (looseLines [] blk) with
  | none => simp [hm] at h
  | some ps' =>
    simp only [hm, Option.map_some, Option.some.injEq] at h
    subst h
    exact mapOpt_parseLine _ _ hm

end WebClientLemmas
