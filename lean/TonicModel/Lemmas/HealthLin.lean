import TonicModel.Basic.HealthLin
/-
Soundness of the linearizability search used on recorded concurrent histories (C18): when the
search answers "yes" there is a schedule — a sequence of picks of task heads that respects
every task's own order and never picks a call while the head of another task had returned before
it was invoked — along which the sequential machine accepts every recorded answer.
-/
namespace Health.Lin

/-- The task after its head call has been linearized in state `s`: a `watch` call fixes the
task's slot to the next free one. -/
def afterCall {σ : Type} (nslots : σ → Nat) (s : σ) (c : Call) (t : Task) : Task :=
  match c.op with
  | .watch _ => { t with slot := nslots s }
  | _ => t

/-- `Run acc nslots s ts`: the pending calls of `ts` can all be linearized from state `s`. -/
inductive Run {σ : Type} (acc : σ → Op → Resp → Option σ) (nslots : σ → Nat) : σ → List Task → Prop
  | done {s : σ} {ts : List Task} : total ts = 0 → Run acc nslots s ts
  | step {s s' : σ} {ts : List Task} {c : Call} {t : Task} {others : List Task} :
      (c, t, others) ∈ picks [] ts → minimal c others = true →
      acc s (localise t c.op) c.ans = some s' →
      Run acc nslots s' (afterCall nslots s c t :: others) → Run acc nslots s ts

theorem afterCall_readOnly {σ : Type} (nslots : σ → Nat) (s : σ) (c : Call) (t : Task)
    (h : readOnly c.op c.ans = true) : afterCall nslots s c t = t := by
  unfold afterCall
  split
  · next hc => rw [hc] at h; cases h
  · rfl

private theorem foldl_found {α : Type} {g : Bool × Nat → α → Bool × Nat} (l : List α) (r : Bool × Nat)
    (h : (l.foldl g r).1 = true) :
    r.1 = true ∨ ∃ a ∈ l, ∃ r', r'.1 = false ∧ (g r' a).1 = true := by
  induction l generalizing r with
  | nil => exact Or.inl h
  | cons a l ih =>
    rcases ih _ h with h1 | ⟨b, hb, r', hr', hf⟩
    · cases hr : r.1 with
      | true => exact Or.inl rfl
      | false => exact Or.inr ⟨a, List.mem_cons_self, r, hr, h1⟩
    · exact Or.inr ⟨b, List.mem_cons_of_mem _ hb, r', hr', hf⟩

theorem search_sound {σ : Type} (acc : σ → Op → Resp → Option σ) (nslots : σ → Nat)
    (fuel b : Nat) (s : σ) (ts : List Task)
    (h : (search acc nslots fuel b s ts).1 = true) : Run acc nslots s ts := by
  induction fuel generalizing b s ts with
  | zero => exact Run.done (by simpa [search] using h)
  | succ fuel ih =>
    by_cases ht : (total ts == 0) = true
    · exact Run.done (by simpa using ht)
    by_cases hb : (b == 0) = true
    · rw [search, if_pos hb] at h; cases h
    rw [search, if_neg hb, if_neg ht] at h
    simp only at h
    split at h
    · -- committed to a read-only call
      next s' ts' hro =>
      obtain ⟨⟨c, t, others⟩, hmem, hsome⟩ := List.exists_of_findSome?_eq_some hro
      simp only at hsome
      split at hsome
      · next hr =>
        obtain ⟨s1, hacc, e⟩ := Option.map_eq_some_iff.mp hsome
        cases e
        have hm := List.mem_filter.mp hmem
        refine Run.step hm.1 hm.2 hacc ?_
        rw [afterCall_readOnly nslots s c t hr]
        exact ih _ _ _ h
      · cases hsome
    · -- branching over the enabled calls
      rcases foldl_found _ _ h with h0 | ⟨⟨c, t, others⟩, hmem, r', hr', hf⟩
      · cases h0
      · have hm := List.mem_filter.mp hmem
        simp only [hr', Bool.false_eq_true, if_false] at hf
        split at hf
        · rw [hr'] at hf; cases hf
        · split at hf
          · rw [hr'] at hf; cases hf
          · next s1 hacc => exact Run.step hm.1 hm.2 hacc (ih _ _ _ hf)

theorem linearizable_sound {σ : Type} (acc : σ → Op → Resp → Option σ) (nslots : σ → Nat)
    (s : σ) (ts : List Task) (h : linearizable acc nslots s ts = .yes) : Run acc nslots s ts := by
  unfold linearizable at h
  split at h
  · next hs => exact search_sound acc nslots _ _ s ts (by rw [hs])
  · cases h
  · cases h

end Health.Lin
