import TonicModel.Model.Tls
import TonicModel.Spec.Tls
/-
Helper lemmas for C15, "configurations are values": the process model `Tls.Proc` of
`Model/Tls` (several `ClientTlsConfig` / `Endpoint` variables, clones, derived configurations,
uses) against the reading `Spec.Tls.cfgTable` of the program text.
The second half is not lemmas but a counter-model, `Tls.ProcShared` (a process in which clones of a
configuration share a connector cache).  It is not tonic and nothing is proved about it: it exists
to be run by the one witness `C15_config_use_has_no_memory_fails_with_shared_cache`.
-/
namespace Tls
open Spec.Tls
variable {Root Chain : Type}

theorem build_append (l ops : List (ClientOp Root Chain)) :
    ops.foldl ClientOp.apply (ClientTlsConfig.build l) = ClientTlsConfig.build (l ++ ops) := by
  simp [ClientTlsConfig.build, List.foldl_append]

section Proc
variable (sys : Sys Root) (p : Proc Root Chain)

theorem exec_cfgs (tbl : List (List (ClientOp Root Chain))) (s : Stmt Root Chain)
    (h : p.cfgs = tbl.map ClientTlsConfig.build) :
    (p.exec sys s).cfgs = (cfgTableStep tbl s).map ClientTlsConfig.build := by
  cases s with
  | config src ops =>
    cases src with
    | none => rw [Proc.exec, cfgTableStep, List.map_append, h]; rfl
    | some k =>
      simp only [Proc.exec, cfgTableStep, h, List.getElem?_map]
      cases tbl[k]? with
      | none => exact h
      | some l =>
        show _ ++ [ops.foldl ClientOp.apply (ClientTlsConfig.build l)] = (tbl ++ [l ++ ops]).map ClientTlsConfig.build
        rw [List.map_append, build_append]; rfl
  -- the other statements define no configuration variable
  | endpoint uri => exact h
  | endpointNew uri => exact h
  | connect e => exact h
  | cloneEndpoint e => simp only [Proc.exec]; split <;> exact h
  | tlsConfig e c => simp only [Proc.exec]; split <;> exact h
  | endpointNewFrom e => simp only [Proc.exec]; split <;> exact h

theorem run_cfgs (prog : List (Stmt Root Chain)) :
    (Proc.run sys prog).cfgs = (cfgTable prog).map ClientTlsConfig.build := by
  have key : ∀ (p : Proc Root Chain) tbl, p.cfgs = tbl.map ClientTlsConfig.build →
      (prog.foldl (Proc.exec sys) p).cfgs = (prog.foldl cfgTableStep tbl).map ClientTlsConfig.build := by
    induction prog with
    | nil => exact fun _ _ h => h
    | cons s rest ih => exact fun p tbl h => ih _ _ (exec_cfgs sys p tbl s h)
  exact key {} [] rfl

theorem exec_extends (s : Stmt Root Chain) :
    p.cfgs <+: (p.exec sys s).cfgs ∧ p.eps <+: (p.exec sys s).eps := by
  have same : p.cfgs <+: p.cfgs ∧ p.eps <+: p.eps := ⟨List.prefix_rfl, List.prefix_rfl⟩
  have newCfg : ∀ c, p.cfgs <+: p.cfgs ++ c ∧ p.eps <+: p.eps := fun _ => ⟨List.prefix_append .., List.prefix_rfl⟩
  have newEp : ∀ e, p.cfgs <+: p.cfgs ∧ p.eps <+: p.eps ++ e := fun _ => ⟨List.prefix_rfl, List.prefix_append ..⟩
  unfold Proc.exec
  split
  · exact newCfg _
  · split
    · exact newCfg _
    · exact same
  · exact newEp _
  · exact newEp _
  · split
    · exact newEp _
    · exact same
  · split
    · exact newEp _
    · exact newEp _
    · exact same
  · exact same
  · split
    · exact newEp _
    · exact newEp _
    · exact same

theorem foldl_extends (more : List (Stmt Root Chain)) :
    p.cfgs <+: (more.foldl (Proc.exec sys) p).cfgs ∧ p.eps <+: (more.foldl (Proc.exec sys) p).eps := by
  induction more generalizing p with
  | nil => exact ⟨List.prefix_rfl, List.prefix_rfl⟩
  | cons s rest ih =>
    exact ⟨(exec_extends sys p s).1.trans (ih _).1, (exec_extends sys p s).2.trans (ih _).2⟩

theorem tlsConfig_replaces (ep : Endpoint Root Chain) (cfg : ClientTlsConfig Root Chain) :
    ep.tlsConfig sys cfg =
      ((Endpoint.fromShared ep.uri).tlsConfig sys cfg).map (fun e => { e with origin := ep.origin }) := by
  simp only [Endpoint.tlsConfig, Endpoint.fromShared]
  cases cfg.intoTlsConnector sys ep.uri <;> rfl

theorem useConfig_last (c : Nat) (uri : Uri) (cfg : ClientTlsConfig Root Chain) (h : p.cfgs[c]? = some cfg) :
    (p.useConfig sys c uri).eps.getLast? = some ((Endpoint.fromShared uri).tlsConfig sys cfg) := by
  simp [Proc.useConfig, Proc.exec, h]

end Proc

/-! ### a counter-model: clones that share a connector cache

NOT tonic.  The shape of the seeded change C15d (`connector: Arc<OnceLock<TlsConnector>>` inside
`ClientTlsConfig`, filled by `into_tls_connector`, carried along by `..self` and by `clone()`):
a configuration is a value PLUS a reference to a cell shared with everything cloned or derived
from it.  Used only to show that `C15_config_use_has_no_memory` is a statement with content: it
is false of this process. -/

structure SharedCfg (Root Chain : Type) where
  cfg : ClientTlsConfig Root Chain
  cell : Nat

structure ProcShared (Root Chain : Type) where
  cfgs : List (SharedCfg Root Chain) := []
  cells : List (Option (TlsConnector Root Chain)) := []
  eps : List (Except CfgErr (Endpoint Root Chain)) := []

def ProcShared.exec (sys : Sys Root) (p : ProcShared Root Chain) : Stmt Root Chain → ProcShared Root Chain
  | .config none ops =>
    { p with cfgs := p.cfgs ++ [{ cfg := ops.foldl ClientOp.apply {}, cell := p.cells.length }],
             cells := p.cells ++ [none] }
  | .config (some k) ops =>
    match p.cfgs[k]? with
    | some c => { p with cfgs := p.cfgs ++ [{ cfg := ops.foldl ClientOp.apply c.cfg, cell := c.cell }] }
    | none => p
  | .endpoint uri => { p with eps := p.eps ++ [.ok (Endpoint.fromShared uri)] }
  | .endpointNew uri => { p with eps := p.eps ++ [Endpoint.new sys uri] }
  | .cloneEndpoint e =>
    match p.eps[e]? with
    | some r => { p with eps := p.eps ++ [r] }
    | none => p
  | .tlsConfig e c =>
    match p.eps[e]?, p.cfgs[c]? with
    | some (.ok ep), some sc =>
      match p.cells[sc.cell]? with
      | some (some t) => { p with eps := p.eps ++ [.ok { ep with tls := some t }] }   -- cache hit
      | _ =>
        match sc.cfg.intoTlsConnector sys ep.uri with
        | .ok t => { p with eps := p.eps ++ [.ok { ep with tls := some t }], cells := p.cells.set sc.cell (some t) }
        | .error err => { p with eps := p.eps ++ [.error err] }
    | some (.error err), some _ => { p with eps := p.eps ++ [.error err] }
    | _, _ => p
  | .connect _ => p
  | .endpointNewFrom e =>
    match p.eps[e]? with
    | some (.ok ep) => { p with eps := p.eps ++ [Endpoint.newFrom sys ep] }
    | some (.error err) => { p with eps := p.eps ++ [.error err] }
    | none => p

def ProcShared.run (sys : Sys Root) (prog : List (Stmt Root Chain)) : ProcShared Root Chain :=
  prog.foldl (ProcShared.exec sys) {}

def ProcShared.useConfig (sys : Sys Root) (p : ProcShared Root Chain) (c : Nat) (uri : Uri) : ProcShared Root Chain :=
  (p.exec sys (.endpoint uri)).exec sys (.tlsConfig p.eps.length c)

end Tls
