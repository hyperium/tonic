import TonicModel.Lemmas.Shutdown
import TonicModel.Spec.Shutdown
/-
How a state of the shutdown model is seen by the oracle of `Spec/Shutdown` (the same views the
driver builds from what the harness observed), and the facts the invariants give about them.
-/
namespace Shutdown
open Spec.Shutdown

def toOut : Item → Out
  | .hdr => .hdr
  | .msg j => .msg j
  | .status c => .status c
  | .expired => .expired

def connView (cn : Conn) : ConnView :=
  { offeredAfterSignal := cn.offeredAfterSig, accepted := cn.accepted, closed := cn.closed }

/-- what the caller of `k` has in hand: the first `recv` items written to the stream -/
def callView (cn : Conn) (k : Call) : CallView :=
  { plan := k.plan.map toOut, got := (k.sent.take k.recv).map toOut, started := k.started,
    abandoned := k.cancelled || cn.peerGone, timedOut := k.expired }

theorem outcome_callView (cn : Conn) (k : Call) :
    outcome (callView cn k) = k.outcome.map toOut := by
  simp only [outcome, callView, Call.outcome]
  by_cases he : k.expired = true <;> simp [he, toOut]

def connViews (s : State) : List ConnView := s.conns.map connView

def callViews (s : State) : List CallView :=
  s.conns.flatMap fun cn => cn.calls.map (callView cn)

theorem allClosed_connViews {s : State} :
    allClosed (connViews s) = true ↔ AllClosed s := by
  simp only [allClosed, connViews, List.all_map, List.all_eq_true, Function.comp_apply, connView,
    Bool.or_eq_true, Bool.not_eq_true']
  refine forall₂_congr fun cn _ => ?_
  cases cn.accepted
  · exact ⟨fun _ => nofun, fun _ => Or.inl rfl⟩
  · exact ⟨fun h _ => h.resolve_left nofun, fun h => Or.inr (h rfl)⟩

theorem isPrefix_refl_append (a b : List Out) : isPrefix a (a ++ b) = true := by
  induction a with
  | nil => simp [isPrefix]
  | cons x xs ih => simp [isPrefix, ih]

theorem isPrefix_take_append (n : Nat) (a b : List Out) : isPrefix (a.take n) (a ++ b) = true := by
  have h : a ++ b = a.take n ++ (a.drop n ++ b) := by
    rw [← List.append_assoc, List.take_append_drop]
  rw [h]
  exact isPrefix_refl_append _ _

theorem CallOk.outcome_eq {k : Call} (h : CallOk k) : k.outcome = k.sent ++ k.todo.flatten := by
  rw [Call.outcome]
  cases he : k.expired with
  | false => exact (h.plan_eq he).symm
  | true => rw [(h.expired_eq he).1, (h.expired_eq he).2]; rfl

theorem callView_truthful {cn : Conn} {k : Call} (h : CallOk k) :
    isPrefix (callView cn k).got (outcome (callView cn k)) = true
    ∧ ((callView cn k).started = true ∨ (callView cn k).got = []) := by
  constructor
  · rw [outcome_callView, h.outcome_eq, List.map_append, callView, List.map_take]
    exact isPrefix_take_append _ _ _
  · cases hs : k.started with
    | true => exact Or.inl hs
    | false => exact Or.inr (by rw [callView, h.unstarted hs, List.take_nil]; rfl)

theorem callView_complete {cn : Conn} {k : Call} (h : CallOk k) (hc : k.complete = true) :
    (callView cn k).got = outcome (callView cn k) := by
  simp only [Call.complete, Bool.and_eq_true, List.isEmpty_iff, beq_iff_eq] at hc
  rw [outcome_callView, h.outcome_eq, hc.1, callView, hc.2, List.take_length, List.flatten_nil,
    List.append_nil]

theorem callView_complete_plan {cn : Conn} {k : Call} (h : CallOk k) (hc : k.complete = true)
    (he : k.expired = false) : (callView cn k).got = k.plan.map toOut := by
  rw [callView_complete h hc]
  simp [outcome, callView, he]

end Shutdown
