import TonicModel.Lemmas.FramingRun
import TonicModel.Lemmas.FramingEnc
/-
Wire-format facts: the model's frames are the specification's frames; the naive splitter
inverts `frames`; the reference decoder reads a valid stream back.
-/
namespace Framing
open Spec.Framing
variable {α : Type}

theorem frameOf_eq_spec (cd : Codec α) (cfg : EncCfg) (m : α) :
    frameOf cd cfg m = Spec.Framing.frame (flagByte cfg) (payload cd cfg m) := rfl

theorem framesOf_eq_spec (cd : Codec α) (cfg : EncCfg) (ms : List α) :
    framesOf cd cfg ms = Spec.Framing.frames (ms.map (fun m => (flagByte cfg, payload cd cfg m))) := by
  induction ms with
  | nil => rfl
  | cons m ms ih => simp [framesOf_cons, Spec.Framing.frames, ih, frameOf_eq_spec]

theorem be32_u32 (n : Nat) (h : n < 4294967296) :
    be32 (UInt8.ofNat (n / 16777216 % 256)) (UInt8.ofNat (n / 65536 % 256))
      (UInt8.ofNat (n / 256 % 256)) (UInt8.ofNat (n % 256)) = n := by
  rw [be32_eq_readU32]; exact readU32_u32be n h

theorem split_frames (l : List (UInt8 × Bytes)) (h : ∀ fp ∈ l, fp.2.length < 4294967296) :
    Spec.Framing.split (Spec.Framing.frames l) = (l, []) := by
  induction l with
  | nil => rw [Spec.Framing.frames, Spec.Framing.split] <;> simp
  | cons fp l ih =>
    obtain ⟨f, p⟩ := fp
    have hp : p.length < 4294967296 := h (f, p) (by simp)
    have ih' := ih (fun x hx => h x (by simp [hx]))
    simp only [Spec.Framing.frames, Spec.Framing.frame, List.cons_append, List.nil_append]
    rw [Spec.Framing.split]
    simp only [be32_u32 p.length hp, List.length_append]
    have : p.length ≤ p.length + (Spec.Framing.frames l).length := by omega
    simp only [this, ↓reduceIte, List.take_left', List.drop_left', ih']

/-- One received message as the sender may have framed it: identity, or compressed with the
negotiated encoding. -/
structure Sent (α : Type) where
  msg : α
  compressed : Bool

def wireOf (cd : Codec α) (enc : Option Enc) (x : Sent α) : UInt8 × Bytes :=
  match x.compressed, enc with
  | true, some e => (1, cd.cz e (cd.ser x.msg))
  | _, _ => (0, cd.ser x.msg)

/-- Well-formedness of a sent stream with respect to a receiver configuration. -/
def SentOk (cd : Codec α) (cfg : DecCfg) (x : Sent α) : Prop :=
  (wireOf cd cfg.enc x).2.length ≤ cfg.limit ∧ (wireOf cd cfg.enc x).2.length < 4294967296

structure CodecLaws (cd : Codec α) : Prop where
  de_ser : ∀ m, cd.de (cd.ser m) = some m
  dz_cz : ∀ e b, cd.dz e (cd.cz e b) = some b

@[simp] theorem recvOf_limit (cd : Codec α) (cfg : DecCfg) : (recvOf cd cfg).limit = cfg.limit := rfl
@[simp] theorem recvOf_hasEnc (cd : Codec α) (cfg : DecCfg) : (recvOf cd cfg).hasEnc = cfg.enc.isSome := rfl
@[simp] theorem recvOf_de (cd : Codec α) (cfg : DecCfg) : (recvOf cd cfg).de = cd.de := rfl
theorem recvOf_dz (cd : Codec α) (cfg : DecCfg) (e : Enc) (h : cfg.enc = some e) (b : Bytes) :
    (recvOf cd cfg).dz b = cd.dz e b := by simp [recvOf, h]

/-- the codec laws restricted to the messages actually sent -/
structure CodecLawsOn (cd : Codec α) (xs : List (Sent α)) : Prop where
  de_ser : ∀ x ∈ xs, cd.de (cd.ser x.msg) = some x.msg
  dz_cz : ∀ e b, cd.dz e (cd.cz e b) = some b

theorem CodecLaws.on {cd : Codec α} (laws : CodecLaws cd) (xs : List (Sent α)) : CodecLawsOn cd xs :=
  ⟨fun x _ => laws.de_ser x.msg, laws.dz_cz⟩

/-- the flag of a header the receiver does not refuse for its flag -/
def FlagOk (cfg : DecCfg) (f : UInt8) : Prop := f = 0 ∨ (f = 1 ∧ cfg.enc.isSome = true)

instance (cfg : DecCfg) (f : UInt8) : Decidable (FlagOk cfg f) := by unfold FlagOk; infer_instance

theorem header_verdict (cd : Codec α) (cfg : DecCfg) (f : UInt8) (len : Nat) :
    header (recvOf cd cfg) f len =
      if FlagOk cfg f then (if len > cfg.limit then .error .tooLarge else .ok (f == 1))
      else .error (if f = 1 then .noEncoding else .flag) := by
  obtain ⟨enc, mx, dir⟩ := cfg
  unfold header FlagOk
  by_cases h0 : f = 0
  · simp [h0]
  · by_cases h1 : f = 1
    · cases enc <;> simp [h1]
    · simp [h0, h1]

theorem header_of_flagOk (cd : Codec α) (cfg : DecCfg) (f : UInt8) (len : Nat) (hf : FlagOk cfg f) :
    header (recvOf cd cfg) f len = if len > cfg.limit then .error .tooLarge else .ok (f == 1) := by
  rw [header_verdict, if_pos hf]

theorem flagOk_wireOf (cd : Codec α) (cfg : DecCfg) (x : Sent α) : FlagOk cfg (wireOf cd cfg.enc x).1 := by
  unfold wireOf FlagOk
  cases x.compressed <;> cases cfg.enc <;> simp

def consAll (ms : List α) (r : List α × Stop) : List α × Stop := (ms ++ r.1, r.2)

theorem batch_frames_append (cd : Codec α) (cfg : DecCfg) (xs : List (Sent α)) (laws : CodecLawsOn cd xs)
    (h : ∀ x ∈ xs, SentOk cd cfg x) (T : Bytes) :
    batch (recvOf cd cfg) (Spec.Framing.frames (xs.map (wireOf cd cfg.enc)) ++ T)
        = consAll (xs.map (·.msg)) (batch (recvOf cd cfg) T) ∧
    held (recvOf cd cfg) (Spec.Framing.frames (xs.map (wireOf cd cfg.enc)) ++ T) = held (recvOf cd cfg) T := by
  induction xs with
  | nil => simp [Spec.Framing.frames, consAll]
  | cons x xs ih =>
    obtain ⟨hlim, h32⟩ := h x (by simp)
    have hdx : cd.de (cd.ser x.msg) = some x.msg := laws.de_ser x (by simp)
    have ih' := ih ⟨fun y hy => laws.de_ser y (by simp [hy]), laws.dz_cz⟩ (fun y hy => h y (by simp [hy]))
    simp only [List.map_cons, Spec.Framing.frames, Spec.Framing.frame, List.cons_append, List.nil_append,
      List.append_assoc]
    rw [batch_cons5, held_cons5, be32_u32 _ h32, header_of_flagOk cd cfg _ _ (flagOk_wireOf cd cfg x),
      if_neg (Nat.not_lt.mpr hlim)]
    -- the payload of the first frame is complete, and what the sender did to it the receiver undoes
    have hz : (if (wireOf cd cfg.enc x).1 == 1 then (recvOf cd cfg).dz (wireOf cd cfg.enc x).2
        else some (wireOf cd cfg.enc x).2) = some (cd.ser x.msg) := by
      unfold wireOf
      cases x.compressed <;> cases he : cfg.enc <;> simp [recvOf, he, laws.dz_cz]
    have hp : Spec.Framing.payload (recvOf cd cfg) (wireOf cd cfg.enc x).2.length ((wireOf cd cfg.enc x).1 == 1)
        (wireOf cd cfg.enc x).2 = .ok x.msg := by
      simp only [Spec.Framing.payload, Nat.lt_irrefl, ↓reduceIte, List.take_length, hz, recvOf_de, hdx]
    obtain ⟨hb, hh⟩ := body_ok hp (Spec.Framing.frames (xs.map (wireOf cd cfg.enc)) ++ T)
    dsimp only
    rw [hb, hh, List.drop_length, List.nil_append, ih'.1, ih'.2]
    exact ⟨rfl, rfl⟩

theorem batch_wire_on (cd : Codec α) (cfg : DecCfg) (xs : List (Sent α)) (laws : CodecLawsOn cd xs)
    (h : ∀ x ∈ xs, SentOk cd cfg x) :
    batch (recvOf cd cfg) (Spec.Framing.frames (xs.map (wireOf cd cfg.enc))) = (xs.map (·.msg), .clean) := by
  have := (batch_frames_append cd cfg xs laws h []).1
  rwa [List.append_nil, batch_nil, consAll, List.append_nil] at this

theorem batch_wire (cd : Codec α) (cfg : DecCfg) (laws : CodecLaws cd) (xs : List (Sent α))
    (h : ∀ x ∈ xs, SentOk cd cfg x) :
    batch (recvOf cd cfg) (Spec.Framing.frames (xs.map (wireOf cd cfg.enc))) = (xs.map (·.msg), .clean) :=
  batch_wire_on cd cfg xs (laws.on xs) h

end Framing
