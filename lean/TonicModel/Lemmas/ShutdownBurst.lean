import TonicModel.Model.ShutdownBurst
import TonicModel.Lemmas.ShutdownAccept
/-
C13, bursts: ONE connection slot followed through a run.  The only step that turns an offered
connection into an accepted one is the accept loop's `loopAccept` of that very slot
(`ConnFrame.accepted`); with `run_no_accept_after_signal` this gives the burst statement of
Props/C13: whatever is still queued when the signal becomes ready is never accepted.
-/
namespace Shutdown

def Unaccepted (s : State) (c : Nat) : Prop := ∃ cn, s.conns[c]? = some cn ∧ cn.accepted = false

theorem Frame.unaccepted {took : Label → Prop} {s s' : State} {c : Nat} (f : Frame took s s')
    (hu : Unaccepted s c) (hl : ¬ took (.loopAccept c)) : Unaccepted s' c := by
  obtain ⟨cn, hc, ha⟩ := hu
  obtain ⟨cn', hc', fc⟩ := f.conns c cn hc
  exact ⟨cn', hc', (fc.accepted hl).trans ha⟩

theorem run_offers {n : Nat} {s s' : State} (h : run s (burstOffers n) = some s') :
    s' = { s with conns := s.conns ++
      List.replicate n (Conn.new (!s.ended && !s.resolved) s.sigReady) } := by
  induction n generalizing s with
  | zero => cases h; rw [List.replicate_zero, List.append_nil]
  | succ n ih =>
    obtain ⟨s1, h1, h⟩ := run_cons.1 h
    cases h1
    rw [ih h, List.append_assoc]
    rfl

theorem run_offers_length {n : Nat} : ∀ {s s' : State}, run s (burstOffers n) = some s' →
    s'.conns.length = s.conns.length + n := by
  intro s s' h
  rw [run_offers h, List.length_append, List.length_replicate]

theorem run_offers_unaccepted {n : Nat} {s s' : State} {i : Nat}
    (h : run s (burstOffers n) = some s') (hi : i < n) : Unaccepted s' (s.conns.length + i) := by
  refine ⟨Conn.new (!s.ended && !s.resolved) s.sigReady, ?_, rfl⟩
  rw [run_offers h]
  show (s.conns ++ _)[s.conns.length + i]? = _
  rw [List.getElem?_append_right (Nat.le_add_right _ _), Nat.add_sub_cancel_left,
    List.getElem?_replicate, if_pos hi]

end Shutdown
