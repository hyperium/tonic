import TonicModel.Lemmas.SpecLookup
import TonicModel.Lemmas.RichErrorWire
/-
The independent spec decoder reads the model's encodings of the detail messages and of
google.rpc.Status back to the values that were encoded (wire conformance, at theorem level).
-/
namespace SpecWire
open PbWire Spec.RichError RichError

theorem mapM_map_of {α β : Type} (f : Bytes → Option β) (enc : α → Bytes) (g : α → β) (l : List α)
    (h : ∀ a ∈ l, f (enc a) = some (g a)) : (l.map enc).mapM f = some (l.map g) := by
  induction l with
  | nil => rfl
  | cons a l ih =>
    simp [List.mapM_cons, h a (by simp), ih (fun x hx => h x (by simp [hx]))]

theorem int64Of_u64OfInt (x : Int) (h : -9223372036854775808 ≤ x ∧ x < 9223372036854775808) :
    int64Of (u64OfInt x) = x := by
  have e : int64Of (u64OfInt x) = toI64 (u64OfInt x) := by
    rw [toI64, Nat.mod_eq_of_lt (u64OfInt_lt x)]
    rfl
  rw [e, toI64_u64OfInt x h]

/-- `Spec.int32Of` and `PbWire.toI32` are the same term: the one place where spec and model coincide
by text. -/
theorem int32Of_u64OfInt (x : Int) (h : -2147483648 ≤ x ∧ x < 2147483648) : int32Of (u64OfInt x) = x :=
  toI32_u64OfInt x h

theorem spec_twoStrings {β : Type} (f : Bytes → Option β) (mk : Bytes → Bytes → β)
    (hf : ∀ x, f x = do let fs ← parse x; pure (mk (← stringField 1 fs) (← stringField 2 fs)))
    (a b : Bytes) (ha : Utf8Rust.valid a = true) (hb : Utf8Rust.valid b = true)
    (hsz : (encL2 [.sc .str, .sc .str] [.sc (.b a), .sc (.b b)]).length < 18446744073709551616) :
    f (encL2 [.sc .str, .sc .str] [.sc (.b a), .sc (.b b)]) = some (mk a b) := by
  have sf := stringField_recsL2 [.sc .str, .sc .str] [.sc (.b a), .sc (.b b)]
  have h1 : stringField 1 _ = some a := sf 0 a rfl rfl ha
  have h2 : stringField 2 _ = some b := sf 1 b rfl rfl hb
  simp [hf, parse_encL2 _ _ (by decide) hsz, h1, h2]

theorem spec_preconditionViolation (a b c : Bytes) (ha : Utf8Rust.valid a = true)
    (hb : Utf8Rust.valid b = true) (hc : Utf8Rust.valid c = true)
    (hsz : (encFlat [.str, .str, .str] [.b a, .b b, .b c]).length < 18446744073709551616) :
    preconditionViolation (encFlat [.str, .str, .str] [.b a, .b b, .b c]) = some ⟨a, b, c⟩ := by
  simp only [encFlat_eq, List.map_cons, List.map_nil] at hsz ⊢
  have sf := stringField_recsL2 [.sc .str, .sc .str, .sc .str] [.sc (.b a), .sc (.b b), .sc (.b c)]
  have h1 : stringField 1 _ = some a := sf 0 a rfl rfl ha
  have h2 : stringField 2 _ = some b := sf 1 b rfl rfl hb
  have h3 : stringField 3 _ = some c := sf 2 c rfl rfl hc
  simp [preconditionViolation, parse_encL2 _ _ (by decide) hsz, h1, h2, h3]

theorem spec_resourceInfo (x : RichError.ResourceInfo) (h : wfDetail (.resourceInfo x) = true)
    (hsz : (prost.encDetail (.resourceInfo x)).length < 18446744073709551616) :
    resourceInfo (prost.encDetail (.resourceInfo x)) = some x := by
  simp only [wfDetail, Bool.and_eq_true] at h
  have hp := parse_encL2 (schemaOf .resourceInfo) (toPb (.resourceInfo x)) (by decide) hsz
  have sf := stringField_recsL2 (schemaOf .resourceInfo) (toPb (.resourceInfo x))
  have h1 : stringField 1 _ = some x.resourceType := sf 0 _ rfl rfl h.1.1.1
  have h2 : stringField 2 _ = some x.resourceName := sf 1 _ rfl rfl h.1.1.2
  have h3 : stringField 3 _ = some x.owner := sf 2 _ rfl rfl h.1.2
  have h4 : stringField 4 _ = some x.description := sf 3 _ rfl rfl h.2
  simp only [prost, ErrorDetail.kind] at hp ⊢
  simp [resourceInfo, hp, h1, h2, h3, h4]

theorem spec_duration (d : Dur) (h : wfDur d = true)
    (hsz : (encFlat [.i64, .i32] (durToPb d)).length < 18446744073709551616) :
    duration (encFlat [.i64, .i32] (durToPb d)) = some d := by
  simp only [durToPb_eq d h, encFlat_eq, List.map_cons, List.map_nil] at hsz ⊢
  simp only [wfDur, Bool.and_eq_true, decide_eq_true_eq] at h
  have vf := varintField_recsL2 [.sc .i64, .sc .i32] [.sc (.i d.secs), .sc (.i d.nanos)]
  have h1 : varintField 1 _ = some (u64OfInt d.secs) := vf 0 .i64 d.secs (Or.inr rfl) rfl rfl
  have h2 : varintField 2 _ = some (u64OfInt d.nanos) := vf 1 .i32 d.nanos (Or.inl rfl) rfl rfl
  have hc : (0 : Int) ≤ d.secs ∧ (0 : Int) ≤ d.nanos ∧ (d.nanos : Int) < 1000000000 := by omega
  simp [duration, parse_encL2 _ _ (by decide) hsz, h1, h2, int64Of_u64OfInt d.secs (by omega),
    int32Of_u64OfInt d.nanos (by omega), hc]

theorem spec_retryInfo (x : RichError.RetryInfo) (h : wfDetail (.retryInfo x) = true)
    (hsz : (prost.encDetail (.retryInfo x)).length < 18446744073709551616) :
    retryInfo (prost.encDetail (.retryInfo x)) = some x := by
  obtain ⟨o⟩ := x
  have hp := parse_encL2 (schemaOf .retryInfo) (toPb (.retryInfo ⟨o⟩)) (by decide) hsz
  have hm : messageField 1 _ = some ((o.map durToPb).map (encFlat [.i64, .i32])) :=
    messageField_recsL2 (schemaOf .retryInfo) (toPb (.retryInfo ⟨o⟩)) 0 _ _ rfl rfl
  simp only [prost, ErrorDetail.kind] at hp ⊢
  cases o with
  | none => simp [retryInfo, hp, hm]
  | some d =>
    have hd := spec_duration d h (payload_lt (schemaOf .retryInfo) (toPb (.retryInfo ⟨some d⟩)) 1 _
      (by simp [schemaOf, toPb, recsL2From, wires]) hsz)
    simp [retryInfo, hp, hm, hd]

theorem spec_debugInfo (x : RichError.DebugInfo) (h : wfDetail (.debugInfo x) = true)
    (hsz : (prost.encDetail (.debugInfo x)).length < 18446744073709551616) :
    debugInfo (prost.encDetail (.debugInfo x)) = some x := by
  simp only [wfDetail, Bool.and_eq_true, List.all_eq_true] at h
  have hp := parse_encL2 (schemaOf .debugInfo) (toPb (.debugInfo x)) (by decide) hsz
  have h1 : repeatedString 1 _ = some x.stackEntries :=
    repeatedString_recsL2 (schemaOf .debugInfo) (toPb (.debugInfo x)) 0 _ rfl rfl h.1
  have h2 : stringField 2 _ = some x.detail :=
    stringField_recsL2 (schemaOf .debugInfo) (toPb (.debugInfo x)) 1 _ rfl rfl h.2
  simp only [prost, ErrorDetail.kind] at hp ⊢
  simp [debugInfo, hp, h1, h2]

theorem spec_repeatedFlat {α β : Type} (f : Bytes → Option β) (mk : List α → β) (g : Bytes → Option α)
    (hf : ∀ x, f x = do let fs ← parse x; pure (mk (← (← repeatedLen 1 fs).mapM g)))
    (sf : Flat) (toV : α → List SV) (l : List α)
    (hsz : (encL2 [.repFlat sf] [.repFlat (l.map toV)]).length < 18446744073709551616)
    (hg : ∀ a ∈ l, (encFlat sf (toV a)).length < 18446744073709551616 → g (encFlat sf (toV a)) = some a) :
    f (encL2 [.repFlat sf] [.repFlat (l.map toV)]) = some (mk l) := by
  have hr : repeatedLen 1 _ = some (l.map fun a => encFlat sf (toV a)) :=
    repeatedLen_recsL2 [.repFlat sf] [.repFlat (l.map toV)] 0 _ _ _ rfl rfl (by simp [wires])
  have hm := mapM_map_of g (fun a => encFlat sf (toV a)) id l fun a ha =>
    hg a ha (payload_lt [.repFlat sf] [.repFlat (l.map toV)] 1 _
      (by simp only [recsL2From, wires]; simp; exact ⟨a, ha, rfl⟩) hsz)
  simp [hf, parse_encL2 _ _ (by simp) hsz, hr, hm]

theorem spec_errorInfo (x : RichError.ErrorInfo) (h : wfDetail (.errorInfo x) = true)
    (hsz : (prost.encDetail (.errorInfo x)).length < 18446744073709551616) :
    errorInfo (prost.encDetail (.errorInfo x)) = some x := by
  simp only [wfDetail, List.all_eq_true, Bool.and_eq_true] at h
  have hp := parse_encL2 (schemaOf .errorInfo) (toPb (.errorInfo x)) (by decide) hsz
  have sf := stringField_recsL2 (schemaOf .errorInfo) (toPb (.errorInfo x))
  have h1 : stringField 1 _ = some x.reason := sf 0 _ rfl rfl h.1.1.1
  have h2 : stringField 2 _ = some x.domain := sf 1 _ rfl rfl h.1.1.2
  have h3 : repeatedLen 3 _ = some (x.metadata.map encEntry) :=
    repeatedLen_recsL2 (schemaOf .errorInfo) (toPb (.errorInfo x)) 2 _ _ _ rfl rfl (by simp [wires])
  have h4 := mapM_map_of mapEntry encEntry id x.metadata fun e he =>
    spec_twoStrings mapEntry Prod.mk (fun _ => rfl) e.1 e.2 (h.1.2 e he).1 (h.1.2 e he).2
      (payload_lt (schemaOf .errorInfo) (toPb (.errorInfo x)) 3 _
        (by simp only [schemaOf, toPb, recsL2From, wires]; simp; exact ⟨_, _, he, rfl⟩) hsz)
  simp only [prost, ErrorDetail.kind] at hp ⊢
  simp [errorInfo, hp, h1, h2, h3, h4]

theorem asciiBytes_append (a b : String) : asciiBytes (a ++ b) = asciiBytes a ++ asciiBytes b := by
  simp [asciiBytes]

theorem urlOf_eq (name : String) : urlOf name = urlPrefix ++ asciiBytes name := by
  rw [urlOf, ← asciiBytes_append]
  rfl

/-- the spec's reader for the message of one kind -/
def detailOfKind : Kind → Bytes → Option ErrorDetail
  | .retryInfo, v => (retryInfo v).map .retryInfo
  | .debugInfo, v => (debugInfo v).map .debugInfo
  | .quotaFailure, v => (quotaFailure v).map .quotaFailure
  | .errorInfo, v => (errorInfo v).map .errorInfo
  | .preconditionFailure, v => (preconditionFailure v).map .preconditionFailure
  | .badRequest, v => (badRequest v).map .badRequest
  | .requestInfo, v => (requestInfo v).map .requestInfo
  | .resourceInfo, v => (resourceInfo v).map .resourceInfo
  | .help, v => (help v).map .help
  | .localizedMessage, v => (localizedMessage v).map .localizedMessage

theorem detailOf_typeUrl (k : Kind) (v : Bytes) : detailOf (typeUrl k) v = (detailOfKind k v).map some := by
  have u : ∀ k' name, kindName k' = asciiBytes name → (typeUrl k = urlOf name) = (k = k') := by
    intro k' name e
    rw [urlOf_eq, ← e]
    exact propext ⟨typeUrl_injective k k', congrArg typeUrl⟩
  simp only [detailOf, u .retryInfo _ rfl, u .debugInfo _ rfl, u .quotaFailure _ rfl, u .errorInfo _ rfl,
    u .preconditionFailure _ rfl, u .badRequest _ rfl, u .requestInfo _ rfl, u .resourceInfo _ rfl,
    u .help _ rfl, u .localizedMessage _ rfl]
  cases k <;> simp [detailOfKind, Option.map_map]

theorem detailOfKind_encDetail (d : ErrorDetail) (h : wfDetail d = true)
    (hsz : (prost.encDetail d).length < 18446744073709551616) :
    detailOfKind d.kind (prost.encDetail d) = some d := by
  cases d with
  | retryInfo x => exact congrArg (Option.map _) (spec_retryInfo x h hsz)
  | debugInfo x => exact congrArg (Option.map _) (spec_debugInfo x h hsz)
  | errorInfo x => exact congrArg (Option.map _) (spec_errorInfo x h hsz)
  | resourceInfo x => exact congrArg (Option.map _) (spec_resourceInfo x h hsz)
  | requestInfo x =>
    simp only [wfDetail, Bool.and_eq_true] at h
    exact congrArg (Option.map _) (spec_twoStrings requestInfo .mk (fun _ => rfl) _ _ h.1 h.2 hsz)
  | localizedMessage x =>
    simp only [wfDetail, Bool.and_eq_true] at h
    exact congrArg (Option.map _) (spec_twoStrings localizedMessage .mk (fun _ => rfl) _ _ h.1 h.2 hsz)
  | quotaFailure x =>
    simp only [wfDetail, List.all_eq_true, Bool.and_eq_true] at h
    exact congrArg (Option.map _) (spec_repeatedFlat quotaFailure .mk quotaViolation (fun _ => rfl) [.str, .str]
      (fun v => [.b v.subject, .b v.description]) x.violations hsz fun a ha hs =>
        spec_twoStrings quotaViolation .mk (fun _ => rfl) _ _ (h a ha).1 (h a ha).2 hs)
  | badRequest x =>
    simp only [wfDetail, List.all_eq_true, Bool.and_eq_true] at h
    exact congrArg (Option.map _) (spec_repeatedFlat badRequest .mk fieldViolation (fun _ => rfl) [.str, .str]
      (fun v => [.b v.field, .b v.description]) x.fieldViolations hsz fun a ha hs =>
        spec_twoStrings fieldViolation .mk (fun _ => rfl) _ _ (h a ha).1 (h a ha).2 hs)
  | help x =>
    simp only [wfDetail, List.all_eq_true, Bool.and_eq_true] at h
    exact congrArg (Option.map _) (spec_repeatedFlat help .mk helpLink (fun _ => rfl) [.str, .str]
      (fun v => [.b v.description, .b v.url]) x.links hsz fun a ha hs =>
        spec_twoStrings helpLink .mk (fun _ => rfl) _ _ (h a ha).1 (h a ha).2 hs)
  | preconditionFailure x =>
    simp only [wfDetail, List.all_eq_true, Bool.and_eq_true] at h
    exact congrArg (Option.map _) (spec_repeatedFlat preconditionFailure .mk preconditionViolation (fun _ => rfl)
      [.str, .str, .str] (fun v => [.b v.type, .b v.subject, .b v.description]) x.violations hsz fun a ha hs =>
        spec_preconditionViolation _ _ _ (h a ha).1.1 (h a ha).1.2 (h a ha).2 hs)

theorem spec_any (u v : Bytes) (hu : Utf8Rust.valid u = true)
    (hsz : (encFlat [.str, .bytes] [.b u, .b v]).length < 18446744073709551616) :
    any (encFlat [.str, .bytes] [.b u, .b v]) = some (u, v) := by
  simp only [encFlat_eq, List.map_cons, List.map_nil] at hsz ⊢
  have h1 : stringField 1 _ = some u :=
    stringField_recsL2 [.sc .str, .sc .bytes] [.sc (.b u), .sc (.b v)] 0 u rfl rfl hu
  have h2 : bytesField 2 _ = some v :=
    bytesField_recsL2 [.sc .str, .sc .bytes] [.sc (.b u), .sc (.b v)] 1 v rfl rfl
  simp [any, parse_encL2 _ _ (by decide) hsz, h1, h2]

theorem spec_status (st : PbStatus) (h : WFs st) :
    status (prost.encStatus st) = some ⟨st.code, st.message, st.details.map fun a => (a.typeUrl, a.value)⟩ := by
  obtain ⟨hc, hm, hu, hsz⟩ := h
  have hp := parse_encL2 statusSchema (statusToPb st) (by decide) hsz
  have h1 : varintField 1 _ = some (u64OfInt st.code) :=
    varintField_recsL2 statusSchema (statusToPb st) 0 .i32 _ (Or.inl rfl) rfl rfl
  have h2 : stringField 2 _ = some st.message := stringField_recsL2 statusSchema (statusToPb st) 1 _ rfl rfl hm
  have h3 : repeatedLen 3 _ = some (st.details.map fun a => encFlat [.str, .bytes] [.b a.typeUrl, .b a.value]) :=
    repeatedLen_recsL2 statusSchema (statusToPb st) 2 _ _ _ rfl rfl (by simp [wires])
  have h4 := mapM_map_of any (fun a : Any => encFlat [.str, .bytes] [.b a.typeUrl, .b a.value])
    (fun a => (a.typeUrl, a.value)) st.details fun a ha =>
      spec_any a.typeUrl a.value (hu a ha) (payload_lt statusSchema (statusToPb st) 3 _
        (by simp only [statusSchema, statusToPb, recsL2From, wires]; simp; exact ⟨a, ha, rfl⟩) hsz)
  simp only [prost] at hp ⊢
  simp [status, hp, h1, h2, h3, h4, int32Of_u64OfInt st.code hc]

theorem isPerm_refl (l : List (Bytes × Bytes)) : isPerm l l = true := by
  induction l with
  | nil => rfl
  | cons a l ih => simp [isPerm, ih]

theorem sameDetail_refl (d : ErrorDetail) : sameDetail d d = true := by
  cases d <;> simp [sameDetail, isPerm_refl]

theorem sameDetails_refl (ds : List ErrorDetail) : sameDetails ds ds = true := by
  induction ds with
  | nil => rfl
  | cons d ds ih => simp [sameDetails, sameDetail_refl, ih]

theorem spec_standardDetails (ds : List ErrorDetail) (h : ∀ d ∈ ds, WFd d) :
    standardDetails ((ds.map (intoAny prost)).map fun a => (a.typeUrl, a.value)) = some ds := by
  induction ds with
  | nil => rfl
  | cons d ds ih =>
    obtain ⟨hd, hds⟩ := List.forall_mem_cons.mp h
    simp only [List.map_cons, standardDetails, intoAny_typeUrl, intoAny_value, detailOf_typeUrl,
      detailOfKind_encDetail d hd.1 hd.2, Option.map_some, ih hds]

theorem spec_carries (code : Nat) (msg : Bytes) (ds : List ErrorDetail)
    (hd : ∀ d ∈ ds, WFd d) (hs : WFs ⟨code, msg, ds.map (intoAny prost)⟩) :
    carries code msg ds (genDetailsBytes prost code msg (ds.map (intoAny prost))) = true := by
  have h1 := spec_status _ hs
  have h2 := spec_standardDetails ds hd
  simp only [carries, genDetailsBytes, h1, h2, sameDetails_refl]
  simp

theorem spec_carriesSet (code : Nat) (msg : Bytes) (ds : List ErrorDetail)
    (hd : ∀ d ∈ ds, WFd d) (hs : WFs ⟨code, msg, ds.map (intoAny prost)⟩) :
    carriesSet code msg ds (genDetailsBytes prost code msg (ds.map (intoAny prost))) = true := by
  have h1 := spec_status _ hs
  have h2 := spec_standardDetails ds hd
  have h3 : ∀ o : Option ErrorDetail, (match o, o with
      | none, none => true
      | some a, some b => sameDetail a b
      | _, _ => false) = true := by
    intro o; cases o <;> simp [sameDetail_refl]
  simp only [carriesSet, genDetailsBytes, h1, h2]
  simp only [List.length_map, beq_self_eq_true, Bool.and_self, Bool.true_and, List.all_eq_true]
  intro k _
  exact h3 _

theorem spec_embeds (code : Nat) (msg : Bytes) (anys : List Any) (hs : WFs ⟨code, msg, anys⟩) :
    embeds code msg (genDetailsBytes prost code msg anys) = true := by
  simp [embeds, genDetailsBytes, spec_status _ hs]

end SpecWire
