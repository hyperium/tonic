import TonicModel.Spec.Balance
import TonicModel.Lemmas.BalanceRun
import TonicModel.Lemmas.BalanceSpecRun
/-
Load-balanced channel (C14): every run of the model (`Model/Balance`), under every sequence of
choices of the balancer, satisfies the oracle (`Spec/Balance`).  The two are related endpoint by
endpoint (`Rel`); a call keeps the aligned lists related, and the endpoint that served is found in
both (`Served`); the script's own steps keep them related too.  What holds between two steps of a
script is `Sim`; whole scripts follow, observed up to the first hang (`run`) and past it (`runAll`).
-/
namespace Balance
open ConnScript BalScript Reconnect
open Spec.Balance (O)

/-- the oracle's entry `o` and the model's endpoint `e` agree on what the script decides, and the
oracle owes / has a stopped server whenever the endpoint holds a failure / has lost a peer -/
structure Rel (o : O) (e : EP) : Prop where
  key : o.key = e.key
  member : o.member = e.member
  up : o.up = e.w.up
  gen : o.gen = e.w.gen
  aliveUp : e.w.alive.isSome = true → e.w.up = true
  owes : e.member = true → H e → o.owes = true
  killed : e.member = true → D e → o.killed = true

/-- `C` for "during a call": related, at the moment of a call (`Spec.Balance.atCall` has marked the
unreachable endpoints), and the model-side invariants -/
structure RelC (o : O) (e : EP) : Prop where
  rel : Rel o e
  down : e.member = true → e.w.up = false → o.owes = true
  lz : Lz e
  gd : Gd e

theorem advance_relc (o : O) (e : EP) (h : RelC o e) : RelC o (advance e) := by
  have hm := (advance_lz e h.lz).2
  refine ⟨⟨h.rel.key, h.rel.member.trans hm.symm, h.rel.up.trans (advance_up e).symm,
    h.rel.gen.trans (advance_gen e).symm, advance_aliveUp e h.rel.aliveUp, ?_, ?_⟩, ?_,
    (advance_lz e h.lz).1, advance_gd e h.gd⟩
  · intro hm' hh
    rw [hm] at hm'
    exact (advance_H e hh).elim (h.rel.owes hm') (h.down hm')
  · intro hm' hd
    rw [hm] at hm'
    exact h.rel.killed hm' (advance_D e hd)
  · intro hm' hu
    rw [hm] at hm'; rw [advance_up] at hu
    exact h.down hm' hu

/-- what the oracle's entry for the serving endpoint must say about a result -/
def resOK (o : O) : BRes → Prop
  | .resp k g => o.key = k ∧ o.member = true ∧ o.up = true ∧ o.gen = g
  | .err _ _ => o.member = true ∧ o.owes = true
  | .lost _ => o.member = true ∧ o.owes = true ∧ o.killed = true
  | .hang => False
  | .panic => False

theorem BRes.servedBy.resOK {o : O} {a : EP} {r : BRes} (h : r.servedBy a) (hr : Rel o a)
    (hm : a.member = true) : resOK o r := by
  have hom := hr.member.trans hm
  cases r with
  | resp k g =>
    obtain ⟨rfl, rfl, ha⟩ := h
    exact ⟨hr.key, hom, hr.up.trans (hr.aliveUp ha), hr.gen⟩
  | err k x => exact ⟨hom, hr.owes hm h.2⟩
  | lost k => exact ⟨hom, hr.owes hm h.2.1, hr.killed hm h.2.2⟩
  | hang => exact h
  | panic => exact h

/-- the call takes what the endpoint held: the oracle's entry may say anything about it now -/
theorem serveEP_relc (o : O) (e : EP) (h : RelC o e) (hr : Ripe e) : RelC o (serveEP e).1 := by
  have hc := serveEP_clear e hr h.gd
  have hl := serveEP_lz e h.lz
  have hg := serveEP_gd e h.gd
  rw [serveEP_fst] at hc hl hg ⊢
  exact ⟨⟨h.rel.key, h.rel.member, h.rel.up, h.rel.gen, h.rel.aliveUp, fun _ hh => absurd hh hc,
    fun _ hd => absurd hd.toH hc⟩, h.down, hl, hg⟩

theorem tryOne_relc (o : O) (e : EP) (h : RelC o e) : RelC o (tryOne e).1 := by
  cases hr : (tryOne e).2 with
  | none => rw [(tryOne_none hr).1]; exact advance_relc o e h
  | some r =>
    obtain ⟨_, hrp, h1, _⟩ := tryOne_some hr
    rw [h1]
    exact serveEP_relc o _ (advance_relc o e h) hrp

theorem tryOne_served_ok (o : O) (e : EP) (r : BRes) (h : RelC o e) (hr : (tryOne e).2 = some r) :
    resOK o r ∧ ¬ H (tryOne e).1 :=
  ⟨(tryOne_servedBy hr).resOK (advance_relc o e h).rel (tryOne_some hr).1, (tryOne_clear h.gd hr).1⟩

theorem settle_relc (o : O) (e : EP) (h : RelC o e) : RelC o { e with fresh := false } :=
  ⟨⟨h.rel.key, h.rel.member, h.rel.up, h.rel.gen, h.rel.aliveUp,
    fun hm hh => h.rel.owes hm (settle_H hh), fun hm hd => h.rel.killed hm (settle_D hd)⟩,
    h.down, h.lz, h.gd⟩

theorem ev_relc {o : O} {a b : EP} (h : Ev a b) (ha : RelC o a) : RelC o b :=
  Ev.keeps (advance_relc o) (tryOne_relc o) (settle_relc o) h ha

/-! ### one call: the lists stay related, and the endpoint that served is found in both -/

def Served (r : BRes) (os : List O) (eps : List EP) : Prop :=
  ∃ o e, Mem2 o e os eps ∧ resOK o r ∧ ¬ H e

theorem ServedAt.served {r : BRes} {os : List O} {eps eps' : List EP} (h : ServedAt r eps eps') (a : A2 RelC os eps) :
    Served r os eps' := by
  induction a generalizing eps' with
  | nil => cases h
  | cons p _ ih =>
    cases h with
    | here e hr _ => exact ⟨_, _, .head, tryOne_served_ok _ _ r (ev_relc e p) hr⟩
    | cons _ t =>
      obtain ⟨o, e, m, ok⟩ := ih t
      exact ⟨o, e, .tail m, ok⟩

theorem served_settle {r : BRes} {os : List O} {eps : List EP} (h : Served r os eps) : Served r os (settle eps) := by
  obtain ⟨o, e, m, ok, g⟩ := h
  exact ⟨o, _, m.settle, ok, mt settle_H g⟩

theorem call_served (s : B) (ch : Choice) {os : List O} (a : A2 RelC os s.eps) :
    A2 RelC os (call s ch).1.eps ∧ ((call s ch).2 ≠ .hang → Served (call s ch).2 os (call s ch).1.eps) := by
  refine ⟨A2.pw (P := RelC) (fun _ _ _ ev p => ev_relc ev p) a (call_pw s ch), fun h => ?_⟩
  obtain ⟨mid, sa, he⟩ := call_servedAt s ch h
  rw [he]
  exact served_settle (sa.served a)

/-! ### between calls -/

/-- `Q` for "quiescent": related between calls, with the model-side invariants (`RelC` without the
mark `atCall` puts on unreachable endpoints) -/
structure RelQ (o : O) (e : EP) : Prop where
  rel : Rel o e
  lz : Lz e
  gd : Gd e

theorem atCall_relc {os : List O} {eps : List EP} (a : A2 RelQ os eps) :
    A2 RelC (Spec.Balance.atCall os) eps := by
  unfold Spec.Balance.atCall
  refine A2.mapL _ ?_ a
  rintro o e ⟨⟨hk, hm, hu, hg, hau, ho, hkl⟩, hl, hgd⟩
  split
  · exact ⟨⟨hk, hm, hu, hg, hau, fun _ _ => rfl, hkl⟩, fun _ _ => rfl, hl, hgd⟩
  · rename_i hc
    refine ⟨⟨hk, hm, hu, hg, hau, ho, hkl⟩, ?_, hl, hgd⟩
    intro hme hup
    rw [hm, hu, hme, hup] at hc
    simp at hc

/-- what `Spec.Balance.afterCall` does to the entry it settles -/
def clr (o : O) : O := { o with owes := false, killed := false }

theorem relq_clr {o : O} {e : EP} (h : RelC o e) (g : ¬ H e) : RelQ (clr o) e := by
  obtain ⟨⟨hk, hm, hu, hg, hau, _, _⟩, _, hl, hgd⟩ := h
  exact ⟨⟨hk, hm, hu, hg, hau, fun _ hh => absurd hh g, fun _ hd => absurd hd.toH g⟩, hl, hgd⟩

theorem relq_of_relc {o : O} {e : EP} (h : RelC o e) : RelQ o e := ⟨h.rel, h.lz, h.gd⟩

theorem A2.clear (c : O → Prop) [DecidablePred c] {os : List O} {eps : List EP} (a : A2 RelC os eps)
    (hlen : (os.filter (fun o => decide (c o))).length ≤ 1) {o : O} {e : EP} (m : Mem2 o e os eps) (hc : c o)
    (hg : ¬ H e) : A2 RelQ (os.map fun o => if c o then clr o else o) eps := by
  have h : ∀ o' e', Mem2 o' e' os eps → c o' → ¬ H e' := fun _ _ m' hc' =>
    Mem2.unique c hlen m' hc' m hc ▸ hg
  clear hlen m
  induction a with
  | nil => exact .nil
  | cons p _ ih =>
    refine .cons ?_ (ih fun o e m hc => h o e (.tail m) hc)
    show RelQ (if c _ then _ else _) _
    split
    · rename_i hc; exact relq_clr p (h _ _ .head hc)
    · exact relq_of_relc p

/-- an error settles the debt of the only endpoint that owed: that is the one that served -/
theorem afterCall_owing {os : List O} {eps : List EP} (a : A2 RelC os eps) {o : O} {e : EP}
    (m : Mem2 o e os eps) (hm : o.member = true) (ho : o.owes = true) (hg : ¬ H e) :
    A2 RelQ
      (if ((Spec.Balance.membersOf os).filter (·.owes)).length = 1 then
        os.map fun o => if o.member && o.owes then { o with owes := false, killed := false } else o
       else os) eps := by
  split
  · rename_i hone
    refine A2.clear (fun x => (x.member && x.owes) = true) a ?_ m (by rw [hm, ho]; rfl) hg
    simpa [Spec.Balance.membersOf, List.filter_filter, Bool.and_comm] using Nat.le_of_eq hone
  · exact a.mono (fun _ _ => relq_of_relc)

theorem afterCall_relq (r : BRes) {os : List O} {eps : List EP} (a : A2 RelC os eps)
    (hs : r ≠ .hang → Served r os eps) (hn : KeysNodup os) :
    A2 RelQ (Spec.Balance.afterCall os r.obs) eps := by
  cases r with
  | hang => exact a.mono (fun _ _ => relq_of_relc)
  | panic => exact a.mono (fun _ _ => relq_of_relc)
  | resp k g =>
    obtain ⟨o, e, m, ok, hg⟩ := hs (by simp)
    exact A2.clear (fun x => x.key = k) a (filter_key_le_one k os hn) m ok.1 hg
  | err k x =>
    obtain ⟨o, e, m, ok, hg⟩ := hs (by simp)
    exact afterCall_owing a m ok.1 ok.2 hg
  | lost k =>
    obtain ⟨o, e, m, ok, hg⟩ := hs (by simp)
    exact afterCall_owing a m ok.1 ok.2.1 hg

/-! ### the script's own steps -/

theorem A2.any_key {os : List O} {eps : List EP} (a : A2 RelQ os eps) (k : Nat) :
    os.any (fun o => decide (o.key = k)) = eps.any (fun e => decide (e.key = k)) := by
  induction a with
  | nil => rfl
  | cons p _ ih => simp only [List.any_cons, ih, p.rel.key]

theorem blank_relq (k : Nat) : RelQ (Spec.Balance.blank k) (blank k) := by
  refine ⟨⟨rfl, rfl, rfl, rfl, by simp [blank, EW.init], ?_, ?_⟩, blank_lz k, blank_gd k⟩
  · intro h; simp [blank] at h
  · intro h; simp [blank] at h

theorem A2.ensure {os : List O} {eps : List EP} (a : A2 RelQ os eps) (k : Nat) :
    A2 RelQ (Spec.Balance.ensure k os) (ensure k eps) := by
  unfold Spec.Balance.ensure Balance.ensure
  rw [a.any_key k]
  split
  · exact a
  · exact a.append (.cons (blank_relq k) .nil)

theorem A2.onKey {os : List O} {eps : List EP} (a : A2 RelQ os eps) (k : Nat) (fo : O → O) (fe : EP → EP)
    (h : ∀ o e, RelQ o e → RelQ (fo o) (fe e)) :
    A2 RelQ (Spec.Balance.onKey k fo os) (onKey k fe eps) := by
  induction a with
  | nil => exact .nil
  | cons p _ ih =>
    simp only [Spec.Balance.onKey, Balance.onKey, List.map_cons] at ih ⊢
    refine .cons ?_ ih
    rw [p.rel.key]
    split
    · exact h _ _ p
    · exact p

theorem up_relq (o : O) (e : EP) (h : RelQ o e) :
    RelQ (if o.up = true then o else { o with up := true, gen := o.gen + 1 }) { e with w := e.w.setUp } := by
  obtain ⟨⟨hk, hm, hu, hg, hau, ho, hkl⟩, hl, hgd⟩ := h
  unfold EW.setUp
  rw [hu]
  split
  · exact ⟨⟨hk, hm, hu, hg, hau, ho, hkl⟩, hl, hgd⟩
  · exact ⟨⟨hk, hm, rfl, by simp [hg], fun _ => rfl, ho, hkl⟩, hl, hgd⟩

theorem down_relq (o : O) (e : EP) (h : RelQ o e) :
    RelQ { o with up := false, owes := o.owes || o.member, killed := o.killed || (o.member && o.up) }
      { e with w := e.w.setDown } := by
  obtain ⟨⟨hk, hm, hu, hg, hau, ho, hkl⟩, hl, hgd⟩ := h
  refine ⟨⟨hk, hm, rfl, hg, by simp [EW.setDown], ?_, ?_⟩, hl, hgd⟩
  · intro hme _; simp [hm, show e.member = true from hme]
  · intro hme hd
    have hme' : e.member = true := hme
    simp only [hm, hme', hu, Bool.true_and, Bool.or_eq_true]
    cases hup : e.w.up
    · left
      have hnone : e.w.alive = none := by
        cases ha : e.w.alive with
        | none => rfl
        | some c => have := hau (by simp [ha]); rw [hup] at this; cases this
      apply hkl hme'
      unfold D at hd ⊢
      simp only [EW.setDown] at hd
      rw [hnone]
      exact hd
    · right; rfl

theorem insert_relq (o : O) (e : EP) (h : RelQ o e) :
    RelQ { o with member := true, owes := false, killed := false } (inserted true e) := by
  obtain ⟨⟨hk, hm, hu, hg, hau, ho, hkl⟩, hl, hgd⟩ := h
  refine ⟨⟨hk, rfl, hu, hg, by simp [inserted], ?_, ?_⟩, by simp [Lz, inserted, R.init],
    by simp [Gd, Good, inserted, R.init]⟩
  · intro _ hh; simp [H, inserted, R.init] at hh
  · intro _ hh; simp [D, inserted, R.init] at hh

theorem remove_relq (o : O) (e : EP) (h : RelQ o e) :
    RelQ { o with member := false, owes := false, killed := false } (removed e) := by
  obtain ⟨⟨hk, hm, hu, hg, hau, ho, hkl⟩, hl, hgd⟩ := h
  refine ⟨⟨hk, rfl, hu, hg, by simp [removed], ?_, ?_⟩, by simp [Lz, removed], hgd⟩
  · intro hh; simp [removed] at hh
  · intro hh; simp [removed] at hh

theorem env_relq (s : B) (op : BOp) (hl : s.lazyEps = true) {os : List O} (a : A2 RelQ os s.eps) :
    A2 RelQ (Spec.Balance.env os op) (env s op).eps := by
  cases op with
  | up k => exact (a.ensure k).onKey k _ _ up_relq
  | down k => exact (a.ensure k).onKey k _ _ down_relq
  | insert k => simp only [Spec.Balance.env, env, hl]; exact (a.ensure k).onKey k _ _ insert_relq
  | remove k => exact (a.ensure k).onKey k _ _ remove_relq
  | call => exact a

/-! ### one call's clauses -/

theorem obs_hang (r : BRes) : r.obs = .hang ↔ r = .hang := by
  cases r <;> simp [BRes.obs]

theorem callClauses_ok (r : BRes) (os : List O)
    (hhang : r = .hang → Spec.Balance.membersOf os = [])
    (hs : r ≠ .hang → ∃ o ∈ os, resOK o r) :
    (Spec.Balance.callClauses os r.obs).all (·.2) = true := by
  cases r with
  | hang => simp [Spec.Balance.callClauses, BRes.obs, hhang rfl, Spec.Balance.isResp]
  | panic =>
    obtain ⟨o, _, ok⟩ := hs (by simp)
    exact ok.elim
  | resp k g =>
    obtain ⟨o, ho, hk, hm, hu, hg⟩ := hs (by simp)
    have h := any_membersOf ho hm (p := fun o => o.key == k && o.up && o.gen == g) (by simp [hk, hu, hg])
    simp [Spec.Balance.callClauses, BRes.obs, Spec.Balance.isResp, h]
  | err k x =>
    obtain ⟨o, ho, hm, hw⟩ := hs (by simp)
    have h1 := any_membersOf ho hm (p := (·.owes)) hw
    have h2 := any_membersOf ho hm (p := fun o => !o.up || o.owes) (by simp [hw])
    simp [Spec.Balance.callClauses, BRes.obs, h1, h2]
    decide
  | lost k =>
    obtain ⟨o, ho, hm, hw, hkl⟩ := hs (by simp)
    have h1 := any_membersOf ho hm (p := (·.owes)) hw
    have h2 := any_membersOf ho hm (p := fun o => !o.up || o.owes) (by simp [hw])
    have h3 := any_membersOf ho hm (p := fun o => o.owes && o.killed) (by simp [hw, hkl])
    simp [Spec.Balance.callClauses, BRes.obs, h1, h2, h3]

/-! ### whole scripts -/

theorem A2.lz {os : List O} {eps : List EP} (a : A2 RelQ os eps) : ∀ e ∈ eps, Lz e := by
  induction a with
  | nil => intro e he; cases he
  | cons p _ ih => exact List.forall_mem_cons.2 ⟨p.lz, ih⟩

/-- the oracle state `os` and the channel `s` between two steps of a script -/
structure Sim (os : List O) (s : B) : Prop where
  lazyEps : s.lazyEps = true
  rel : A2 RelQ os s.eps
  nodup : (s.eps.map (·.key)).Nodup

theorem Sim.env {os : List O} {s : B} (h : Sim os s) (op : BOp) : Sim (Spec.Balance.env os op) (env s op) :=
  ⟨by rw [env_lazyEps]; exact h.lazyEps, env_relq s op h.lazyEps h.rel, env_keys_nodup s op h.nodup⟩

theorem Sim.call {os : List O} {s : B} (h : Sim os s) (ch : Choice) :
    (Spec.Balance.callClauses (Spec.Balance.atCall os) (call s ch).2.obs).all (·.2) = true ∧
    Sim (Spec.Balance.afterCall (Spec.Balance.atCall os) (call s ch).2.obs) (call s ch).1 := by
  have ac := atCall_relc h.rel
  have hk : KeysNodup (Spec.Balance.atCall os) := by
    unfold KeysNodup; rw [ac.keys fun _ _ p => p.rel.key]; exact h.nodup
  have hsv := call_served s ch ac
  have hcnt : (Spec.Balance.membersOf (Spec.Balance.atCall os)).length = members s.eps :=
    membersOf_length (fun _ _ p => p.rel.member) ac
  refine ⟨callClauses_ok _ _ (fun hh => ?_) (fun hh => ?_),
    by rw [call_lazyEps]; exact h.lazyEps, afterCall_relq _ hsv.1 hsv.2 hk,
    by rw [pw_keys (call_pw s ch)]; exact h.nodup⟩
  · have : members s.eps = 0 := Nat.eq_zero_of_not_pos fun hp => by
      have := call_definite s ch h.rel.lz hp
      rw [hh] at this; cases this
    rw [this] at hcnt
    exact List.eq_nil_of_length_eq_zero hcnt
  · obtain ⟨o, e, m, ok, _⟩ := hsv.2 hh
    exact ⟨o, m.left, ok⟩

theorem run_spec (ops : List BOp) : ∀ (os : List O) (s : B) (chs : List Choice), Sim os s →
    (Spec.Balance.clauses os ops ((run s ops chs).map fun p => p.2.obs)).all (·.2) = true := by
  induction ops with
  | nil => intro os s chs _; simp [run, Spec.Balance.clauses]
  | cons op ops ih =>
    intro os s chs h
    cases op with
    | call =>
      obtain ⟨hcl, h'⟩ := h.call (chs.headD ⟨[], 0⟩)
      simp only [run, List.map_cons, Spec.Balance.clauses, List.all_append, hcl, Bool.true_and]
      by_cases hh : (call s (chs.headD ⟨[], 0⟩)).2 = .hang
      · simp only [hh, BRes.obs, if_true, List.map_nil, List.isEmpty_nil, List.all_nil]
      · have hobs : ¬ (call s (chs.headD ⟨[], 0⟩)).2.obs = .hang := fun h => hh ((obs_hang _).1 h)
        simp only [hh, hobs, if_false]
        exact ih _ _ _ h'
    | _ =>
      simp only [run, Spec.Balance.clauses]
      exact ih _ (env s _) chs (h.env _)

theorem run_spec_init (ops : List BOp) (chs : List Choice) :
    Spec.Balance.holds ops ((run (B.init true) ops chs).map fun p => p.2.obs) = true :=
  run_spec ops [] (B.init true) chs ⟨rfl, .nil, .nil⟩

theorem runAll_spec (ops : List BOp) : ∀ (os : List O) (s : B) (chs : List Choice), Sim os s →
    (Spec.Balance.clausesAll os ops ((runAll s ops chs).map fun p => p.2.obs)).all (·.2) = true := by
  induction ops with
  | nil => intro os s chs _; simp [runAll, Spec.Balance.clausesAll]
  | cons op ops ih =>
    intro os s chs h
    cases op with
    | call =>
      obtain ⟨hcl, h'⟩ := h.call (chs.headD ⟨[], 0⟩)
      simp only [runAll, List.map_cons, Spec.Balance.clausesAll, List.all_append, hcl, Bool.true_and]
      exact ih _ _ _ h'
    | _ =>
      simp only [runAll, Spec.Balance.clausesAll]
      exact ih _ (env s _) chs (h.env _)

theorem runAll_spec_init (ops : List BOp) (chs : List Choice) :
    Spec.Balance.holdsAll ops ((runAll (B.init true) ops chs).map fun p => p.2.obs) = true :=
  runAll_spec ops [] (B.init true) chs ⟨rfl, .nil, .nil⟩

end Balance
