import TonicModel.Model.WebServer
import TonicModel.Lemmas.GrpcWeb
/-
Lemmas about the grpc-web server model (`Model/WebServer`): the run functions on `pending`s and
data chunks, and the text request decoder, complete on canonical encodings however they are cut
(`reqText_canonical`) and sound against the independent reader on every body (`reqText_sound`).
-/
namespace WebServerLemmas
open WebServer GrpcWebLemmas
open TMap (Pair)

theorem respRun_filter (enc : Enc) (evs : List BodyEv) :
    respRun enc evs = respRun enc (evs.filter notPending) := by
  induction evs with
  | nil => rfl
  | cons e r ih => cases e <;> simp [respRun, notPending, List.filter_cons, ih]

theorem reqText_filter (evs : List BodyEv) : ∀ buf,
    reqText buf evs = reqText buf (evs.filter notPending) := by
  induction evs with
  | nil => intro _; rfl
  | cons e r ih =>
    intro buf
    cases e with
    | data b => simp only [reqText, notPending, List.filter_cons, if_true, ih]
    | trailers h => rfl
    | err => rfl
    | pending => exact ih buf

theorem reqBin_filter (evs : List BodyEv) : reqBin evs = reqBin (evs.filter notPending) := by
  induction evs with
  | nil => rfl
  | cons e r ih => cases e <;> simp [reqBin, notPending, List.filter_cons, ih]

theorem respRun_data (enc : Enc) (chunks : List Bytes) (rest : List BodyEv) :
    respRun enc (chunks.map BodyEv.data ++ rest) =
      (chunks.map (fun c => Out.data (wrap enc c))) ++ respRun enc rest := by
  induction chunks with
  | nil => rfl
  | cons c cs ih => simp [respRun, ih]

theorem reqBin_data (chunks : List Bytes) (rest : List BodyEv) :
    reqBin (chunks.map BodyEv.data ++ rest) = chunks.map Out.data ++ reqBin rest := by
  induction chunks with
  | nil => rfl
  | cons c cs ih => simp [reqBin, ih]

theorem read_wrap (enc : Enc) (pieces : List Bytes) :
    Spec.GrpcWeb.read (enc == Enc.base64) ((pieces.map (wrap enc)).flatten) =
      Spec.GrpcWeb.parseItems pieces.flatten := by
  cases enc with
  | base64 =>
    rw [Spec.GrpcWeb.read, show wrap Enc.base64 = B64.encode true from rfl, stream_pieces]
    rfl
  | none => rw [show wrap Enc.none = id from rfl, List.map_id]; rfl

theorem encodeTrailers_eq (h : List Pair) :
    encodeTrailers h = (TMap.group h).flatMap Spec.GrpcWeb.lineOf := rfl

theorem take_maxDecodable_length (s : Bytes) : (s.take (maxDecodable s)).length % 4 = 0 := by
  rw [List.length_take, maxDecodable, Nat.min_eq_left (Nat.div_mul_le_self _ 4), Nat.mul_mod_left]

theorem drop_maxDecodable_length (s : Bytes) : (s.drop (maxDecodable s)).length < 4 := by
  simp only [List.length_drop, maxDecodable]; omega

theorem reqText_canonical (chunks : List Bytes) : ∀ (buf x : Bytes), buf.length < 4 →
    buf ++ chunks.flatten = B64.encode true x →
    ∃ outs : List Bytes, reqText buf (chunks.map BodyEv.data) = outs.map Out.data ++ [Out.eos] ∧
      outs.flatten = x := by
  induction chunks with
  | nil =>
    intro buf x hb h
    -- fewer than four symbols encode nothing
    have hl := encode_length x
    rw [← h, List.flatten_nil, List.append_nil] at hl
    obtain rfl : x = [] := List.eq_nil_of_length_eq_zero (by omega)
    obtain rfl : buf = [] := List.eq_nil_of_length_eq_zero (by omega)
    exact ⟨[], rfl, rfl⟩
  | cons c cs ih =>
    intro buf x hb h
    rw [List.flatten_cons, ← List.append_assoc] at h
    simp only [List.map_cons, reqText]
    split
    · exact ih (buf ++ c) x ‹_› h
    · rw [← List.take_append_drop (maxDecodable (buf ++ c)) (buf ++ c), List.append_assoc] at h
      obtain ⟨x1, x2, rfl, h1, h2⟩ := encode_split (take_maxDecodable_length _) h
      rw [h1, B64.decode_encode]
      obtain ⟨outs, ho, rfl⟩ := ih _ x2 (drop_maxDecodable_length _) h2
      exact ⟨x1 :: outs, by simp [ho], rfl⟩

theorem endsClean_cons {o : Out} (ho : o ≠ .eos) (r : List Out) :
    endsClean (o :: r) = endsClean r := by
  cases r with
  | nil => cases o with
    | eos => exact absurd rfl ho
    | _ => rfl
  | cons _ _ => simp [endsClean]

theorem reqText_sound (evs : List BodyEv) : ∀ buf,
    endsClean (reqText buf evs) = true →
    Spec.GrpcWeb.b64StreamDecode (buf ++ flat evs) = some (dataOf (reqText buf evs)) := by
  induction evs with
  | nil =>
    intro buf h
    cases buf with
    | nil => rfl
    | cons _ _ => cases h
  | cons e r ih =>
    intro buf h
    cases e with
    | data b =>
      simp only [reqText, flat] at h ⊢
      rw [← List.append_assoc]
      by_cases hlt : (buf ++ b).length < 4
      · simp only [hlt, if_true] at h ⊢
        exact ih _ h
      · cases hd : B64.decode ((buf ++ b).take (maxDecodable (buf ++ b))) with
        | none => simp only [hlt, hd] at h; cases h
        | some d =>
          simp only [hlt, hd, if_false] at h ⊢
          rw [endsClean_cons (o := .data d) nofun] at h
          have hs : buf ++ b ++ flat r = (buf ++ b).take (maxDecodable (buf ++ b)) ++
              ((buf ++ b).drop (maxDecodable (buf ++ b)) ++ flat r) := by
            rw [← List.append_assoc, List.take_append_drop]
          rw [hs, stream_append _ _ (take_maxDecodable_length _),
            stream_of_decode (take_maxDecodable_length _) hd, ih _ h]
          rfl
    | trailers t => cases h
    | err => cases h
    | pending => exact ih _ h

theorem getAll_hremove_self (k : Bytes) (h : List Pair) : TMap.getAll k (hremove k h) = [] := by
  rw [hremove, TMap.getAll_filter (fun x => !(x == k))]; simp

theorem getAll_hremove_ne {k k' : Bytes} (hne : k ≠ k') (h : List Pair) :
    TMap.getAll k (hremove k' h) = TMap.getAll k h := by
  rw [hremove, TMap.getAll_filter (fun x => !(x == k'))]; simp [hne]

theorem getAll_hinsert_self (k v : Bytes) (h : List Pair) : TMap.getAll k (hinsert k v h) = [v] := by
  rw [hinsert, TMap.getAll_append, getAll_hremove_self]
  simp [TMap.getAll]

theorem getAll_hinsert_ne {k k' : Bytes} (hne : k ≠ k') (v : Bytes) (h : List Pair) :
    TMap.getAll k (hinsert k' v h) = TMap.getAll k h := by
  rw [hinsert, TMap.getAll_append, getAll_hremove_ne hne]
  simp [TMap.getAll, Ne.symm hne]

end WebServerLemmas
