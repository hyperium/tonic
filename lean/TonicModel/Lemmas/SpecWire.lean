import TonicModel.Lemmas.PbWire
import TonicModel.Spec.RichError
/-
The independent record cutter of `Spec/RichError` reads back what the prost wire model writes:
`Spec.parse (serialize recs) = some recs` for the reference writer `serialize` of a record list.
The model's encoders are `serialize` of explicit record lists (`recsL2From`): a message is the
records of its fields in tag order, and the records of one field all carry its tag; so
`parse (encL2 s v) = some (recsL2From 1 s v)`.
-/
namespace SpecWire
open PbWire Spec.RichError

theorem varintGo_encode (n : Nat) : ∀ (v acc mul : Nat) (r : Bytes), v < 2 * 128 ^ n →
    acc + v * mul < 18446744073709551616 →
    varintGo acc mul (n + 1) (encodeVarintAux (n + 1) v ++ r) = some (acc + v * mul, r) := by
  have small : ∀ n v acc mul r, v < 128 → acc + v * mul < 18446744073709551616 →
      varintGo acc mul (n + 1) (encodeVarintAux (n + 1) v ++ r) = some (acc + v * mul, r) := by
    intro n v acc mul r hv hb
    simp only [encodeVarintAux_lt n v hv, List.cons_append, List.nil_append, varintGo,
      byteOf_toNat v (by omega), hv, hb, if_true]
  induction n with
  | zero => intro v acc mul r h hb; exact small 0 v acc mul r (by omega) hb
  | succ n ih =>
    intro v acc mul r h hb
    by_cases hv : v < 128
    · exact small (n + 1) v acc mul r hv hb
    · have h1 : v / 128 < 2 * 128 ^ n := by rw [Nat.pow_succ] at h; omega
      have hnl : ¬ (v % 128 + 128 < 128) := by omega
      -- the low seven bits now, the rest at 128 times the weight
      have harith : acc + (v % 128 + 128 - 128) * mul + v / 128 * (mul * 128) = acc + v * mul := by
        rw [Nat.add_sub_cancel, Nat.mul_comm mul 128, ← Nat.mul_assoc, Nat.add_assoc, ← Nat.add_mul,
          Nat.add_comm, Nat.mul_comm (v / 128), Nat.mod_add_div, Nat.add_comm]
      rw [encodeVarintAux_ge _ v hv, List.cons_append, varintGo, byteOf_toNat _ (by omega), if_neg hnl,
        ih _ _ _ r h1 (by rw [harith]; exact hb), harith]

theorem varint_encode (v : Nat) (r : Bytes) (h : v < 18446744073709551616) :
    varint (encodeVarint v ++ r) = some (v, r) := by
  have := varintGo_encode 9 v 0 1 r (by omega) (by omega)
  simpa [varint, encodeVarint] using this

/-- the reference writer: key, then the value in its wire form (only the two wire types a proto3
writer of these messages uses) -/
def recBytes : Nat × Wire → Bytes
  | (n, .varint v) => encodeKey n 0 ++ encodeVarint v
  | (n, .len b) => encodeKey n 2 ++ (encodeVarint b.length ++ b)
  | (_, _) => []

def serialize (recs : List (Nat × Wire)) : Bytes := recs.flatMap recBytes

/-- what a proto3 writer of these messages puts on the wire: varints below 2^64, no fixed-width
values -/
def WireShape : Wire → Prop
  | .varint v => v < 18446744073709551616
  | .len _ => True
  | _ => False

def payloadLen : Nat × Wire → Nat
  | (_, .len b) => b.length
  | _ => 0

/-- a record the spec reads back: a field number the key has room for, and a payload whose length
fits the length prefix -/
def RecOk (x : Nat × Wire) : Prop :=
  1 ≤ x.1 ∧ x.1 < 536870912 ∧ WireShape x.2 ∧ payloadLen x < 18446744073709551616

theorem serialize_append (a b : List (Nat × Wire)) : serialize (a ++ b) = serialize a ++ serialize b := by
  simp [serialize]

theorem serialize_nil : serialize [] = [] := rfl

theorem key_cons (n wt : Nat) (r : Bytes) (h : n < 536870912) (hw : wt < 8) :
    ∃ b bs key, encodeKey n wt ++ r = b :: bs ∧ varint (b :: bs) = some (key, r) ∧ key / 8 = n ∧ key % 8 = wt := by
  obtain ⟨b, bs, hb⟩ := List.exists_cons_of_ne_nil (encodeKey_ne_nil n wt)
  refine ⟨b, bs ++ r, n * 8 + wt, by rw [hb, List.cons_append], ?_, by omega, by omega⟩
  rw [← List.cons_append, ← hb]
  exact varint_encode _ r (by omega)

theorem fields_record (x : Nat × Wire) (hx : RecOk x) (rest : Bytes) :
    0 < (recBytes x).length ∧
    ∀ f, fields (f + 1) (recBytes x ++ rest) = (fields f rest).map (x :: ·) := by
  obtain ⟨n, w⟩ := x
  obtain ⟨_, h2, hw, hp⟩ := hx
  have hc : ¬ (n = 0 ∨ 536870912 ≤ n) := by omega
  cases w with
  | varint v =>
    obtain ⟨b, bs, key, hb, hk, e1, e2⟩ := key_cons n 0 (encodeVarint v ++ rest) h2 (by omega)
    refine ⟨List.length_pos_iff.mpr (by simp [recBytes, encodeKey_ne_nil]), fun f => ?_⟩
    rw [recBytes, List.append_assoc, hb, fields, hk]
    simp only [e1, e2, hc, if_false, if_true, varint_encode v _ hw]
  | len p =>
    obtain ⟨b, bs, key, hb, hk, e1, e2⟩ := key_cons n 2 (encodeVarint p.length ++ (p ++ rest)) h2 (by omega)
    refine ⟨List.length_pos_iff.mpr (by simp [recBytes, encodeKey_ne_nil]), fun f => ?_⟩
    rw [recBytes, List.append_assoc, List.append_assoc, hb, fields, hk]
    simp only [e1, e2, hc, varint_encode p.length _ hp, show ¬ ((2 : Nat) = 0) by omega,
      show ¬ ((2 : Nat) = 1) by omega, if_false, if_true, List.length_append, Nat.le_add_right,
      List.drop_left, List.take_left]
  | fixed64 _ | fixed32 _ => exact hw.elim

theorem fields_serialize (recs : List (Nat × Wire)) (h : ∀ x ∈ recs, RecOk x) :
    ∀ fuel, (serialize recs).length ≤ fuel → fields fuel (serialize recs) = some recs := by
  induction recs with
  | nil => intro fuel _; cases fuel <;> rfl
  | cons x recs ih =>
    intro fuel hf
    obtain ⟨hx, hrecs⟩ := List.forall_mem_cons.mp h
    obtain ⟨hpos, hstep⟩ := fields_record x hx (serialize recs)
    rw [serialize, List.flatMap_cons, ← serialize, List.length_append] at hf
    cases fuel with
    | zero => omega
    | succ f =>
      rw [serialize, List.flatMap_cons, ← serialize, hstep f, ih hrecs f (by omega)]
      rfl

theorem parse_serialize (recs : List (Nat × Wire)) (h : ∀ x ∈ recs, RecOk x) :
    parse (serialize recs) = some recs :=
  fields_serialize recs h _ (Nat.le_refl _)

/-- what a singular scalar field puts on the wire: nothing for the default value -/
def wireOf : Sc → SV → Option Wire
  | .str, .b s | .bytes, .b s => if s = [] then none else some (.len s)
  | .i32, .i x | .i64, .i x => if x = 0 then none else some (.varint (u64OfInt x))
  | _, _ => none

/-- the wire values of the records of one field, in order -/
def wires : F2 → V2 → List Wire
  | .sc k, .sc v => (wireOf k v).toList
  | .repStr, .repStr l => l.map .len
  | .repFlat s, .repFlat l => l.map fun v => .len (encFlat s v)
  | .optFlat s, .optFlat o => (o.map fun v => Wire.len (encFlat s v)).toList
  | .mapSS, .map l => l.map fun e => .len (encEntry e)
  | _, _ => []

def recsL2From (tag : Nat) : List F2 → List V2 → List (Nat × Wire)
  | f :: fs, v :: vs => (wires f v).map (tag, ·) ++ recsL2From (tag + 1) fs vs
  | _, _ => []

theorem encScalarField_eq (tag : Nat) (k : Sc) (v : SV) :
    encScalarField tag k v = serialize ((wireOf k v).toList.map (tag, ·)) := by
  cases k <;> cases v <;> simp only [encScalarField, wireOf] <;>
    first | rfl | (split <;> simp [serialize, recBytes, lenDelim])

theorem flatMap_lenDelim_eq {α : Type} (tag : Nat) (g : α → Bytes) (l : List α) :
    l.flatMap (fun a => lenDelim tag (g a)) = serialize ((l.map fun a => Wire.len (g a)).map (tag, ·)) := by
  simp only [serialize, List.flatMap_map]
  rfl

theorem encL2Field_eq (tag : Nat) (f : F2) (v : V2) :
    encL2Field tag f v = serialize ((wires f v).map (tag, ·)) := by
  cases f <;> cases v <;> simp only [encL2Field, wires] <;>
    first
    | exact encScalarField_eq _ _ _
    | exact flatMap_lenDelim_eq _ _ _
    | rfl
    | (split <;> simp [serialize, recBytes, lenDelim])

theorem encL2From_eq (tag : Nat) (s : List F2) (v : List V2) :
    encL2From tag s v = serialize (recsL2From tag s v) := by
  induction s generalizing tag v with
  | nil => cases v <;> rfl
  | cons k ks ih =>
    cases v with
    | nil => rfl
    | cons x xs => rw [encL2From, recsL2From, serialize_append, encL2Field_eq, ih]

theorem encFlatFrom_eq (tag : Nat) (s : Flat) (v : List SV) :
    encFlatFrom tag s v = encL2From tag (s.map .sc) (v.map .sc) := by
  induction s generalizing tag v with
  | nil => cases v <;> rfl
  | cons k ks ih =>
    cases v with
    | nil => rfl
    | cons x xs => simp only [List.map_cons, encFlatFrom, encL2From, encL2Field, ih]

theorem encFlat_eq (s : Flat) (v : List SV) : encFlat s v = encL2 (s.map .sc) (v.map .sc) :=
  encFlatFrom_eq 1 s v

theorem payloadLen_le (recs : List (Nat × Wire)) (x : Nat × Wire) (h : x ∈ recs) :
    payloadLen x ≤ (serialize recs).length := by
  have h1 := length_le_flatMap recBytes recs x h
  have : payloadLen x ≤ (recBytes x).length := by
    obtain ⟨n, w⟩ := x
    cases w <;> simp [payloadLen, recBytes]
    omega
  exact Nat.le_trans this h1

theorem wireShape_wires (f : F2) (v : V2) : ∀ w ∈ wires f v, WireShape w := by
  intro w hw
  cases f <;> cases v <;> simp only [wires] at hw
  case sc.sc k y =>
    cases k <;> cases y <;> simp only [wireOf] at hw <;> (try split at hw) <;> simp at hw <;> subst hw
    all_goals first | trivial | exact u64OfInt_lt _
  case repStr.repStr l | repFlat.repFlat sf l | mapSS.map l =>
    obtain ⟨a, _, rfl⟩ := List.mem_map.mp hw
    trivial
  case optFlat.optFlat sf o => cases o <;> simp at hw; subst hw; trivial
  all_goals simp at hw

theorem shape_l2 (s : List F2) : ∀ (tag : Nat) (v : List V2), ∀ x ∈ recsL2From tag s v,
    tag ≤ x.1 ∧ x.1 < tag + s.length ∧ WireShape x.2 := by
  induction s with
  | nil => intro tag v x hx; cases v <;> simp [recsL2From] at hx
  | cons f fs ih =>
    intro tag v x hx
    cases v with
    | nil => simp [recsL2From] at hx
    | cons y ys =>
      simp only [recsL2From, List.mem_append, List.mem_map, List.length_cons] at hx ⊢
      rcases hx with ⟨w, hw, rfl⟩ | hx
      · exact ⟨Nat.le_refl _, by omega, wireShape_wires f y w hw⟩
      · have := ih (tag + 1) ys x hx
        exact ⟨by omega, by omega, this.2.2⟩

theorem parse_encL2 (s : List F2) (v : List V2) (hs : s.length < 536870912)
    (hb : (encL2 s v).length < 18446744073709551616) :
    parse (encL2 s v) = some (recsL2From 1 s v) := by
  rw [encL2, encL2From_eq] at hb ⊢
  refine parse_serialize _ fun x hx => ?_
  obtain ⟨h1, h2, h3⟩ := shape_l2 s 1 v x hx
  exact ⟨h1, by omega, h3, Nat.lt_of_le_of_lt (payloadLen_le _ x hx) hb⟩

theorem payload_lt (s : List F2) (v : List V2) (n : Nat) (b : Bytes) (h : (n, Wire.len b) ∈ recsL2From 1 s v)
    (hb : (encL2 s v).length < 18446744073709551616) : b.length < 18446744073709551616 := by
  rw [encL2, encL2From_eq] at hb
  exact Nat.lt_of_le_of_lt (payloadLen_le _ _ h) hb

end SpecWire
