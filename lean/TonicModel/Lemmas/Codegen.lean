import TonicModel.Model.Codegen
import TonicModel.Spec.Codegen
import TonicModel.Lemmas.Router
/-
Lemmas for C11.  The generator's service name is the spec's Service-Name, which is injective on
(package, `.`-free identifier); every path the generators write is `routePrefix NAME ++ method`,
the form C10's router keys on; a generated client method and server arm are one record each,
whose only dependence on the two streaming flags is the RPC kind.
-/
namespace Codegen

/-- The package as the user asked for it to appear in names. -/
def pkgShown (s : Service) (o : Opts) : Bytes := if o.emitPackage then s.package else []

theorem serviceName_spec (s : Service) (o : Opts) :
    formatServiceName s o = Spec.Codegen.fullName (pkgShown s o) s.ident := by
  show pkgShown s o ++ (if (pkgShown s o).isEmpty then [] else [dot]) ++ s.ident = _
  cases pkgShown s o <;> rfl

theorem last_sep_unique {α} [DecidableEq α] (c : α) (a b x y : List α) (hx : c ∉ x)
    (hy : c ∉ y) (h : a ++ c :: x = b ++ c :: y) : a = b ∧ x = y := by
  have hr := congrArg List.reverse h
  simp only [List.reverse_append, List.reverse_cons, List.append_assoc, List.singleton_append] at hr
  have hxy : x = y := List.reverse_inj.mp <|
    Router.sep_unique (mt List.mem_reverse.mp hx) (mt List.mem_reverse.mp hy) hr
  subst hxy
  exact ⟨List.append_cancel_right h, rfl⟩

theorem fullName_inj (p i p' i' : Bytes) (hi : (46 : UInt8) ∉ i) (hi' : (46 : UInt8) ∉ i')
    (h : Spec.Codegen.fullName p i = Spec.Codegen.fullName p' i') : p = p' ∧ i = i' := by
  have dotIn (q j : Bytes) : (46 : UInt8) ∈ q ++ [46] ++ j :=
    List.mem_append_left _ (List.mem_append_right _ List.mem_cons_self)
  cases p with
  | nil =>
    cases p' with
    | nil => exact ⟨rfl, h⟩
    | cons c cs => exact absurd (h.symm ▸ dotIn _ _ : (46 : UInt8) ∈ Spec.Codegen.fullName [] i) hi
  | cons c cs =>
    cases p' with
    | nil => exact absurd (h ▸ dotIn _ _ : (46 : UInt8) ∈ Spec.Codegen.fullName [] i') hi'
    | cons c' cs' =>
      simp only [Spec.Codegen.fullName, List.append_assoc] at h
      exact last_sep_unique 46 _ _ _ _ hi hi' h

theorem mem_fullName (p i : Bytes) (x : UInt8) (h : x ∈ Spec.Codegen.fullName p i) :
    x ∈ p ∨ x = 46 ∨ x ∈ i := by
  cases p with
  | nil => exact Or.inr (Or.inr h)
  | cons c cs =>
    simp only [Spec.Codegen.fullName, List.append_assoc, List.mem_append, List.mem_singleton] at h
    exact h

theorem fullName_ne_nil (p i : Bytes) (hi : i ≠ []) : Spec.Codegen.fullName p i ≠ [] := by
  cases p with
  | nil => exact hi
  | cons c cs => exact List.cons_ne_nil _ _

theorem formatMethodPath_eq (s : Service) (m : Method) (o : Opts) :
    formatMethodPath s m o = Router.routePrefix (serviceNameConst s o) ++ m.ident :=
  Router.pathOf_eq _ _

/-- The `Grpc` entry point the two streaming flags select (the four-way `match` both generators
repeat). -/
def callOf : Bool → Bool → Call
  | false, false => .unary
  | false, true => .serverStreaming
  | true, false => .clientStreaming
  | true, true => .streaming

def traitOf : Bool → Bool → SvcTrait
  | false, false => .unaryService
  | false, true => .serverStreamingService
  | true, false => .clientStreamingService
  | true, true => .streamingService

theorem clientMethod_eq (s : Service) (o : Opts) (m : Method) :
    clientMethod s o m =
      ⟨m.name, formatMethodPath s m o, formatServiceName s o, m.ident,
        callOf m.clientStreaming m.serverStreaming, m.clientStreaming, m.serverStreaming,
        (m.types o).1, (m.types o).2⟩ := by
  unfold clientMethod
  cases m.clientStreaming <;> cases m.serverStreaming <;> rfl

theorem serverMethod_eq (s : Service) (o : Opts) (m : Method) :
    serverMethod s o m =
      ⟨formatMethodPath s m o, callOf m.clientStreaming m.serverStreaming,
        traitOf m.clientStreaming m.serverStreaming, m.clientStreaming, m.serverStreaming,
        (m.types o).1, (m.types o).2, m.name, (m.types o).1, (m.types o).2⟩ := by
  unfold serverMethod
  cases m.clientStreaming <;> cases m.serverStreaming <;> rfl

/-- The method whose route a path is, if any. -/
def methodAt (s : Service) (o : Opts) (path : Bytes) : Option Method :=
  s.methods.find? fun m => path == Router.routePrefix (serviceNameConst s o) ++ m.ident

theorem methodAt_some {s : Service} {o : Opts} {path : Bytes} {m : Method}
    (h : methodAt s o path = some m) :
    m ∈ s.methods ∧ path = Router.routePrefix (serviceNameConst s o) ++ m.ident := by
  have hp := List.find?_some h
  exact ⟨List.mem_of_find?_eq_some h, Router.beq_bytes.mp hp⟩

theorem methodAt_self (s : Service) (o : Opts) (hnd : (s.methods.map (·.ident)).Nodup)
    {m : Method} (hm : m ∈ s.methods) :
    methodAt s o (Router.routePrefix (serviceNameConst s o) ++ m.ident) = some m := by
  refine (Router.find?_eq_some_iff_of_unique ?_ m).mpr ⟨hm, Router.beq_bytes.mpr rfl⟩
  intro x hx y hy px py
  exact Router.eq_of_nodup_map (·.ident) _ hnd x hx y hy <|
    List.append_cancel_left ((Router.beq_bytes.mp px).symm.trans (Router.beq_bytes.mp py))

theorem serverCall_arms (s : Service) (o : Opts) (path : Bytes) :
    serverCall (serverArms s o) path = (methodAt s o path).map (serverMethod s o) := by
  have hp : (fun a : ServerArm => path == a.literal) ∘ serverMethod s o =
      fun m => path == Router.routePrefix (serviceNameConst s o) ++ m.ident :=
    funext fun m => by rw [Function.comp, serverMethod_eq, formatMethodPath_eq]
  rw [serverCall, serverArms, List.find?_map, hp, methodAt]

end Codegen
