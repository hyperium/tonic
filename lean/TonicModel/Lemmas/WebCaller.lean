import TonicModel.Model.WebCaller
import TonicModel.Spec.GrpcWeb
import TonicModel.Lemmas.GrpcWeb
import TonicModel.Lemmas.WebClient
/-
The caller's view (`Model/WebCaller`): what `Streaming` makes of the frames a successful run of the
client layer hands out.
-/
namespace WebCallerLemmas
open WebCaller WebClient WebClientLemmas
open WebServer (Out dataOf)
open Spec.GrpcWeb (framesBytes frameBytes rawFrame)
open TMap (Pair)

theorem dataOf_datas (datas : List Bytes) (tail : List Out) :
    dataOf (datas.map Out.data ++ tail) = datas.flatten ++ dataOf tail := by
  induction datas with
  | nil => simp
  | cons d ds ih => simp [dataOf, ih]

theorem trailersOf_datas (datas : List Bytes) (tail : List Out) :
    trailersOf (datas.map Out.data ++ tail) = trailersOf tail := by
  induction datas with
  | nil => rfl
  | cons d ds ih => simpa [trailersOf] using ih

theorem view_of_clean (datas : List Bytes) (t : List Pair) :
    dataOf (datas.map Out.data ++ [Out.trailers t, Out.eos]) = datas.flatten ∧
    trailersOf (datas.map Out.data ++ [Out.trailers t, Out.eos]) = some t ∧
    (datas.map Out.data ++ [Out.trailers t, Out.eos]).getLast? = some Out.eos := by
  refine ⟨?_, ?_, ?_⟩
  · rw [dataOf_datas]; simp [dataOf]
  · rw [trailersOf_datas]; rfl
  · simp

theorem messagesAux_frame (f : Nat) (p tail : Bytes) (hp : p.length < 4294967296) :
    messagesAux (f + 1) (rawFrame 0 p ++ tail) = p :: messagesAux f tail := by
  have hlt : ¬ (p ++ tail).length < p.length := by simp
  simp only [messagesAux, hdr5_raw 0 p tail hp, hlt, not_false_eq_true, and_self, if_true,
    List.take_left', List.drop_left']

theorem messagesAux_frames : ∀ (frames : List (Bool × Bytes)) (f : Nat),
    (∀ fr ∈ frames, fr.1 = false ∧ fr.2.length < 4294967296) → frames.length < f →
    messagesAux f (framesBytes frames) = frames.map (·.2) := by
  intro frames
  induction frames with
  | nil =>
    intro f _ hf
    obtain ⟨f', rfl⟩ : ∃ f', f = f' + 1 := ⟨f - 1, by omega⟩
    rfl
  | cons fr frs ih =>
    intro f h hf
    obtain ⟨f', rfl⟩ : ∃ f', f = f' + 1 := ⟨f - 1, by omega⟩
    obtain ⟨hc, hp⟩ := h fr (List.mem_cons_self ..)
    rw [framesBytes, frameBytes_raw, hc, if_neg Bool.false_ne_true, messagesAux_frame f' _ _ hp,
      ih f' (fun g hg => h g (List.mem_cons_of_mem _ hg)) (Nat.lt_of_succ_lt_succ hf), List.map_cons]

theorem messages_frames (frames : List (Bool × Bytes))
    (h : ∀ fr ∈ frames, fr.1 = false ∧ fr.2.length < 4294967296) :
    messages (framesBytes frames) = frames.map (·.2) := by
  have := GrpcWebLemmas.framesBytes_length frames
  exact messagesAux_frames frames _ h (by omega)

/-! ### a status depends on the header map only through `get_all` per name -/

theorem hmap_getAll_eq_tmap (k : Bytes) (m : List Pair) : HMap.getAll k m = TMap.getAll k m := by
  induction m with
  | nil => rfl
  | cons e r ih =>
    rw [HMap.getAll_cons, TMap.getAll_cons, ih]
    by_cases h : e.1 = k <;> simp [h]

/-- two readings of a status agree: same code, message, details, and the same further metadata
name by name (the order between different names is not observable) -/
def SameStatus (a b : Option Status.Outcome) : Prop :=
  match a, b with
  | none, none => True
  | some .panic, some .panic => True
  | some (.status s1), some (.status s2) =>
    s1.code = s2.code ∧ s1.message = s2.message ∧ s1.details = s2.details ∧
    ∀ k, HMap.getAll k s1.metadata = HMap.getAll k s2.metadata
  | _, _ => False

theorem getAll_remove_congr (x : Bytes) {a b : HMap}
    (h : ∀ k, HMap.getAll k a = HMap.getAll k b) (k : Bytes) :
    HMap.getAll k (HMap.remove x a) = HMap.getAll k (HMap.remove x b) := by
  by_cases hx : k = x
  · subst hx; rw [HMap.getAll_remove_self, HMap.getAll_remove_self]
  · rw [HMap.getAll_remove_ne _ _ _ hx, HMap.getAll_remove_ne _ _ _ hx, h]

theorem fromHeaderMap_ext (v : Status.Variant) (a b : HMap)
    (h : ∀ k, HMap.getAll k a = HMap.getAll k b) :
    SameStatus (Status.fromHeaderMap v a) (Status.fromHeaderMap v b) := by
  have hget : ∀ k, HMap.get k a = HMap.get k b := fun k => by simp [HMap.get, h k]
  have hmsg : Status.decodeMessage a = Status.decodeMessage b := by
    simp [Status.decodeMessage, hget]
  have hoth := getAll_remove_congr Status.GRPC_STATUS_DETAILS
    (getAll_remove_congr Status.GRPC_MESSAGE (getAll_remove_congr Status.GRPC_STATUS h))
  unfold Status.fromHeaderMap
  rw [hget Status.GRPC_STATUS, hget Status.GRPC_STATUS_DETAILS, hmsg]
  cases HMap.get Status.GRPC_STATUS b with
  | none => trivial
  | some cv =>
    simp only
    cases HMap.get Status.GRPC_STATUS_DETAILS b with
    | none => exact ⟨rfl, rfl, rfl, hoth⟩
    | some dv =>
      simp only
      cases B64.decode dv with
      | some d => exact ⟨rfl, rfl, rfl, hoth⟩
      | none =>
        cases v with
        | orig => trivial
        | fixed => exact ⟨rfl, rfl, rfl, hoth⟩

end WebCallerLemmas
