import TonicModel.Lemmas.ShutdownTrack
/-
Clause (b) of C13: once the signal is ready the repaired (`biased;`) accept loop takes nothing — the
`incoming.next()` branch of its `select!` is dead, as a fact about one state and about whole runs.
-/
namespace Shutdown

theorem sigReady_of_sigFire {s s' : State} (h : run s [.sigFire] = some s') :
    s'.sigReady = true := by
  obtain ⟨_, hf, e⟩ := run_cons.1 h
  cases e
  cases (Option.ite_none_right_eq_some.1 hf).2
  rfl

theorem incomingBranch_dead {s : State} (hg : Good s)
    (h : (s.cfgBiased = true ∧ s.sigReady = true) ∨ s.loopRunning = false) :
    incomingBranch s = false := by
  cases hib : incomingBranch s with
  | false => rfl
  | true =>
    obtain ⟨hrun, hsig⟩ := hg.incomingBranch hib
    rcases h with ⟨hb, hr⟩ | h
    · exact absurd hr (Bool.eq_false_iff.1 (hsig hb))
    · exact absurd hrun (Bool.eq_false_iff.1 h)

theorem accept_disabled {s : State} (hg : Good s)
    (h : (s.cfgBiased = true ∧ s.sigReady = true) ∨ s.loopRunning = false) (c : Nat) :
    step s (.loopAccept c) = none :=
  guard_none (incomingBranch_dead hg h)

theorem run_no_accept_after_signal {g a : Bool} {ls : List Label} {s s' : State}
    (hr : Reachable g true a s) (hsig : s.sigReady = true) (h : run s ls = some s') (c : Nat) :
    .loopAccept c ∉ ls := by
  intro hm
  -- the state in which the accept would be taken is reachable, and the signal is still ready there
  obtain ⟨pre, post, rfl⟩ := List.append_of_mem hm
  obtain ⟨s1, hpre, hpost⟩ := run_append.1 h
  obtain ⟨_, h1, _⟩ := run_cons.1 hpost
  have hr1 := reachable_run hr hpre
  rw [accept_disabled (good_reachable hr1)
    (Or.inl ⟨(reachable_cfg hr1).2.1, (run_frame_any hpre).sigReady hsig⟩) c] at h1
  cases h1

end Shutdown
