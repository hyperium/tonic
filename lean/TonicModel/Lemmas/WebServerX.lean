import TonicModel.Model.WebServerX
import TonicModel.Spec.BodyHints
import TonicModel.Lemmas.WebServer
/-
Hints of the translated grpc-web bodies (`Model/WebServerX`): how many data bytes the run functions
emit against what the inner body holds, and `reading`, which puts a hint next to what a body then
emits in the vocabulary of `Spec.BodyHints` (the C16 statements are written with it).
-/
namespace WebServerLemmas
open WebServer
open TMap (Pair)

theorem wrap_length_ge (enc : Enc) (b : Bytes) : b.length ≤ (wrap enc b).length := by
  cases enc with
  | base64 => rw [wrap, GrpcWebLemmas.encode_length]; omega
  | none => exact Nat.le_refl _

theorem dataLen_cons_data (b : Bytes) (r : List Out) : dataLen (.data b :: r) = b.length + dataLen r :=
  List.length_append

theorem respRun_dataLen_ge (enc : Enc) (evs : List BodyEv) (hc : endsClean (respRun enc evs) = true) :
    (flat evs).length ≤ dataLen (respRun enc evs) := by
  induction evs with
  | nil => exact Nat.zero_le _
  | cons e r ih =>
    cases e with
    | data b =>
      have := ih (endsClean_cons (o := .data _) nofun _ ▸ hc)
      have := wrap_length_ge enc b
      simp only [respRun, flat, dataLen_cons_data, List.length_append]
      omega
    | trailers h =>
      have := ih (endsClean_cons (o := .data _) nofun _ ▸ hc)
      simp only [respRun, flat, dataLen_cons_data]
      omega
    | err => cases hc
    | pending => exact ih hc

theorem reqBin_dataLen_eq (evs : List BodyEv) (hc : endsClean (reqBin evs) = true) :
    dataLen (reqBin evs) = (flat evs).length := by
  induction evs with
  | nil => rfl
  | cons e r ih =>
    cases e with
    | data b =>
      simp only [reqBin, flat, dataLen_cons_data, List.length_append,
        ih (endsClean_cons (o := .data b) nofun _ ▸ hc)]
    | trailers h => exact ih (endsClean_cons (o := .trailers _) nofun _ ▸ hc)
    | err => cases hc
    | pending => exact ih hc

theorem reqBin_dataLen_le (evs : List BodyEv) : dataLen (reqBin evs) ≤ (flat evs).length := by
  induction evs with
  | nil => exact Nat.le_refl _
  | cons e r ih =>
    cases e with
    | data b => simp only [reqBin, flat, dataLen_cons_data, List.length_append]; omega
    | trailers h => exact ih
    | err => exact Nat.zero_le _
    | pending => exact ih

def dataLens : List Out → List Nat
  | [] => []
  | .data b :: r => b.length :: dataLens r
  | _ :: r => dataLens r

def others : List Out → Nat
  | [] => 0
  | .trailers _ :: r => others r + 1
  | _ :: r => others r

def reading (h : Hint) (outs : List Out) : Spec.BodyHints.Reading :=
  { lo := h.lo, hi := h.hi, eos := h.eos, restData := dataLens outs, restOther := others outs,
    clean := endsClean outs }

theorem dataLens_sum (o : List Out) : (dataLens o).sum = dataLen o := by
  induction o with
  | nil => rfl
  | cons x r ih =>
    cases x with
    | data b => rw [dataLens, List.sum_cons, ih, dataLen_cons_data]
    | _ => exact ih

theorem truthful_iff (h : Hint) (outs : List Out) :
    Spec.BodyHints.truthful (reading h outs) = true ↔
      (∀ u, h.hi = some u → dataLen outs ≤ u) ∧
      (endsClean outs = true → h.lo ≤ dataLen outs) ∧
      (h.eos = true → dataLens outs = [] ∧ others outs = 0 ∧ endsClean outs = true) := by
  simp only [Spec.BodyHints.truthful, reading, dataLens_sum, Bool.and_eq_true]
  refine (and_congr (and_congr ?_ ?_) ?_).trans and_assoc
  · cases h.hi <;> simp
  · cases endsClean outs <;> simp
  · cases h.eos <;> simp [and_assoc]

end WebServerLemmas
