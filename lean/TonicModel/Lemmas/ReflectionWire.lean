import TonicModel.Model.ReflectionWire
import TonicModel.Spec.ReflectionWire
/-
Round trip: what `Model/ReflectionWire` writes for a skeleton descriptor, the independent
reader of `Spec/ReflectionWire` turns back into that descriptor.
-/
namespace ReflWire
open Refl Spec.ReflWire

theorem readVarint_varint (n : Nat) (rest : Bytes) :
    readVarint (varint n ++ rest) = some (n, rest) := by
  induction n using varint.induct with
  | case1 n h =>
    rw [varint, dif_pos h, List.singleton_append, readVarint,
      UInt8.toNat_ofNat_of_lt' (Nat.lt_trans h (by decide)), if_pos h]
  | case2 n h ih =>
    have hb : n % 128 + 128 < UInt8.size := Nat.add_lt_add_right (Nat.mod_lt n (by decide)) 128
    rw [varint, dif_neg h, List.cons_append, readVarint, UInt8.toNat_ofNat_of_lt' hb,
      if_neg (Nat.not_lt.mpr (Nat.le_add_left _ _)), ih, Nat.add_sub_cancel]
    exact congrArg (fun m => some (m, rest)) (Nat.mod_add_div n 128)

theorem varint_ne_nil (n : Nat) : varint n ≠ [] := by
  rw [varint]; split <;> simp

theorem readField_ld (k : Nat) (p rest : Bytes) :
    readField (ld k p ++ rest) = some (some (k, p), rest) := by
  have h1 : (k * 8 + 2) % 8 = 2 := Nat.mul_add_mod_self_right k 8 2
  have h2 : (k * 8 + 2) / 8 = k := by
    rw [Nat.add_comm, Nat.add_mul_div_right _ _ (by decide : 0 < 8)]
    exact Nat.zero_add k
  unfold readField ld
  simp only [List.append_assoc, readVarint_varint, h1, h2, if_true, List.length_append,
    Nat.le_add_right, List.take_left, List.drop_left]

theorem ld_ne_nil (k : Nat) (p : Bytes) : ld k p ≠ [] := by
  unfold ld
  intro h
  exact varint_ne_nil _ (List.append_eq_nil_iff.mp h).1

theorem parseFields_step (fuel : Nat) (k : Nat) (p rest : Bytes) :
    parseFields (fuel + 1) (ld k p ++ rest) =
      (match parseFields fuel rest with
       | none => none
       | some xs => some ((k, p) :: xs)) := by
  cases h : ld k p ++ rest with
  | nil => exact absurd (List.append_eq_nil_iff.mp h).1 (ld_ne_nil k p)
  | cons b bs =>
    rw [parseFields, ← h, readField_ld]
    dsimp only
    cases parseFields fuel rest <;> rfl

theorem parseFields_serialize : ∀ (fs : List (Nat × Bytes)) (fuel : Nat), fs.length ≤ fuel →
    parseFields fuel (serialize fs) = some fs
  | [], fuel, _ => by cases fuel <;> rfl
  | (k, p) :: fs, 0, h => nomatch h
  | (k, p) :: fs, fuel + 1, h => by
    rw [serialize, parseFields_step, parseFields_serialize fs fuel (Nat.le_of_succ_le_succ h)]

theorem length_le_serialize : ∀ fs : List (Nat × Bytes), fs.length ≤ (serialize fs).length
  | [] => Nat.le_refl _
  | (k, p) :: fs => by
    rw [serialize, List.length_append, List.length_cons, Nat.add_comm]
    exact Nat.add_le_add (List.length_pos_iff.mpr (ld_ne_nil k p)) (length_le_serialize fs)

theorem parse_serialize (fs : List (Nat × Bytes)) : parse (serialize fs) = some fs :=
  parseFields_serialize fs _ (length_le_serialize fs)

theorem getAll_append (k : Nat) (a b : List (Nat × Bytes)) :
    getAll k (a ++ b) = getAll k a ++ getAll k b := by
  simp [getAll]

theorem getAll_map {α : Type} (k j : Nat) (g : α → Bytes) (l : List α) :
    getAll k (l.map (fun x => (j, g x))) = if j = k then l.map g else [] := by
  simp only [getAll, List.filter_map, List.map_map, Function.comp_def]
  by_cases h : j = k
  · rw [if_pos h, List.filter_eq_self.mpr fun _ _ => decide_eq_true h]
  · rw [if_neg h, List.filter_eq_nil_iff.mpr fun _ _ e => h (of_decide_eq_true e), List.map_nil]

theorem getAll_optField (k j : Nat) (o : Option Name) :
    getAll k (optField j o) = if j = k then o.toList else [] := by
  cases o <;> by_cases h : j = k <;> simp [getAll, optField, h]

theorem encMsgs_eq_map (j : Nat) : ∀ ms : MsgList,
    encMsgs j ms = ms.toList.map (fun m => (j, encMsg m))
  | .nil => rfl
  | .cons m ms => by rw [encMsgs, MsgList.toList, List.map_cons, encMsgs_eq_map j ms]

theorem getAll_encMsgs (k j : Nat) (ms : MsgList) :
    getAll k (encMsgs j ms) = if j = k then ms.toList.map encMsg else [] := by
  rw [encMsgs_eq_map, getAll_map]

theorem getOpt_eq (k : Nat) (fs : List (Nat × Bytes)) : getOpt k fs = (getAll k fs).getLast? := rfl

theorem getLast?_toList (o : Option Name) : o.toList.getLast? = o := by cases o <;> simp

theorem mapAll_map {α : Type} {enc : α → Bytes} {dec : Bytes → Option α}
    (h : ∀ x, dec (enc x) = some x) : ∀ l : List α, mapAll dec (l.map enc) = some l
  | [] => rfl
  | x :: xs => by rw [List.map_cons, mapAll, h x, mapAll_map h xs]

theorem decNamed_encNamed (o : Option Name) : decNamed (encNamed o) = some o := by
  simp [decNamed, encNamed, parse_serialize, getOpt_eq, getAll_optField, getLast?_toList]

theorem decEnum_encEnum (e : EnumD) : decEnum (encEnum e) = some e := by
  simp only [decEnum, encEnum, parse_serialize, getOpt_eq, getAll_append, getAll_optField,
    getAll_map]
  simp [mapAll_map decNamed_encNamed, getLast?_toList]

theorem decService_encService (s : Service) : decService (encService s) = some s := by
  simp only [decService, encService, parse_serialize, getOpt_eq, getAll_append, getAll_optField,
    getAll_map]
  simp [mapAll_map decNamed_encNamed, getLast?_toList]

theorem ofList_toList : ∀ ms : MsgList, MsgList.ofList ms.toList = ms
  | .nil => rfl
  | .cons m ms => by simp [MsgList.toList, MsgList.ofList, ofList_toList ms]

mutual
theorem decMsg_encMsg : ∀ (m : Msg) (fuel : Nat), Msg.depth m ≤ fuel → decMsg fuel (encMsg m) = some m
  | .mk name nested enums fields oneofs, 0, h => nomatch h
  | .mk name nested enums fields oneofs, fuel + 1, h => by
    have hn : MsgList.depth nested ≤ fuel := Nat.le_of_succ_le_succ h
    rw [encMsg, decMsg, parse_serialize]
    simp only [getOpt_eq, getAll_append, getAll_optField, getAll_map, getAll_encMsgs,
      Nat.reduceEqDiff, if_true, if_false, List.append_nil, List.nil_append]
    rw [mapAll_map decNamed_encNamed, mapAll_map decNamed_encNamed, mapAll_map decEnum_encEnum,
      decMsgs_encMsgs nested fuel hn, getLast?_toList]
    exact congrArg (fun ms => some (Msg.mk name ms enums fields oneofs)) (ofList_toList nested)
theorem decMsgs_encMsgs : ∀ (ms : MsgList) (fuel : Nat), MsgList.depth ms ≤ fuel →
    mapAll (decMsg fuel) (ms.toList.map encMsg) = some ms.toList
  | .nil, _, _ => by simp [MsgList.toList, mapAll]
  | .cons m ms, fuel, h => by
    have h1 : Msg.depth m ≤ fuel := Nat.le_trans (Nat.le_max_left _ _) h
    have h2 : MsgList.depth ms ≤ fuel := Nat.le_trans (Nat.le_max_right _ _) h
    simp only [MsgList.toList, List.map_cons, mapAll, decMsg_encMsg m fuel h1,
      decMsgs_encMsgs ms fuel h2]
end

theorem decFile_encFile (f : File) (hx : f.extra = 0) (fuel : Nat)
    (hd : MsgList.depth f.messages ≤ fuel) : decFile fuel (encFile f) = some f := by
  rw [encFile, decFile, parse_serialize]
  simp only [getOpt_eq, getAll_append, getAll_optField, getAll_map, getAll_encMsgs,
    Nat.reduceEqDiff, if_true, if_false, List.append_nil, List.nil_append]
  rw [mapAll_map decEnum_encEnum, mapAll_map decService_encService,
    decMsgs_encMsgs f.messages fuel hd, getLast?_toList, getLast?_toList]
  refine (congrArg (fun ms => some (File.mk f.name f.package ms f.enums f.services 0))
    (ofList_toList f.messages)).trans ?_
  rw [← hx]

end ReflWire
