import TonicModel.Spec.Balance
import TonicModel.Lemmas.Balance
/-
Load-balanced channel (C14): the toolkit for two aligned lists — the oracle's entries and the
model's endpoints related entry by entry (`A2`), one position in both (`Mem2`), keys pairwise
different (`KeysNodup`).  Nothing here knows how an entry and an endpoint are related; that is
`Rel` in `Lemmas/BalanceSpec.lean`, the only user.
-/
namespace Balance
open ConnScript BalScript Reconnect
open Spec.Balance (O)

/-- the two lists are aligned and related entry by entry -/
inductive A2 (P : O → EP → Prop) : List O → List EP → Prop
  | nil : A2 P [] []
  | cons {o : O} {e : EP} {os : List O} {eps : List EP} : P o e → A2 P os eps → A2 P (o :: os) (e :: eps)

/-- `o` and `e` sit at the same position -/
inductive Mem2 : O → EP → List O → List EP → Prop
  | head {o : O} {e : EP} {os : List O} {eps : List EP} : Mem2 o e (o :: os) (e :: eps)
  | tail {o o' : O} {e e' : EP} {os : List O} {eps : List EP} : Mem2 o e os eps → Mem2 o e (o' :: os) (e' :: eps)

theorem A2.mono {P Q : O → EP → Prop} (h : ∀ o e, P o e → Q o e) {os : List O} {eps : List EP}
    (a : A2 P os eps) : A2 Q os eps := by
  induction a with
  | nil => exact .nil
  | cons p _ ih => exact .cons (h _ _ p) ih

theorem A2.mem {P : O → EP → Prop} {os : List O} {eps : List EP} (a : A2 P os eps) {o : O} {e : EP}
    (m : Mem2 o e os eps) : P o e := by
  induction m with
  | head => cases a with | cons p _ => exact p
  | tail _ ih => cases a with | cons _ t => exact ih t

theorem A2.pw {P : O → EP → Prop} (hev : ∀ o a b, Ev a b → P o a → P o b) {os : List O} {eps eps' : List EP}
    (a : A2 P os eps) (h : PW eps eps') : A2 P os eps' := by
  induction a generalizing eps' with
  | nil => cases h; exact .nil
  | cons p _ ih => cases h with | cons ev t => exact .cons (hev _ _ _ ev p) (ih t)

theorem A2.mapL {P Q : O → EP → Prop} (f : O → O) (h : ∀ o e, P o e → Q (f o) e) {os : List O} {eps : List EP}
    (a : A2 P os eps) : A2 Q (os.map f) eps := by
  induction a with
  | nil => exact .nil
  | cons p _ ih => exact .cons (h _ _ p) ih

theorem Mem2.left {o : O} {e : EP} {os : List O} {eps : List EP} (m : Mem2 o e os eps) : o ∈ os := by
  induction m with
  | head => exact List.mem_cons_self
  | tail _ ih => exact List.mem_cons_of_mem _ ih

theorem Mem2.settle {o : O} {e : EP} {os : List O} {eps : List EP} (m : Mem2 o e os eps) :
    Mem2 o { e with fresh := false } os (settle eps) := by
  induction m with
  | head => exact .head
  | tail _ ih => exact .tail ih

theorem Mem2.unique (c : O → Prop) [DecidablePred c] {os : List O} {eps : List EP} {o1 o2 : O} {e1 e2 : EP}
    (hlen : (os.filter (fun o => decide (c o))).length ≤ 1)
    (m1 : Mem2 o1 e1 os eps) (c1 : c o1) (m2 : Mem2 o2 e2 os eps) (c2 : c o2) : e1 = e2 := by
  -- an entry further down that satisfies `c` is counted by the filter of the tail
  have pos : ∀ {o e os eps}, Mem2 o e os eps → c o → 0 < (os.filter (fun o => decide (c o))).length :=
    fun m h => List.length_pos_iff.2 (List.ne_nil_of_mem (List.mem_filter.2 ⟨m.left, by simpa using h⟩))
  induction m1 with
  | head =>
    cases m2 with
    | head => rfl
    | tail m2 =>
      have := pos m2 c2
      simp only [List.filter_cons, c1, decide_true, if_true, List.length_cons] at hlen
      omega
  | tail m1 ih =>
    cases m2 with
    | head =>
      have := pos m1 c1
      simp only [List.filter_cons, c2, decide_true, if_true, List.length_cons] at hlen
      omega
    | tail m2 =>
      exact ih (Nat.le_trans ((List.sublist_cons_self _ _).filter _).length_le hlen) m2

def KeysNodup (os : List O) : Prop := (os.map (·.key)).Nodup

theorem filter_key_le_one (k : Nat) (os : List O) (h : KeysNodup os) :
    (os.filter (fun o => decide (o.key = k))).length ≤ 1 := by
  -- `k` occurs at most once among the keys, and that count is the length of the filter
  have := List.nodup_iff_count.1 h k
  rwa [List.count_eq_countP, List.countP_map, List.countP_eq_length_filter] at this

theorem A2.append {P : O → EP → Prop} {os os' : List O} {eps eps' : List EP} (a : A2 P os eps)
    (b : A2 P os' eps') : A2 P (os ++ os') (eps ++ eps') := by
  induction a with
  | nil => exact b
  | cons p _ ih => exact .cons p ih

theorem A2.keys {P : O → EP → Prop} (hP : ∀ o e, P o e → o.key = e.key) {os : List O} {eps : List EP}
    (a : A2 P os eps) : os.map (·.key) = eps.map (·.key) := by
  induction a with
  | nil => rfl
  | cons p _ ih => simp only [List.map_cons, hP _ _ p, ih]

theorem membersOf_length {P : O → EP → Prop} (hP : ∀ o e, P o e → o.member = e.member) {os : List O}
    {eps : List EP} (a : A2 P os eps) : (Spec.Balance.membersOf os).length = members eps := by
  induction a with
  | nil => rfl
  | cons p _ ih =>
    simp only [Spec.Balance.membersOf, members, List.filter_cons] at ih ⊢
    rw [hP _ _ p]
    split <;> simp [ih]

theorem any_membersOf {o : O} {os : List O} (h : o ∈ os) (hm : o.member = true) {p : O → Bool}
    (hp : p o = true) : (Spec.Balance.membersOf os).any p = true :=
  List.any_eq_true.2 ⟨o, List.mem_filter.2 ⟨h, hm⟩, hp⟩

end Balance
