import TonicModel.Model.WebClient
import TonicModel.Lemmas.WebClient
/-
The fuel of `WebClient.Fixed.drain` is never exhausted.  `drain` is written with a fuel argument
whose exhausted case returns `[.err]`, the very frame the totality and truncation theorems assert.
So that "no busy loop" is a theorem and not a consequence of that default, the loop gets a
fuel-free semantics (`Drains`, `Runs`: big-step relations over `afterPoll` alone, in which a loop
that never stops has no derivation) and the fuelled functions are shown to compute it: `run` hands
`drain` `decoded.length + 3`, and the loop makes at most `mu st + 1 ≤ decoded.length + 2` passes
(`afterPoll_mu`).
-/
namespace WebClientLemmas
open WebClient WebClient.Fixed
open WebServer (BodyEv Out)

/-- The loop after the inner body has ended, WITHOUT fuel: `Drains st os` iff passing through
`afterPoll true` from `st` reaches a `stop` after finitely many passes, the frames emitted on the
way followed by the stop's frames being `os`. -/
inductive Drains : St → List Out → Prop
  | stop {st : St} {os : List Out} : afterPoll true st = .stop os → Drains st os
  | emit {st st' : St} {o : Out} {os : List Out} :
      afterPoll true st = .emit o st' → Drains st' os → Drains st (o :: os)
  | again {st st' : St} {os : List Out} :
      afterPoll true st = .again st' → Drains st' os → Drains st os

/-- The whole consumer loop, WITHOUT fuel: `Fixed.run` clause by clause, with `Drains` in the
place of `drain (st.decoded.length + 3)`. -/
inductive Runs : St → List BodyEv → List Out → Prop
  | ended {st : St} {os : List Out} : Drains st os → Runs st [] os
  | pending {st : St} {r : List BodyEv} {os : List Out} : Runs st r os → Runs st (.pending :: r) os
  | err {st : St} {r : List BodyEv} : Runs st (.err :: r) [.err]
  | trailers {st : St} {t : List TMap.Pair} {r : List BodyEv} {os : List Out} :
      Runs { st with trailers := mergeTrailers st.trailers t } r os → Runs st (.trailers t :: r) os
  | dataStop {st : St} {b : Bytes} {r : List BodyEv} {os : List Out} :
      afterPoll false { st with decoded := st.decoded ++ b } = .stop os → Runs st (.data b :: r) os
  | dataEmit {st st' : St} {b : Bytes} {r : List BodyEv} {o : Out} {os : List Out} :
      afterPoll false { st with decoded := st.decoded ++ b } = .emit o st' → Runs st' r os →
      Runs st (.data b :: r) (o :: os)
  | dataAgain {st st' : St} {b : Bytes} {r : List BodyEv} {os : List Out} :
      afterPoll false { st with decoded := st.decoded ++ b } = .again st' → Runs st' r os →
      Runs st (.data b :: r) os

theorem drain_drains : ∀ (f : Nat) (st : St), mu st < f → Drains st (drain f st) := by
  intro f
  induction f with
  | zero => intro st h; omega
  | succ f ih =>
    intro st hf
    simp only [drain]
    cases h : afterPoll true st with
    | stop os => exact .stop h
    | emit o st' =>
      have := afterPoll_mu.1 o st' h
      exact .emit h (ih st' (by omega))
    | again st' =>
      have := afterPoll_mu.2 st' h
      exact .again h (ih st' (by omega))

theorem Drains.eq_drain : ∀ (f : Nat) {st : St} {os : List Out}, Drains st os → mu st < f →
    os = drain f st := by
  intro f
  induction f with
  | zero => intro st os _ hf; omega
  | succ f ih =>
    intro st os h hf
    rw [drain]
    cases h with
    | stop h => rw [h]
    | emit h hd =>
      have := afterPoll_mu.1 _ _ h
      rw [h]
      exact congrArg _ (ih hd (by omega))
    | again h hd =>
      have := afterPoll_mu.2 _ h
      rw [h]
      exact ih hd (by omega)

theorem Drains.unique {st : St} {a b : List Out} (ha : Drains st a) (hb : Drains st b) : a = b :=
  (Drains.eq_drain _ ha (Nat.lt_succ_self _)).trans (Drains.eq_drain _ hb (Nat.lt_succ_self _)).symm

theorem drain_fuel_irrelevant (f g : Nat) (st : St) (hf : mu st < f) (hg : mu st < g) :
    drain f st = drain g st :=
  Drains.eq_drain g (drain_drains f st hf) hg

theorem drain_run_fuel (st : St) : Drains st (drain (st.decoded.length + 3) st) :=
  drain_drains _ st (by have := mu_le st; omega)

theorem run_runs : ∀ (evs : List BodyEv) (st : St), Runs st evs (run st evs) := by
  intro evs
  induction evs with
  | nil => intro st; exact .ended (drain_run_fuel st)
  | cons e r ih =>
    intro st
    cases e with
    | pending => exact .pending (ih st)
    | err => exact .err
    | trailers t => exact .trailers (ih _)
    | data b =>
      simp only [run]
      cases h : afterPoll false { st with decoded := st.decoded ++ b } with
      | stop os => exact .dataStop h
      | emit o st' => exact .dataEmit h (ih st')
      | again st' => exact .dataAgain h (ih st')

theorem Runs.eq_run {st : St} {evs : List BodyEv} {os : List Out} (h : Runs st evs os) :
    os = run st evs := by
  induction h with
  | @ended st _ h => exact Drains.eq_drain _ h (by have := mu_le st; omega)
  | pending _ ih => exact ih
  | err => rfl
  | trailers _ ih => exact ih
  | dataStop h => rw [run, h]
  | dataEmit h _ ih => rw [run, h]; exact congrArg _ ih
  | dataAgain h _ ih => rw [run, h]; exact ih

theorem Runs.unique {st : St} {evs : List BodyEv} {a b : List Out}
    (ha : Runs st evs a) (hb : Runs st evs b) : a = b :=
  ha.eq_run.trans hb.eq_run.symm

theorem drains_exists (st : St) : ∃ os, Drains st os := ⟨_, drain_run_fuel st⟩

end WebClientLemmas
