import TonicModel.Basic.Bytes
/-
`decimal` and `digitsVal` of `Basic/Bytes` (root namespace): reading back what was written gives the
number, every byte written is an ASCII digit, and `n < 10 ^ k` takes at most `k` of them.  Used for
the value part of a grpc-timeout header (C09).
-/

theorem digitsVal_append (xs ys : Bytes) :
    digitsVal (xs ++ ys) = ys.foldl (fun acc b => acc * 10 + (b.toNat - 48)) (digitsVal xs) := by
  simp [digitsVal, List.foldl_append]

theorem foldl_digits_shift (ys : Bytes) (a : Nat) :
    ys.foldl (fun acc b => acc * 10 + (b.toNat - 48)) a
      = a * 10 ^ ys.length + digitsVal ys := by
  induction ys generalizing a with
  | nil => simp [digitsVal]
  | cons y ys ih =>
    simp only [List.foldl_cons, List.length_cons, digitsVal]
    rw [ih, ih (0 * 10 + (y.toNat - 48))]
    simp [Nat.pow_succ, Nat.add_mul, Nat.mul_assoc, Nat.mul_comm 10, Nat.add_assoc]

theorem digitsVal_cons (d : UInt8) (acc : Bytes) :
    digitsVal (d :: acc) = (d.toNat - 48) * 10 ^ acc.length + digitsVal acc := by
  have := foldl_digits_shift acc (0 * 10 + (d.toNat - 48))
  simpa [digitsVal] using this

theorem digit_toNat (k : Nat) (h : k < 10) : (digitByte k).toNat = 48 + k := by
  simp [digitByte, UInt8.toNat_ofNat']; omega

theorem isDigit_digit (k : Nat) (h : k < 10) : Ascii.isDigit (digitByte k) = true := by
  simp only [Ascii.isDigit, digit_toNat k h]; simp; omega

theorem decimalAux_eq (fuel : Nat) : ∀ (n : Nat) (acc : Bytes), n < fuel →
    ∃ ds, decimalAux fuel n acc = ds ++ acc ∧ ds.all Ascii.isDigit = true ∧ digitsVal ds = n ∧
      1 ≤ ds.length ∧ ∀ k, n < 10 ^ (k + 1) → ds.length ≤ k + 1 := by
  induction fuel with
  | zero => intro n acc h; omega
  | succ f ih =>
    intro n acc h
    have hlt : n % 10 < 10 := Nat.mod_lt _ (by decide)
    simp only [decimalAux]
    split
    · refine ⟨[digitByte (n % 10)], rfl, by rw [List.all_cons, isDigit_digit _ hlt]; rfl, ?_,
        Nat.le_refl 1, fun k _ => Nat.le_add_left 1 k⟩
      simp only [digitsVal, List.foldl_cons, List.foldl_nil, digit_toNat _ hlt]; omega
    · obtain ⟨ds, he, hd, hv, -, hl⟩ := ih (n / 10) (digitByte (n % 10) :: acc) (by omega)
      refine ⟨ds ++ [digitByte (n % 10)], by rw [he, List.append_assoc]; rfl, ?_, ?_,
        by rw [List.length_append]; exact Nat.le_add_left 1 _, fun k hk => ?_⟩
      · rw [List.all_append, hd, List.all_cons, isDigit_digit _ hlt]; rfl
      · rw [digitsVal_append, hv, List.foldl_cons, List.foldl_nil, digit_toNat _ hlt]; omega
      · cases k with
        | zero => omega
        | succ k =>
          have := hl k (Nat.div_lt_of_lt_mul (by rw [Nat.mul_comm, ← Nat.pow_succ]; exact hk))
          rw [List.length_append, List.length_singleton]; omega

theorem decimal_spec (n : Nat) :
    (decimal n).all Ascii.isDigit = true ∧ digitsVal (decimal n) = n ∧
      1 ≤ (decimal n).length ∧ ∀ k, n < 10 ^ (k + 1) → (decimal n).length ≤ k + 1 := by
  obtain ⟨ds, he, h⟩ := decimalAux_eq (n + 1) n [] (Nat.lt_succ_self n)
  rwa [decimal, he, List.append_nil]
