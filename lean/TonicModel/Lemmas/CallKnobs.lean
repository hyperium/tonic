import TonicModel.Lemmas.FramingEnc
/-
The one configuration knob C02 proves invisible: `max_encoding_message_size` on the sending side
(`EncCfg.maxSize`).  A limit that no message of the source exceeds (the boundary `len = limit`
included) leaves every poll of the encoding body as it is without a limit.  (The receiving
side's limit is C06's subject: `C06_decode_exact`.)
-/
namespace Framing
variable {α : Type} (cd : Codec α) (cfg : EncCfg) (l : Nat)

def Fits (evs : List (SrcEv α)) : Prop :=
  ∀ m, SrcEv.item m ∈ evs → (payload cd cfg m).length ≤ l

theorem encodeErr_limit (m : α) (h : (payload cd cfg m).length ≤ l) :
    encodeErr cd { cfg with maxSize := some l } m = encodeErr cd { cfg with maxSize := none } m := by
  have hp : payload cd { cfg with maxSize := some l } m = payload cd cfg m := rfl
  have hp' : payload cd { cfg with maxSize := none } m = payload cd cfg m := rfl
  unfold encodeErr
  simp only [hp, hp']
  have : ¬ (payload cd cfg m).length > l := by omega
  simp [this]

/-- what `Enc.loop` leaves of the source is part of what it was given: in every branch the source
itself or its tail, except the one that goes on with the tail -/
theorem loop_rest_sub (evs : List (SrcEv α)) (buf : Bytes) (ev : SrcEv α) :
    ev ∈ (Enc.loop cd cfg buf evs).2.1 → ev ∈ evs := by
  fun_induction Enc.loop cd cfg buf evs
  case case11 ih => exact fun h => List.mem_cons_of_mem _ (ih h)
  all_goals first | exact id | exact List.mem_cons_of_mem _

theorem loop_limit (evs : List (SrcEv α)) : ∀ (buf : Bytes),
    Fits cd cfg l evs →
    Enc.loop cd { cfg with maxSize := some l } buf evs = Enc.loop cd { cfg with maxSize := none } buf evs := by
  induction evs with
  | nil => intro buf _; simp [Enc.loop]
  | cons ev rest ih =>
    intro buf hf
    cases ev with
    | pending => simp [Enc.loop]
    | err st => simp [Enc.loop]
    | item m =>
      unfold Enc.loop
      simp only [compressPanics_false, Bool.false_eq_true, ↓reduceIte]
      have he : encodeItem cd { cfg with maxSize := some l } buf m = encodeItem cd { cfg with maxSize := none } buf m := by
        unfold encodeItem; rw [encodeErr_limit cd cfg l m (hf m (List.mem_cons_self ..))]; rfl
      rw [he]
      cases encodeItem cd { cfg with maxSize := none } buf m with
      | error st => rfl
      | ok buf' =>
        dsimp only
        rw [ih buf' (fun m' hm' => hf m' (List.mem_cons_of_mem _ hm'))]

theorem pollFrame_limit (b : BodySt) (evs : List (SrcEv α))
    (hf : Fits cd cfg l evs) :
    Enc.pollFrame cd { cfg with maxSize := some l } b evs = Enc.pollFrame cd { cfg with maxSize := none } b evs := by
  simp only [Enc.pollFrame, Enc.pollNext, loop_limit cd cfg l evs _ hf]

theorem pollNext_rest_sub (s : EncSt) (evs : List (SrcEv α)) (ev : SrcEv α) :
    ev ∈ (Enc.pollNext cd cfg s evs).2.1 → ev ∈ evs := by
  unfold Enc.pollNext
  split
  · exact id
  · exact loop_rest_sub cd cfg evs s.buf ev

theorem pollFrame_rest_sub (b : BodySt) (evs : List (SrcEv α)) (ev : SrcEv α) :
    ev ∈ (Enc.pollFrame cd cfg b evs).2.1 → ev ∈ evs := by
  have h := pollNext_rest_sub cd cfg b.inner evs ev
  unfold Enc.pollFrame
  generalize Enc.pollNext cd cfg b.inner evs = r at h ⊢
  obtain ⟨s', evs', o⟩ := r
  by_cases hb : b.isEndStream = true
  · simp [hb]
  · cases o <;> simp only [hb, Bool.false_eq_true, ↓reduceIte] <;> (try split) <;> exact h

theorem run_limit (n : Nat) : ∀ (b : BodySt) (evs : List (SrcEv α)),
    Fits cd cfg l evs →
    Enc.run cd { cfg with maxSize := some l } n b evs = Enc.run cd { cfg with maxSize := none } n b evs := by
  induction n with
  | zero => intros; rfl
  | succ n ih =>
    intro b evs hf
    simp only [Enc.run, pollFrame_limit cd cfg l b evs hf]
    have hsub := pollFrame_rest_sub cd { cfg with maxSize := none } b evs
    generalize Enc.pollFrame cd { cfg with maxSize := none } b evs = r at hsub
    obtain ⟨b', evs', o⟩ := r
    simp only [List.cons.injEq, true_and]
    exact ih b' evs' (fun m hm => hf m (hsub _ hm))

end Framing
