import TonicModel.Model.Router
import TonicModel.Spec.Router
/-
Lemmas for C10.  A path has one first segment, so at most one route of a registry with distinct
`/`-free names matches it, and `find?` under a predicate that at most one member satisfies returns
that member in whatever order the list is.  The builder calls are described by what one call does
to the table.  Under `namespace C10`: the registry theorems' hypothesis `WellFormed`, and the
dispatch theorem in the model's own words, on which C11 builds as well.
-/
namespace Router

theorem takeWhile_sep {α} [DecidableEq α] {c : α} {a : List α} (ha : c ∉ a) (r : List α) :
    (a ++ c :: r).takeWhile (· != c) = a := by
  rw [List.takeWhile_append_of_pos fun x hx => bne_iff_ne.mpr fun (e : x = c) => ha (e ▸ hx),
    List.takeWhile_cons_of_neg (by simp), List.append_nil]

theorem sep_unique {α} [DecidableEq α] {c : α} {a b r r' : List α} (ha : c ∉ a) (hb : c ∉ b)
    (h : a ++ c :: r = b ++ c :: r') : a = b := by
  rw [← takeWhile_sep ha r, h, takeWhile_sep hb]

theorem eq_of_nodup_map {α β} (f : α → β) (l : List α) (h : (l.map f).Nodup) :
    ∀ x ∈ l, ∀ y ∈ l, f x = f y → x = y :=
  have hp := List.pairwise_map.mp h
  fun _ hx _ hy => List.Pairwise.forall_of_forall_of_flip (R := fun x y => f x = f y → x = y)
    (fun _ _ _ => rfl) (hp.imp fun hne e => absurd e hne) (hp.imp fun hne e => absurd e.symm hne)
    hx hy

def AtMostOne {α} (p : α → Bool) (l : List α) : Prop :=
  ∀ x ∈ l, ∀ y ∈ l, p x = true → p y = true → x = y

theorem find?_eq_some_iff_of_unique {α} {p : α → Bool} {l : List α} (huniq : AtMostOne p l)
    (x : α) : l.find? p = some x ↔ x ∈ l ∧ p x = true := by
  refine ⟨fun h => ⟨List.mem_of_find?_eq_some h, List.find?_some h⟩, fun ⟨hx, hp⟩ => ?_⟩
  cases h : l.find? p with
  | none => exact absurd hp (List.find?_eq_none.mp h x hx)
  | some y => rw [huniq y (List.mem_of_find?_eq_some h) x hx (List.find?_some h) hp]

theorem find?_perm_of_unique {α} {p : α → Bool} {l l' : List α} (hperm : l.Perm l')
    (huniq : AtMostOne p l) : l.find? p = l'.find? p := by
  have huniq' : AtMostOne p l' :=
    fun x hx y hy => huniq x (hperm.mem_iff.mpr hx) y (hperm.mem_iff.mpr hy)
  apply Option.ext
  intro x
  rw [find?_eq_some_iff_of_unique huniq, find?_eq_some_iff_of_unique huniq', hperm.mem_iff]

theorem hasDup_false_iff (l : List Bytes) : hasDup l = false ↔ l.Nodup := by
  induction l with
  | nil => simp [hasDup]
  | cons n ns ih =>
    simp only [hasDup, Bool.or_eq_false_iff, List.contains_eq_mem, decide_eq_false_iff_not, ih,
      List.nodup_cons]

theorem validName_iff (n : Bytes) :
    validName n = true ↔ n ≠ [] ∧ slash ∉ n ∧ 123 ∉ n ∧ 125 ∉ n := by
  simp only [validName, Bool.and_eq_true, Bool.not_eq_eq_eq_not, Bool.not_true,
    List.isEmpty_eq_false_iff, List.contains_eq_mem, decide_eq_false_iff_not, and_assoc]

theorem routePrefix_append (name rest : Bytes) :
    routePrefix name ++ rest = slash :: (name ++ slash :: rest) := by
  simp only [routePrefix, List.cons_append, List.append_assoc, List.nil_append]

theorem pathOf_eq (s m : Bytes) : Spec.Router.pathOf s m = routePrefix s ++ m := by
  simp only [Spec.Router.pathOf, routePrefix_append, List.append_assoc, List.cons_append,
    List.nil_append]
  rfl

theorem routeMatches_iff (name path : Bytes) :
    routeMatches name path = true ↔ ∃ rest, rest ≠ [] ∧ path = routePrefix name ++ rest := by
  simp only [routeMatches, Bool.and_eq_true, List.isPrefixOf_iff_prefix, decide_eq_true_eq]
  constructor
  · rintro ⟨⟨rest, rfl⟩, hlen⟩
    refine ⟨rest, ?_, rfl⟩
    rintro rfl
    rw [List.append_nil] at hlen
    exact Nat.lt_irrefl _ hlen
  · rintro ⟨rest, hne, rfl⟩
    have := List.length_pos_iff.mpr hne
    exact ⟨List.prefix_append _ _, by rw [List.length_append]; omega⟩

theorem routeMatches_unique {a b path : Bytes} (ha : slash ∉ a) (hb : slash ∉ b)
    (h1 : routeMatches a path = true) (h2 : routeMatches b path = true) : a = b := by
  obtain ⟨r, _, rfl⟩ := (routeMatches_iff a path).mp h1
  obtain ⟨r', _, h⟩ := (routeMatches_iff b _).mp h2
  rw [routePrefix_append, routePrefix_append] at h
  exact sep_unique ha hb (List.cons.inj h).2

theorem route_unique {reg : List Svc} (hv : ∀ x ∈ reg, validName x.name = true)
    (hnd : (reg.map Svc.name).Nodup) (path : Bytes) :
    AtMostOne (fun s => routeMatches s.name path) reg :=
  fun x hx y hy hpx hpy => eq_of_nodup_map Svc.name reg hnd x hx y hy <|
    routeMatches_unique ((validName_iff _).mp (hv x hx)).2.1 ((validName_iff _).mp (hv y hy)).2.1
      hpx hpy

/-- `beq_iff_eq` at `Bytes`, where finding the `LawfulBEq` instance is slow: found once here. -/
theorem beq_bytes {a b : Bytes} : (a == b) = true ↔ a = b := beq_iff_eq

private theorem arm_unique (path pre : Bytes) (l : List Bytes) :
    AtMostOne (fun m => path == pre ++ m) l :=
  fun _ _ _ _ hx hy => List.append_cancel_left ((beq_bytes.mp hx).symm.trans (beq_bytes.mp hy))

theorem call_eq_handler_iff (s : Svc) (path m : Bytes) (sn : Bytes) :
    s.call path = .handler sn m ↔ sn = s.name ∧ m ∈ s.methods ∧ path = routePrefix s.name ++ m := by
  rw [← beq_bytes (a := path), ← find?_eq_some_iff_of_unique (arm_unique path _ s.methods), Svc.call]
  cases s.methods.find? (fun m => path == routePrefix s.name ++ m) with
  | none => simp only [reduceCtorEq, and_false]
  | some m' => simp only [Outcome.handler.injEq, Option.some.injEq, eq_comm]

theorem call_cases (s : Svc) (path : Bytes) :
    (∃ m, s.call path = .handler s.name m) ∨ s.call path = .svcDefault s.name := by
  unfold Svc.call
  cases s.methods.find? (fun m => path == routePrefix s.name ++ m) with
  | none => exact Or.inr rfl
  | some m => exact Or.inl ⟨m, rfl⟩

theorem call_perm (n : Bytes) (ms ms' : List Bytes) (h : ms.Perm ms') (path : Bytes) :
    (Svc.mk n ms).call path = (Svc.mk n ms').call path := by
  simp only [Svc.call, find?_perm_of_unique h (arm_unique path (routePrefix n) ms)]

theorem dispatch_of_nodup {reg : List Svc} (h : (reg.map Svc.name).Nodup) (path : Bytes) :
    dispatch reg path =
      match reg.find? (fun s => routeMatches s.name path) with
      | some s => s.call path
      | none => .fallback := by
  rw [dispatch, (hasDup_false_iff _).mpr h]; rfl

theorem dispatch_cases {reg : List Svc} (h : (reg.map Svc.name).Nodup) (path : Bytes) :
    (∃ s m, dispatch reg path = .handler s m) ∨
      (dispatch reg path).handlerRan = none ∧ (dispatch reg path).routerStatus = some 12 := by
  rw [dispatch_of_nodup h]
  cases reg.find? (fun s => routeMatches s.name path) with
  | none => exact .inr ⟨rfl, rfl⟩
  | some x =>
    dsimp only
    rcases call_cases x path with ⟨m, hm⟩ | hd
    · exact .inl ⟨_, m, hm⟩
    · rw [hd]; exact .inr ⟨rfl, rfl⟩

theorem serve_tonic (svcs : List Svc) (path : Bytes) :
    (Table.mk svcs [] .unimplemented).serve path = .tonic (dispatch svcs path) := by
  simp only [Table.serve, dispatch]
  cases hasDup (svcs.map Svc.name) <;> cases svcs.find? (fun s => routeMatches s.name path) <;> rfl

theorem wrapped_call (w : Wrapped) (p : Bytes) : w.call p = w.base.call p := by
  induction w with
  | gen s => rfl
  | intercepted _ w ih => exact ih
  | layered w ih => exact ih

theorem wrapped_name (w : Wrapped) : w.name = w.base.name := by
  induction w with
  | gen s => rfl
  | intercepted _ w ih => exact ih
  | layered w ih => exact ih

theorem step_table (st : St) (op : Op) :
    (st.step op).table.svcs = st.table.svcs ++ op.services ∧ (st.step op).table.fb = st.table.fb ∧
    (op.tonicOnly = true → (st.step op).table.user = st.table.user) := by
  cases op with
  | addService s => cases st <;> exact ⟨rfl, rfl, fun _ => rfl⟩
  | addOptional s =>
    cases s with
    | some s => cases st <;> exact ⟨rfl, rfl, fun _ => rfl⟩
    | none => cases st <;> exact ⟨(List.append_nil _).symm, rfl, fun _ => rfl⟩
  | userRoute p => cases st <;> exact ⟨(List.append_nil _).symm, rfl, fun h => nomatch h⟩
  | _ => cases st <;> exact ⟨(List.append_nil _).symm, rfl, fun _ => rfl⟩

theorem foldl_table (ops : List Op) (st : St) :
    (ops.foldl St.step st).table.svcs = st.table.svcs ++ ops.flatMap Op.services ∧
    (ops.foldl St.step st).table.fb = st.table.fb ∧
    ((∀ op ∈ ops, op.tonicOnly = true) → (ops.foldl St.step st).table.user = st.table.user) := by
  induction ops generalizing st with
  | nil => exact ⟨(List.append_nil _).symm, rfl, fun _ => rfl⟩
  | cons op ops ih =>
    obtain ⟨h1, h2, h3⟩ := step_table st op
    obtain ⟨i1, i2, i3⟩ := ih (st.step op)
    rw [List.foldl_cons, i1, i2, h1, h2, List.flatMap_cons, List.append_assoc]
    exact ⟨rfl, rfl, fun h => by
      rw [i3 fun o ho => h o (List.mem_cons_of_mem _ ho), h3 (h op List.mem_cons_self)]⟩

theorem start_svcs (s : Start) : s.run.table.svcs = s.services := by
  cases s with
  | serverAddOptional o => cases o <;> rfl
  | _ => rfl

theorem start_rest (s : Start) (h : s.tonicOnly = true) :
    s.run.table.fb = .unimplemented ∧ s.run.table.user = [] := by
  cases s with
  | serverAddOptional o => cases o <;> exact ⟨rfl, rfl⟩
  | fromAxum u => cases h
  | builderFromAxum u => cases h
  | _ => exact ⟨rfl, rfl⟩

theorem build_table (start : Start) (ops : List Op) :
    (build start ops).table.svcs = mounted start ops ∧
    (build start ops).table.fb = start.run.table.fb ∧
    ((∀ op ∈ ops, op.tonicOnly = true) → (build start ops).table.user = start.run.table.user) := by
  have h := foldl_table ops start.run
  rw [start_svcs] at h
  exact h

theorem mem_clone {p : Proc} {v : Nat} {t : Table} (h : t ∈ (p.clone v).vals) : t ∈ p.vals := by
  unfold Proc.clone at h
  cases hv : p.vals[v]? with
  | none => rwa [hv] at h
  | some t' =>
    rw [hv] at h
    rcases List.mem_append.mp h with h | h
    · exact h
    · rw [List.mem_singleton.mp h]; exact List.mem_of_getElem? hv

theorem answers_from_live (uses : List Use) :
    ∀ (p : Proc), ∀ pa ∈ Proc.answers p uses, ∃ t ∈ p.vals, pa.2 = t.serve pa.1 := by
  induction uses with
  | nil => intro p pa h; cases h
  | cons u us ih =>
    intro p pa h
    cases u with
    | call v path =>
      rw [Proc.answers, List.mem_append] at h
      rcases h with h | h
      · cases hv : p.vals[v]? with
        | none => rw [hv] at h; cases h
        | some t =>
          rw [hv, List.mem_singleton] at h
          exact ⟨t, List.mem_of_getElem? hv, by rw [h]⟩
      · exact ih p pa h
    | clone v =>
      obtain ⟨t, ht, h⟩ := ih (p.clone v) pa h
      exact ⟨t, mem_clone ht, h⟩

end Router

namespace C10
open Router

/-- Hypotheses on a registry: names are protobuf-like (no `/`, `{`, `}`, non-empty), method
names are non-empty, and the services form a *set* (distinct names). -/
def WellFormed (reg : List Svc) : Prop :=
  (∀ x ∈ reg, validName x.name = true) ∧ (∀ x ∈ reg, ∀ m ∈ x.methods, m ≠ []) ∧
  (reg.map Svc.name).Nodup

theorem find_route {reg : List Svc} (hwf : WellFormed reg) {x : Svc} (hx : x ∈ reg)
    {path : Bytes} (h : routeMatches x.name path = true) :
    reg.find? (fun s => routeMatches s.name path) = some x :=
  (find?_eq_some_iff_of_unique (route_unique hwf.1 hwf.2.2 path) x).mpr ⟨hx, h⟩

theorem dispatch_eq_handler_iff (reg : List Svc) (hwf : WellFormed reg) (path s m : Bytes) :
    dispatch reg path = .handler s m ↔
      (∃ x ∈ reg, x.name = s ∧ m ∈ x.methods) ∧ path = routePrefix s ++ m := by
  rw [dispatch_of_nodup hwf.2.2]
  constructor
  · intro h
    cases hf : reg.find? (fun s => routeMatches s.name path) with
    | none => rw [hf] at h; cases h
    | some x =>
      rw [hf] at h
      obtain ⟨rfl, hm, hp⟩ := (call_eq_handler_iff x path m s).mp h
      exact ⟨⟨x, List.mem_of_find?_eq_some hf, rfl, hm⟩, hp⟩
  · rintro ⟨⟨x, hx, rfl, hm⟩, rfl⟩
    rw [find_route hwf hx ((routeMatches_iff _ _).mpr ⟨m, hwf.2.1 x hx m hm, rfl⟩)]
    exact (call_eq_handler_iff x _ m x.name).mpr ⟨rfl, hm, rfl⟩

end C10
