import TonicModel.Lemmas.CompressionFrames
/-
The server clauses of the oracle proved of `serve`: a clause about every response is checked on
the two forms a response takes (`serve_ind`), a clause about particular requests on the response
computed for that shape of the decoded request stream (`serve_refused`, `serve_err`, `serve_oks`).
-/
namespace Compression
open CompObs Spec.Compression

variable {accS sndS : Slots} {req : SrvReq} {h : Handler} {neg : Option Enc} {accept send : List Enc}
  {shape : Shape} {chosen : Option Enc}

theorem respond_fail (code : Nat) (saw : List Item) :
    respond shape chosen (.fail code) saw = errorResponse true saw code .handler [] := rfl

theorem respond_reply (n : Nat) (dis : Bool) (saw : List Item) :
    respond shape chosen (.reply n dis []) saw =
      { called := true, saw, enc := (chosen.map name).toList, acc := [], stWhere := .trl, stCode := 0,
        stCls := .none,
        frames := List.replicate (if shape.singleResponse then 1 else n)
          (outFrame chosen (dis && shape.singleResponse)) } := by
  cases chosen with
  | none => rfl
  | some e => rw [respond, asStr_eq_name]; rfl

theorem reply_of_not_forges {n : Nat} {dis : Bool} {md : List Bytes}
    (h : (Handler.reply n dis md).forges = false) : md = [] := by
  cases md with
  | nil => rfl
  | cons a md => cases h

theorem respond_called (saw : List Item) :
    (respond shape chosen h saw).called = true ∧ (respond shape chosen h saw).saw = saw := by
  cases h <;> exact ⟨rfl, rfl⟩

theorem serve_refused {v : Bytes} (hE : fromEncodingHeader req.encVals accS = .error v) :
    serve accS sndS req h = errorResponse false [] 12 .unsupported [v] := by
  rw [serve, hE]

/-- Every response is a trailers-only error (of the "unsupported encoding" class only when the
request's `grpc-encoding` was refused) or what `map_response` makes of the handler's reply. -/
theorem serve_ind {P : SrvObs → Prop}
    (herr : ∀ called saw c k acc,
      (k ≠ .unsupported ∨ ∃ v, fromEncodingHeader req.encVals accS = .error v) →
      P (errorResponse called saw c k acc))
    (hreply : ∀ n dis md saw, h = .reply n dis md →
      P (respond req.shape (fromAcceptEncodingHeader req.accVals sndS) (.reply n dis md) saw)) :
    P (serve accS sndS req h) := by
  have hresp : ∀ saw, P (respond req.shape (fromAcceptEncodingHeader req.accVals sndS) h saw) := by
    intro saw
    cases h with
    | fail c => exact herr _ _ _ _ _ (Or.inl nofun)
    | reply n dis md => exact hreply n dis md saw rfl
  unfold serve
  cases hE : fromEncodingHeader req.encVals accS with
  | error v => exact herr _ _ _ _ _ (Or.inr ⟨v, hE⟩)
  | ok neg =>
    dsimp only
    split
    · split
      · rename_i c k hu
        refine herr _ _ _ _ _ (Or.inl ?_)
        rcases unaryRead_error hu with ⟨_, rfl⟩ | hm
        · nofun
        · exact (mem_decodeAll_err hm).2
      · exact hresp _
    · split
      · rename_i c k hf
        exact herr _ _ _ _ _ (Or.inl (mem_decodeAll_err (firstErr_mem hf)).2)
      · exact hresp _

theorem serve_err (hE : fromEncodingHeader req.encVals accS = .ok neg) {ms : List Form} {c : Nat}
    {k : ErrCls} (hd : decodeAll neg req.frames = ms.map .ok ++ [.err c k]) :
    serve accS sndS req h =
      if req.shape.singleRequest then errorResponse false [] c k []
      else errorResponse true (ms.map .ok ++ [.err c k]) c k [] := by
  unfold serve
  rw [hE]
  dsimp only
  rw [hd, unaryRead_oks_err, firstErr_oks]
  rfl

theorem serve_oks (hE : fromEncodingHeader req.encVals accS = .ok neg) {ms : List Form}
    (hd : decodeAll neg req.frames = ms.map .ok) :
    serve accS sndS req h =
      if req.shape.singleRequest then
        match (generalizing := false) ms with
        | [] => errorResponse false [] 13 .missing []
        | m :: _ => respond req.shape (fromAcceptEncodingHeader req.accVals sndS) h [.ok m]
      else respond req.shape (fromAcceptEncodingHeader req.accVals sndS) h (ms.map .ok) := by
  unfold serve
  rw [hE]
  dsimp only
  rw [hd, unaryRead_oks, firstErr_map_ok]
  cases ms <;> rfl

theorem serve_choice (hS : Agree sndS send) (hmd : h.forges = false) :
    srvChoice send req (serve accS sndS req h) = true := by
  refine serve_ind (P := fun o => srvChoice send req o = true) (fun _ _ _ _ _ _ => rfl) ?_
  rintro n dis md saw rfl
  obtain rfl := reply_of_not_forges hmd
  rw [respond_reply]
  cases hc : fromAcceptEncodingHeader req.accVals sndS with
  | none => rfl
  | some e =>
    obtain ⟨hen, v, rest, hv, hoff⟩ := fromAccept_some hc
    rw [hS e, List.contains_iff_mem] at hen
    simp [srvChoice, nameOf_name, hen, offeredB, hv, offersB, hoff]

theorem respond_announce (saw : List Item) : srvAnnounce (respond shape chosen h saw) = true := by
  cases h with
  | fail code => rfl
  | reply n dis md =>
    refine List.all_eq_true.mpr fun f hf => ?_
    rw [List.eq_of_mem_replicate hf]
    cases chosen with
    | none => rfl
    | some e =>
      rw [respond, asStr_eq_name]
      cases dis && shape.singleResponse
      · simp [outFrame, frameOk]
      · rfl

theorem serve_announce : srvAnnounce (serve accS sndS req h) = true :=
  serve_ind (P := fun o => srvAnnounce o = true) (fun _ _ _ _ _ _ => rfl) fun _ _ _ saw hh =>
    hh ▸ respond_announce saw

theorem serve_enc_trl (hmd : h.forges = false) :
    (serve accS sndS req h).stWhere = .trl →
      (serve accS sndS req h).enc =
        ((fromAcceptEncodingHeader req.accVals sndS).map name).toList := by
  refine serve_ind (P := fun o => o.stWhere = .trl → o.enc = _) (fun _ _ _ _ _ _ => nofun) ?_
  rintro n dis md saw rfl
  obtain rfl := reply_of_not_forges hmd
  rw [respond_reply]
  exact fun _ => rfl

theorem serve_reject (hA : Agree accS accept) : srvReject accept req (serve accS sndS req h) = true := by
  have hE := fromEncodingHeader_eq hA req.encVals
  unfold srvReject
  split
  · rename_i hr
    rw [if_pos hr] at hE
    rw [serve_refused hE]
    simp [errorResponse, acceptListOk_model hA]
  · rename_i hr
    rw [if_neg (hr · )] at hE
    refine serve_ind (P := fun o => (o.stCls != .unsupported) = true) ?_ fun _ _ _ _ _ => rfl
    rintro _ _ _ k _ (hk | ⟨v, hv⟩)
    · exact bne_iff_ne.mpr hk
    · rw [hE] at hv
      cases hv

theorem serve_flag (hA : Agree accS accept) : srvFlag accept req (serve accS sndS req h) = true := by
  unfold srvFlag
  split
  · rename_i k hr hk
    have hE : fromEncodingHeader req.encVals accS = .ok none := by
      rw [fromEncodingHeader_eq hA, hr]
      rfl
    obtain ⟨ms, hn, hd⟩ := decodeAll_flagged req.frames k hk
    rw [serve_err hE hd]
    cases req.shape.singleRequest
    · rw [if_neg Bool.false_ne_true]
      simp only [errorResponse, okCount_oks, hn, decide_true]
      rfl
    · rfl
  · rfl

theorem serve_deliver (hA : Agree accS accept) : srvDeliver accept req (serve accS sndS req h) = true := by
  have hE := fromEncodingHeader_eq hA req.encVals
  unfold srvDeliver
  split
  · rfl
  · rename_i hr
    rw [if_neg (hr · )] at hE
    unfold srvDelivered
    split
    · rename_i hwf
      have hc := @respond_called h req.shape (fromAcceptEncodingHeader req.accVals sndS)
      rw [serve_oks hE (decodeAll_wellFormed _ _ hwf)]
      cases req.shape.singleRequest
      · simp [hc, expectItem_eq]
      · cases hfr : req.frames with
        | nil => simp [errorResponse]
        | cons f fs => simp [hc, expectItem_eq]
    · rfl

end Compression
