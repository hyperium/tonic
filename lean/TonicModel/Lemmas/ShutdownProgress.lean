import TonicModel.Lemmas.ShutdownMeasure
import TonicModel.Lemmas.ShutdownAccept
/-
Progress, the liveness half of C13: once shutdown has been requested and no handler is waiting for
the outside, a server that has not resolved can take another step of its own; iterated against the
measure, the serve future resolves.  `Draining` is what the server's own steps preserve of such a
state; every maximal run from it ends resolved.
-/
namespace Shutdown

/-- No running handler is waiting for something from the outside: neither for a release by the
scenario, nor (in its last phase) for the rest of its caller's request stream. -/
def Unblocked (s : State) : Prop :=
  ∀ cn ∈ s.conns, cn.closed = false → ∀ k ∈ cn.calls, k.started = true → k.cancelled = false →
    k.todo ≠ [] → (0 < k.permits ∨ s.freeRun = true) ∧ k.reqReady = true

/-- Every caller that is still there has sent its complete request (always true of unary and
server-streaming calls). -/
def RequestsDone (s : State) : Prop :=
  ∀ cn ∈ s.conns, ∀ k ∈ cn.calls, k.cancelled = false → k.reqLeft = 0

theorem reqReady_of_reqLeft {k : Call} (h : k.reqLeft = 0) : k.reqReady = true := by
  simp [Call.reqReady, h]

/-- The signal has fired, or the incoming stream has ended, or the accept loop is already over. -/
def ShutdownRequested (s : State) : Prop :=
  s.sigReady = true ∨ s.ended = true ∨ s.loopRunning = false

/-- The server's own steps that do not take up anything new: every internal step except the
completion of an HTTP/2 handshake, the acceptance of a new stream and the request timeout cutting a
call short.  Draining a server needs only these. -/
def Label.drains : Label → Bool
  | .hsDone .. | .callStart .. | .expire .. => false
  | l => l.internal

theorem Label.drains_internal {l : Label} (h : l.drains = true) : l.internal = true := by
  cases l <;> first | exact h | cases h

theorem conn_progress_drains {s : State} {c : Nat} {cn : Conn} (hc : s.conns[c]? = some cn)
    (hk : ConnOk s.cfgGraceful s.cfgBiased s.sent s.resolved s.sigReady cn)
    (hw : cn.watcher = true) (hsent : s.sent = true) (hub : Unblocked s) :
    ∃ l, l.drains = true ∧ (step s l).isSome = true := by
  have hacc := (hk.watcher_acc hw).1
  cases hcl : cn.closed with
  | true => exact ⟨.connDropWatcher c, rfl, updConn_isSome hc (by rw [hcl, hw]; rfl)⟩
  | false =>
  -- the connection task leaves as soon as hyper has one of its three reasons
  have brk (hd : hyperConnDone cn = true) :
      ∃ l, l.drains = true ∧ (step s l).isSome = true :=
    ⟨.connBreak c, rfl, updConn_isSome hc (by rw [hacc, hcl, hd]; rfl)⟩
  cases hpg : cn.peerGone with
  | true => exact brk ((hyperConnDone_iff cn).2 (Or.inl hpg))
  | false =>
  cases hss : cn.sawSig with
  | false =>
    exact ⟨.connSig c, rfl, updConn_isSome hc (by rw [hacc, hcl, hw, hsent, hss]; rfl)⟩
  | true =>
  have hgrc := hk.sawSig_graceful hss
  cases hhs : cn.hs with
  | false => exact brk ((hyperConnDone_iff cn).2 (Or.inr (Or.inl ⟨hgrc, hhs⟩)))
  | true =>
  cases hfin : cn.final with
  | false =>
    exact ⟨.final c, rfl, updConn_isSome hc (by rw [hacc, hcl, hhs, hgrc, hfin]; rfl)⟩
  | true =>
  cases hset : cn.calls.all Call.settled with
  | true =>
    exact brk ((hyperConnDone_iff cn).2 (Or.inr (Or.inr ⟨hfin, List.all_eq_true.1 hset⟩)))
  | false =>
    -- some call is not settled: what was written can be delivered, or its handler can go on
    obtain ⟨k, hkm, hns⟩ : ∃ k ∈ cn.calls, k.settled = false := by simpa using hset
    obtain ⟨j, hj⟩ := List.mem_iff_getElem?.1 hkm
    simp only [Call.settled, Bool.or_eq_false_iff, Bool.not_eq_false',
      Bool.and_eq_false_iff] at hns
    obtain ⟨⟨hst, hcan⟩, hinc⟩ := hns
    by_cases hlt : k.recv < k.sent.length
    · exact ⟨.deliver c j, rfl,
        updCall_isSome hc hj (by rw [hcl, hpg, hcan, decide_eq_true hlt]; rfl)⟩
    · have heq : k.recv = k.sent.length := by
        have := (hk.calls_ok k hkm).recv_le
        omega
      have htodo : k.todo.isEmpty = false := by
        rcases hinc with h | h
        · exact h
        · rw [heq, beq_self_eq_true] at h; cases h
      obtain ⟨hperm, hrr⟩ := hub cn (List.mem_of_getElem? hc) hcl k hkm hst hcan
        (fun h0 => by rw [h0] at htodo; cases htodo)
      have : (decide (0 < k.permits) || s.freeRun) = true := by
        rcases hperm with hp | hp
        · rw [decide_eq_true hp]; rfl
        · rw [hp]; exact Bool.or_true _
      exact ⟨.produce c j, rfl,
        updCall_isSome hc hj (by rw [hcl, hst, hcan, this, hrr, htodo]; rfl)⟩

/-- The cases follow the order of a shutdown: the accept loop leaves, then the code after it runs,
then some connection task or the serve future itself can move. -/
theorem progress_drains {s : State} (hg : Good s) (hgr : s.cfgGraceful = true)
    (hreq : ShutdownRequested s) (hub : Unblocked s) (hres : s.resolved = false) :
    ∃ l, l.drains = true ∧ (step s l).isSome = true := by
  cases hrun : s.loopRunning with
  | true =>
    have htk := hg.running_not_taken hrun
    cases hsr : s.sigReady with
    | true =>
      exact ⟨.loopSig, rfl, guard_isSome (by rw [hrun, sigBranchReady, hsr, htk]; rfl) rfl⟩
    | false =>
      have hib : incomingBranch s = true := by
        rw [incomingBranch, sigBranchReady, hrun, hsr]
        cases s.cfgBiased <;> rfl
      have hend : s.ended = true := by
        rcases hreq with h | h | h
        · rw [hsr] at h; cases h
        · exact h
        · rw [hrun] at h; cases h
      by_cases hpe : 0 < s.pendingErrs
      · exact ⟨.loopErr, rfl, guard_isSome (by rw [hib, decide_eq_true hpe]; rfl) rfl⟩
      · have hpe0 : s.pendingErrs = 0 := by omega
        cases hall : s.conns.all (fun cn => !cn.pending || cn.inSet) with
        | true =>
          exact ⟨.loopEnd, rfl, guard_isSome (by rw [hib, hend, hpe0, hall]; rfl) rfl⟩
        | false =>
          obtain ⟨cn, hcn, hp, hns⟩ : ∃ cn ∈ s.conns, cn.pending = true ∧ cn.inSet = false := by
            simpa using hall
          obtain ⟨c, hc⟩ := List.mem_iff_getElem?.1 hcn
          cases htls : cn.tls with
          | false =>
            exact ⟨.loopAccept c, rfl,
              guard_isSome hib (updConn_isSome hc (by rw [hp, htls]; rfl))⟩
          | true =>
            -- a TLS connection not yet handed to the handshake set: `ServerIoStream` takes it
            exact ⟨.tlsTake c, rfl,
              guard_isSome hib (updConn_isSome hc (by rw [hp, htls, hns]; rfl))⟩
  | false =>
    cases had : s.afterDone with
    | false => exact ⟨.afterLoop, rfl, guard_isSome (by rw [hrun, had]; rfl) rfl⟩
    | true =>
      by_cases hw : ∃ cn ∈ s.conns, cn.watcher = true
      · obtain ⟨cn, hcn, hwt⟩ := hw
        obtain ⟨c, hc⟩ := List.mem_iff_getElem?.1 hcn
        exact conn_progress_drains hc (hg.conns cn hcn) hwt (hg.after_sent had hgr) hub
      · have h0 : receiverCount s = 0 := by
          have : s.conns.countP (·.watcher) = 0 :=
            List.countP_eq_zero.2 fun cn hcn hwt => hw ⟨cn, hcn, hwt⟩
          rw [receiverCount, hg.mainRx_eq, had, this]
          rfl
        exact ⟨.resolve, rfl, guard_isSome (by rw [had, hres, hgr, h0]; rfl) rfl⟩

theorem progress {s : State} (hg : Good s) (hgr : s.cfgGraceful = true)
    (hreq : ShutdownRequested s) (hub : Unblocked s) (hres : s.resolved = false) :
    ∃ l, l.internal = true ∧ (step s l).isSome = true := by
  obtain ⟨l, hd, hs⟩ := progress_drains hg hgr hreq hub hres
  exact ⟨l, Label.drains_internal hd, hs⟩

/-- Iterating progress against the measure: `P` an invariant of the server's own steps, `Q` a kind
of such steps, `Stop` where to end. -/
theorem internal_run_until (P Stop : State → Prop) (Q : Label → Prop)
    (hQ : ∀ l, Q l → l.internal = true)
    (hstep : ∀ s l s', P s → l.internal = true → step s l = some s' → P s')
    (hprog : ∀ s, P s → ¬ Stop s → ∃ l, Q l ∧ (step s l).isSome = true)
    {s : State} (hp : P s) :
    ∃ ls s', (∀ l ∈ ls, l.internal = true ∧ Q l) ∧ run s ls = some s' ∧ Stop s'
      ∧ ls.length ≤ weight s := by
  induction hw : weight s using Nat.strongRecOn generalizing s with
  | _ n ih =>
    subst hw
    by_cases hstop : Stop s
    · exact ⟨[], s, nofun, rfl, hstop, Nat.zero_le _⟩
    · obtain ⟨l, hq, hs⟩ := hprog s hp hstop
      have hi := hQ l hq
      obtain ⟨s1, hs1⟩ := Option.isSome_iff_exists.1 hs
      have hlt := internal_step_decreases hi hs1
      obtain ⟨ls, s', hall, hrun, hres, hlen⟩ := ih _ hlt (hstep s l s1 hp hi hs1) rfl
      exact ⟨l :: ls, s', List.forall_mem_cons.2 ⟨⟨hi, hq⟩, hall⟩, run_cons.2 ⟨s1, hs1, hrun⟩, hres,
        Nat.le_trans (Nat.succ_le_succ hlen) hlt⟩

/-- once the accept loop is over nothing is accepted any more, and no connection is reopened -/
theorem allClosed_step {s s' : State} {l : Label} (hg : Good s) (hrun : s.loopRunning = false)
    (ha : AllClosed s) (hi : l.internal = true) (h : step s l = some s') : AllClosed s' := by
  intro cn' hcn' hacc
  obtain ⟨c, cn, hc, f⟩ := (step_frame (took := (l = ·)) h rfl).back (fun _ e => e ▸ hi) hcn'
  have hl : l ≠ .loopAccept c := fun e => by
    rw [e, accept_disabled hg (Or.inr hrun) c] at h
    cases h
  exact f.closed (ha cn (List.mem_of_getElem? hc) (f.accepted hl ▸ hacc))

theorem unblocked_of_allClosed {s : State} (hg : Good s) (ha : AllClosed s) : Unblocked s := by
  intro cn hcn hcl k hkm hst _ _
  have hk := hg.conns cn hcn
  have := ha cn hcn (hk.hs_acc (hk.started_hs k hkm hst))
  simp [hcl] at this

/-- decidable form of `Unblocked` -/
def unblockedB (s : State) : Bool :=
  s.conns.all fun cn => cn.closed || cn.calls.all fun k =>
    !k.started || k.cancelled || k.todo.isEmpty
      || ((decide (0 < k.permits) || s.freeRun) && k.reqReady)

theorem unblocked_of_bool {s : State} (h : unblockedB s = true) : Unblocked s := by
  intro cn hcn hcl k hk hst hcan hne
  simp only [unblockedB, List.all_eq_true, Bool.or_eq_true, Bool.not_eq_true',
    decide_eq_true_eq, List.isEmpty_iff, Bool.and_eq_true] at h
  rcases (h cn hcn).resolve_left (Bool.eq_false_iff.1 hcl) k hk with ((h2 | h2) | h2) | h2
  · exact absurd hst (Bool.eq_false_iff.1 h2)
  · exact absurd h2 (Bool.eq_false_iff.1 hcan)
  · exact absurd h2 hne
  · exact h2

/-- All connections are closeable: every call its caller still wants has its complete request and
every release its handler still needs (or handlers run freely). -/
def Closeable (s : State) : Prop :=
  ∀ cn ∈ s.conns, ∀ k ∈ cn.calls, k.cancelled = false →
    (k.todo.length ≤ k.permits ∨ s.freeRun = true) ∧ k.reqLeft = 0

theorem unblocked_of_closeable {s : State} (h : Closeable s) : Unblocked s := by
  intro cn hcn _ k hk _ hcan hne
  obtain ⟨hp, hr⟩ := h cn hcn k hk hcan
  refine ⟨hp.imp_left fun hp => ?_, reqReady_of_reqLeft hr⟩
  have : 0 < k.todo.length := List.length_pos_iff.2 hne
  omega

theorem closeable_of_requestsDone {s : State} (hfree : s.freeRun = true) (hd : RequestsDone s) :
    Closeable s :=
  fun cn hcn k hk hcan => ⟨Or.inr hfree, hd cn hcn k hk hcan⟩

theorem closeable_step {s s' : State} {l : Label} (hd : Closeable s) (hi : l.internal = true)
    (h : step s l = some s') : Closeable s' := by
  have hi' : ∀ x, l = x → x.internal = true := fun _ e => e ▸ hi
  have fr := step_frame (took := (l = ·)) h rfl
  intro cn' hcn' k' hk' hcan
  obtain ⟨c, cn, hc, fc⟩ := fr.back hi' hcn'
  obtain ⟨j, k, hk, fk⟩ := fc.back hi' hk'
  obtain ⟨hcanEq, hreqEq, hpermits⟩ := fk.internal hi'
  obtain ⟨hp, hr⟩ := hd cn (List.mem_of_getElem? hc) k (List.mem_of_getElem? hk) (hcanEq ▸ hcan)
  exact ⟨hp.imp hpermits (fr.freeRun_eq hi' ▸ ·), hreqEq ▸ hr⟩

/-- What holds at the start of a drain keeps holding along any run of the server's own steps. -/
structure Draining (s : State) : Prop where
  good : Good s
  graceful : s.cfgGraceful = true
  requested : ShutdownRequested s
  closeable : Closeable s

theorem draining_of_reachable {b a : Bool} {s : State} (h : Reachable true b a s)
    (hreq : ShutdownRequested s) (hcl : Closeable s) : Draining s :=
  ⟨good_reachable h, (reachable_cfg h).1, hreq, hcl⟩

theorem draining_step {s s' : State} {l : Label} (hd : Draining s) (hi : l.internal = true)
    (h : step s l = some s') : Draining s' := by
  have fr := step_frame (took := (l = ·)) h rfl
  exact ⟨good_step hd.good h, fr.cfgGraceful.trans hd.graceful,
    hd.requested.imp fr.sigReady (Or.imp fr.ended fr.loopOver), closeable_step hd.closeable hi h⟩

theorem draining_run {ls : List Label} {s s' : State} (hd : Draining s)
    (hall : ∀ l ∈ ls, l.internal = true) (h : run s ls = some s') : Draining s' :=
  run_invariant (fun l hl _ _ hd hs => draining_step hd (hall l hl) hs) h hd

theorem draining_progress {s : State} (hd : Draining s) (hres : s.resolved = false) :
    ∃ l, l.drains = true ∧ (step s l).isSome = true :=
  progress_drains hd.good hd.graceful hd.requested (unblocked_of_closeable hd.closeable) hres

/-- `hmax`: it is enough that no DRAINING step is enabled at the end of the run. -/
theorem Draining.maximal_run_resolves {s s' : State} {ls : List Label} (hd : Draining s)
    (hall : ∀ l ∈ ls, l.internal = true) (hrun : run s ls = some s')
    (hmax : ∀ l, l.drains = true → (step s' l).isSome = false) :
    s'.resolved = true ∧ ls.length ≤ weight s := by
  refine ⟨?_, Nat.le_trans (Nat.le_add_right _ _) (internal_run_bounded hall hrun)⟩
  cases hres : s'.resolved with
  | true => rfl
  | false =>
    obtain ⟨l, hdr, hs⟩ := draining_progress (draining_run hd hall hrun) hres
    rw [hmax l hdr] at hs
    cases hs

theorem Draining.resolves {s : State} (hd : Draining s) :
    ∃ ls s', (∀ l ∈ ls, l.internal = true ∧ l.drains = true) ∧ run s ls = some s'
      ∧ s'.resolved = true ∧ ls.length ≤ weight s :=
  internal_run_until Draining (·.resolved = true) (·.drains = true) (fun _ => Label.drains_internal)
    (fun _ _ _ hd hi hs => draining_step hd hi hs)
    (fun _ hd hn => draining_progress hd (Bool.eq_false_iff.2 hn)) hd

/-- decidable form of `RequestsDone` for the examples -/
def requestsDoneB (s : State) : Bool :=
  s.conns.all fun cn => cn.calls.all fun k => k.cancelled || k.reqLeft == 0

theorem requestsDone_of_bool {s : State} (h : requestsDoneB s = true) : RequestsDone s := by
  intro cn hcn k hk hcan
  simp only [requestsDoneB, List.all_eq_true, Bool.or_eq_true, beq_iff_eq] at h
  exact (h cn hcn k hk).resolve_left (Bool.eq_false_iff.1 hcan)

/-- decidable form of `Closeable` (for examples) -/
def closeableB (s : State) : Bool :=
  s.conns.all fun cn => cn.calls.all fun k =>
    k.cancelled || ((decide (k.todo.length ≤ k.permits) || s.freeRun) && k.reqLeft == 0)

theorem closeable_of_bool {s : State} (h : closeableB s = true) : Closeable s := by
  intro cn hcn k hk hcan
  simp only [closeableB, List.all_eq_true, Bool.or_eq_true, Bool.and_eq_true,
    decide_eq_true_eq, beq_iff_eq] at h
  exact (h cn hcn k hk).resolve_left (Bool.eq_false_iff.1 hcan)

end Shutdown
