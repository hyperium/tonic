import TonicModel.Model.WebClient
import TonicModel.Spec.GrpcWeb
/-
The repaired grpc-web client loop (`WebClient.Fixed`).  For arbitrary bodies: what one pass can do
to the complete frames at the front of the buffer (`Pass`), and an induction principle that carries
a property of the passes along `run` (`run_rec`).  For a valid stream cut into chunks: `find_trailers`
on the stream and on its proper prefixes, and the loop followed through the chunks (`run_stream`).
Last, `WellFramed` is decidable, and a well-framed prefix of a well-framed body ends at a frame boundary.
-/
namespace WebClientLemmas
open WebClient WebClient.Fixed
open WebServer (BodyEv Out flat notPending dataOf)
open Spec.GrpcWeb (WellFramed rawFrame flagOk frameBytes framesBytes frameStructure frameStructureAux
  encItems)
open TMap (Pair)

def validItems (its : List (UInt8 × Bytes)) : Prop := ∀ i ∈ its, flagOk i.1 ∧ i.2.length < 4294967296

theorem validItems_append {a b : List (UInt8 × Bytes)} (ha : validItems a) (hb : validItems b) :
    validItems (a ++ b) := fun i hi => (List.mem_append.1 hi).elim (ha i) (hb i)

theorem validItems_one {fl : UInt8} {p : Bytes} (hf : flagOk fl) (hp : p.length < 4294967296) :
    validItems [(fl, p)] := fun _ hi => List.mem_singleton.1 hi ▸ ⟨hf, hp⟩

theorem wf_nil : WellFramed [] := ⟨[], nofun, rfl⟩

theorem wf_append {a b : Bytes} (ha : WellFramed a) (hb : WellFramed b) : WellFramed (a ++ b) := by
  obtain ⟨ia, ha1, rfl⟩ := ha
  obtain ⟨ib, hb1, rfl⟩ := hb
  exact ⟨ia ++ ib, validItems_append ha1 hb1, List.flatMap_append.symm⟩

theorem wf_frame (fl : UInt8) (p : Bytes) (hf : flagOk fl) (hp : p.length < 4294967296) :
    WellFramed (rawFrame fl p) :=
  ⟨[(fl, p)], validItems_one hf hp, (List.append_nil _).symm⟩

theorem rawFrame_length (fl : UInt8) (p : Bytes) : (rawFrame fl p).length = p.length + 5 := by
  simp only [rawFrame, List.length_cons, List.length_append, u32be_length]
  omega

theorem hdr5_spec {D : Bytes} {h : UInt8} {n : Nat} {rest : Bytes}
    (hh : hdr5 D = some (h, n, rest)) :
    ∃ a b c d, D = h :: a :: b :: c :: d :: rest ∧ u32be n = [a, b, c, d] ∧ n < 4294967296 := by
  match D, hh with
  | h' :: a :: b :: c :: d :: rest', hh =>
    simp only [hdr5, Option.some.injEq, Prod.mk.injEq] at hh
    obtain ⟨rfl, rfl, rfl⟩ := hh
    exact ⟨a, b, c, d, rfl, u32be_readU32 a b c d, readU32_lt a b c d⟩

theorem hdr5_none {D : Bytes} (hh : hdr5 D = none) : D.length < 5 := by
  match D, hh with
  | [], _ => simp
  | [_], _ => simp
  | [_, _], _ => simp
  | [_, _, _], _ => simp
  | [_, _, _, _], _ => simp

theorem hdr5_short (D : Bytes) (h : D.length < 5) : hdr5 D = none := by
  match D, h with
  | [], _ => rfl
  | [_], _ => rfl
  | [_, _], _ => rfl
  | [_, _, _], _ => rfl
  | [_, _, _, _], _ => rfl
  | _ :: _ :: _ :: _ :: _ :: _, h => simp only [List.length_cons] at h; omega

theorem hdr5_u32be (fl : UInt8) (n : Nat) (rest : Bytes) (hn : n < 4294967296) :
    hdr5 (fl :: u32be n ++ rest) = some (fl, n, rest) := by
  simp only [u32be, List.cons_append, List.nil_append, hdr5]
  rw [readU32_u32be _ hn]

theorem hdr5_raw (fl : UInt8) (p tail : Bytes) (hp : p.length < 4294967296) :
    hdr5 (rawFrame fl p ++ tail) = some (fl, p.length, p ++ tail) := by
  rw [rawFrame, List.append_assoc]
  exact hdr5_u32be fl _ _ hp

theorem take_len (rest : Bytes) (n : Nat) (hn : ¬ rest.length < n) : (rest.take n).length = n := by
  rw [List.length_take]; omega

theorem split_frame (h a b c d : UInt8) (rest : Bytes) (n : Nat) (hu : u32be n = [a, b, c, d])
    (hn : ¬ rest.length < n) :
    h :: a :: b :: c :: d :: rest = rawFrame h (rest.take n) ++ rest.drop n := by
  unfold rawFrame
  rw [take_len rest n hn, hu]
  simp only [List.cons_append, List.nil_append, List.take_append_drop]

/-- the message frames among `its` -/
def msgsOf (its : List (UInt8 × Bytes)) : List (UInt8 × Bytes) := its.filter (fun i => i.1 != 128)

def msgItems (its : List (UInt8 × Bytes)) : Prop :=
  ∀ i ∈ its, (i.1 = 0 ∨ i.1 = 1) ∧ i.2.length < 4294967296

theorem encItems_append (a b : List (UInt8 × Bytes)) : encItems (a ++ b) = encItems a ++ encItems b := by
  simp [encItems]

theorem encItems_cons (fl : UInt8) (p : Bytes) (its : List (UInt8 × Bytes)) :
    encItems ((fl, p) :: its) = rawFrame fl p ++ encItems its := rfl

theorem encItems_one (fl : UInt8) (p : Bytes) : encItems [(fl, p)] = rawFrame fl p :=
  List.append_nil _

theorem msgsOf_append (a b : List (UInt8 × Bytes)) : msgsOf (a ++ b) = msgsOf a ++ msgsOf b := by
  simp [msgsOf]

theorem msgItems_cons {fl : UInt8} {p : Bytes} {its : List (UInt8 × Bytes)} (hf : fl = 0 ∨ fl = 1)
    (hp : p.length < 4294967296) (h : msgItems its) : msgItems ((fl, p) :: its) := by
  intro i hi
  rcases List.mem_cons.1 hi with rfl | hi
  · exact ⟨hf, hp⟩
  · exact h i hi

theorem msgsOf_msgs {its : List (UInt8 × Bytes)} (h : msgItems its) : msgsOf its = its := by
  simp only [msgsOf, List.filter_eq_self]
  intro i hi
  rcases (h i hi).1 with h0 | h1
  · rw [h0]; decide
  · rw [h1]; decide

theorem valid_of_msgs {its : List (UInt8 × Bytes)} (h : msgItems its) : validItems its :=
  fun i hi => ⟨(h i hi).1.elim Or.inl (Or.inr ∘ Or.inl), (h i hi).2⟩

theorem FT.shift_trailer (k l : Nat) : (FT.trailer l).shift k = .trailer (l + k) := rfl

theorem findTrailers_nil : findTrailers true [] = .done 0 := rfl

theorem scan_sound (f : Nat) (D : Bytes) :
    match scan true f D with
    | .trailer l => ∃ its tail, msgItems its ∧ D = encItems its ++ tail ∧ l = (encItems its).length ∧
        ∃ blk rest, tail = rawFrame 128 blk ++ rest ∧ blk.length < 4294967296
    | .done l => ∃ its tail, msgItems its ∧ D = encItems its ++ tail ∧ l = (encItems its).length
    | _ => True := by
  fun_induction scan true f D with
  | case2 _ D => exact ⟨[], D, nofun, rfl, rfl⟩
  -- a whole trailers frame in front
  | case4 _ D n rest hinc hh =>
    obtain ⟨a, b, c, d, rfl, hu, hn32⟩ := hdr5_spec hh
    have hlt : ¬ rest.length < n := by simpa using hinc
    exact ⟨[], _, nofun, rfl, rfl, rest.take n, rest.drop n, split_frame 128 a b c d rest n hu hlt,
      by rw [take_len rest n hlt]; exact hn32⟩
  -- a whole message frame in front: it is put before the frames `ih` gives for what follows it
  | case7 f D h n rest hh _ hflag hlt ih =>
    obtain ⟨a, b, c, d, rfl, hu, hn32⟩ := hdr5_spec hh
    have hm := fun its => msgItems_cons (its := its) (fl := h) (Decidable.or_iff_not_imp_left.2 (by simpa using hflag))
      (by rw [take_len rest n hlt]; exact hn32)
    have hl : (rawFrame h (rest.take n)).length = n + 5 := by
      rw [rawFrame_length, take_len rest n hlt]
    rw [split_frame h a b c d rest n hu hlt]
    cases hs : scan true f (rest.drop n) <;> rw [hs] at ih <;> simp only [FT.shift]
    · obtain ⟨its, tail, hi, hD, rfl, ht⟩ := ih
      refine ⟨(h, rest.take n) :: its, tail, hm its hi, ?_, ?_, ht⟩
      · rw [hD, encItems_cons, List.append_assoc]
      · rw [encItems_cons, List.length_append, hl]; omega
    · obtain ⟨its, tail, hi, hD, rfl⟩ := ih
      refine ⟨(h, rest.take n) :: its, tail, hm its hi, ?_, ?_⟩
      · rw [hD, encItems_cons, List.append_assoc]
      · rw [encItems_cons, List.length_append, hl]; omega
  | _ => trivial

/-! ### one pass of the loop -/

/-- What one pass of the loop (`afterPoll eof` from `st`) can do, in terms of the complete frames
at the front of the buffer.  Only the buffer is followed: the trailers stored after a trailers
frame (`tr`) are left arbitrary, so nothing about the trailers of an arbitrary body follows from
this relation (for valid streams see `run_stream`). -/
inductive Pass (eof : Bool) (st : St) : Step → Prop
  | err : Pass eof st (.stop [.err])
  | eos : eof = true → st.decoded = [] → st.trailers = none → Pass eof st (.stop [.eos])
  | wait : eof = false → Pass eof st (.again st)
  | held {t : List Pair} : eof = true → st.decoded = [] → st.trailers = some t →
      Pass eof st (.emit (.trailers t) { st with trailers := none })
  | msgs {its : List (UInt8 × Bytes)} {rest : Bytes} : msgItems its → encItems its ≠ [] →
      st.decoded = encItems its ++ rest →
      Pass eof st (.emit (.data (encItems its)) { st with decoded := rest })
  | frame {blk rest : Bytes} (tr : Option (List Pair)) : blk.length < 4294967296 →
      st.decoded = rawFrame 128 blk ++ rest → Pass eof st (.again ⟨rest, tr⟩)
  | msgsFrame {its : List (UInt8 × Bytes)} {blk rest : Bytes} (tr : Option (List Pair)) :
      msgItems its → encItems its ≠ [] → blk.length < 4294967296 →
      st.decoded = encItems its ++ (rawFrame 128 blk ++ rest) →
      Pass eof st (.emit (.data (encItems its)) ⟨rest, tr⟩)

theorem onTrailer_frame {st : St} {pre blk rest : Bytes} (hb : blk.length < 4294967296)
    (hD : st.decoded = pre ++ (rawFrame 128 blk ++ rest)) :
    onTrailer st pre.length =
      match decodeTrailersFrame true (rawFrame 128 blk) with
      | none => .stop [.err]
      | some t? =>
        if pre.length > 0 then .emit (.data pre) ⟨rest, mergeOpt st.trailers t?⟩
        else .again ⟨rest, mergeOpt st.trailers t?⟩ := by
  have hlen : 5 + blk.length = (rawFrame 128 blk).length := by rw [rawFrame_length, Nat.add_comm]
  rw [onTrailer, hD, List.drop_left' rfl, hdr5_raw 128 blk rest hb]
  simp only [hlen, List.take_left' rfl, List.drop_left' rfl]
  cases decodeTrailersFrame true (rawFrame 128 blk) <;> rfl

theorem afterPoll_pass (eof : Bool) (st : St) : Pass eof st (afterPoll eof st) := by
  have hs := scan_sound (st.decoded.length + 1) st.decoded
  rw [afterPoll, findTrailers]
  cases hscan : scan true (st.decoded.length + 1) st.decoded with
  | bad => exact .err
  | incomplete =>
    cases eof
    · exact .wait rfl
    · exact .err
  | done len =>
    rw [hscan] at hs
    obtain ⟨its, tail, hi, hD, rfl⟩ := hs
    simp only
    by_cases hl : (encItems its).length = 0
    · rw [if_pos hl, onExhausted]
      cases eof
      · exact .wait rfl
      · by_cases hd : st.decoded = []
        · have he : st.decoded.isEmpty = true := by rw [hd]; rfl
          simp only [he, Bool.not_true, Bool.false_eq_true, if_false]
          cases ht : st.trailers with
          | none => exact .eos rfl hd ht
          | some t => exact .held rfl hd ht
        · have he : st.decoded.isEmpty = false := by simpa using hd
          simp only [he, Bool.not_true, Bool.not_false, Bool.false_eq_true, if_false, if_true]
          exact .err
    · rw [if_neg hl, hD, List.take_left' rfl, List.drop_left' rfl]
      exact .msgs hi (fun h => hl (by rw [h]; rfl)) hD
  | trailer len =>
    rw [hscan] at hs
    obtain ⟨its, _, hi, hD, rfl, blk, rest, rfl, hb⟩ := hs
    simp only
    rw [onTrailer_frame hb hD]
    cases decodeTrailersFrame true (rawFrame 128 blk) with
    | none => exact .err
    | some t? =>
      simp only
      by_cases hl0 : (encItems its).length > 0
      · rw [if_pos hl0]
        exact .msgsFrame _ hi (List.ne_nil_of_length_pos hl0) hb hD
      · rw [if_neg hl0]
        rw [List.eq_nil_of_length_eq_zero (Nat.eq_zero_of_not_pos hl0), List.nil_append] at hD
        exact .frame _ hb hD

theorem afterPoll_stop {eof : Bool} {st : St} {os : List Out} (h : afterPoll eof st = .stop os) :
    os = [.err] ∨ (os = [.eos] ∧ eof = true ∧ st.decoded = []) := by
  have hp := afterPoll_pass eof st
  rw [h] at hp
  cases hp with
  | err => exact .inl rfl
  | eos he hd _ => exact .inr ⟨rfl, he, hd⟩

def isTerminal : Out → Bool
  | .eos => true
  | .err => true
  | _ => false

/-- `st'` is `st` minus the frames `its` at the front of the buffer; `out` are the message
frames among them -/
def Takes (st st' : St) (out : Bytes) : Prop :=
  ∃ its, validItems its ∧ st.decoded = encItems its ++ st'.decoded ∧ out = encItems (msgsOf its)

theorem takes_nil (st : St) (tr : Option (List Pair)) : Takes st ⟨st.decoded, tr⟩ [] :=
  ⟨[], nofun, rfl, rfl⟩

theorem afterPoll_emit {eof : Bool} {st st' : St} {o : Out} (h : afterPoll eof st = .emit o st') :
    isTerminal o = false ∧ Takes st st' (dataOf [o]) := by
  have hp := afterPoll_pass eof st
  rw [h] at hp
  cases hp with
  | held _ _ _ => exact ⟨rfl, takes_nil st none⟩
  | msgs hi _ hD => exact ⟨rfl, _, valid_of_msgs hi, hD, by rw [msgsOf_msgs hi]; exact List.append_nil _⟩
  | @msgsFrame its blk _ _ hi _ hb hD =>
    refine ⟨rfl, its ++ [(128, blk)], validItems_append (valid_of_msgs hi) ?_, ?_, ?_⟩
    · exact validItems_one (.inr (.inr rfl)) hb
    · rw [hD, encItems_append, encItems_one, List.append_assoc]
    · rw [msgsOf_append, msgsOf_msgs hi, show msgsOf [((128 : UInt8), blk)] = [] from rfl,
        List.append_nil]
      exact List.append_nil _

theorem afterPoll_again {eof : Bool} {st st' : St} (h : afterPoll eof st = .again st') :
    Takes st st' [] := by
  have hp := afterPoll_pass eof st
  rw [h] at hp
  cases hp with
  | wait _ => exact takes_nil st _
  | @frame blk _ _ hb hD =>
    exact ⟨[(128, blk)], validItems_one (.inr (.inr rfl)) hb, by rw [hD, encItems_one], rfl⟩

/-- what `drain` works off: buffered bytes, and the stored trailers -/
def mu (st : St) : Nat := st.decoded.length + (if st.trailers.isSome then 1 else 0)

theorem mu_le (st : St) : mu st ≤ st.decoded.length + 1 := by
  unfold mu; split <;> omega

theorem afterPoll_mu {st : St} :
    (∀ o st', afterPoll true st = .emit o st' → mu st' < mu st) ∧
    (∀ st', afterPoll true st = .again st' → mu st' < mu st) := by
  have hp := afterPoll_pass true st
  constructor
  · intro o st' h
    rw [h] at hp
    cases hp with
    | held _ _ ht => simp [mu, ht]
    | msgs _ hne hD =>
      have := List.length_pos_iff.2 hne
      simp only [mu, hD, List.length_append]
      omega
    | @msgsFrame _ _ rest tr _ _ _ hD =>
      have := mu_le ⟨rest, tr⟩
      simp only [mu, hD, List.length_append, rawFrame_length] at this ⊢
      omega
  · intro st' h
    rw [h] at hp
    cases hp with
    | wait he => cases he
    | @frame _ rest tr _ hD =>
      have := mu_le ⟨rest, tr⟩
      simp only [mu, hD, List.length_append, rawFrame_length] at this ⊢
      omega

/-! ### induction along the loop -/

/-- A property `Q` of all the body's data bytes (buffered and still to come) and the frames the
caller gets holds of every run if every pass of the loop preserves it. -/
theorem run_rec {Q : Bytes → List Out → Prop}
    (herr : ∀ X, Q X [.err])
    (hstop : ∀ {eof : Bool} {st : St} {os : List Out} (fut : Bytes), afterPoll eof st = .stop os →
      (eof = true → fut = []) → Q (st.decoded ++ fut) os)
    (hemit : ∀ {eof : Bool} {st st' : St} {o : Out} (fut : Bytes) (os : List Out),
      afterPoll eof st = .emit o st' → Q (st'.decoded ++ fut) os → Q (st.decoded ++ fut) (o :: os))
    (hagain : ∀ {eof : Bool} {st st' : St} (fut : Bytes) (os : List Out),
      afterPoll eof st = .again st' → Q (st'.decoded ++ fut) os → Q (st.decoded ++ fut) os) :
    ∀ (evs : List BodyEv) (st : St), Q (st.decoded ++ flat evs) (run st evs) := by
  have hdrain : ∀ (f : Nat) (st : St), Q (st.decoded ++ []) (drain f st) := by
    intro f
    induction f with
    | zero => intro st; exact herr _
    | succ f ih =>
      intro st
      rw [drain]
      cases h : afterPoll true st with
      | stop os => exact hstop [] h (fun _ => rfl)
      | emit o st' => exact hemit [] _ h (ih st')
      | again st' => exact hagain [] _ h (ih st')
  intro evs
  induction evs with
  | nil => intro st; exact hdrain _ st
  | cons e r ih =>
    intro st
    cases e with
    | pending => exact ih st
    | err => exact herr _
    | trailers t => exact ih { st with trailers := mergeTrailers st.trailers t }
    | data b =>
      rw [run, flat, ← List.append_assoc]
      cases h : afterPoll false { st with decoded := st.decoded ++ b } with
      | stop os => exact hstop _ h nofun
      | emit o st' => exact hemit _ _ h (ih st')
      | again st' => exact hagain _ _ h (ih st')

def EndsOnce (l : List Out) : Prop :=
  ∃ os t, l = os ++ [t] ∧ isTerminal t = true ∧ ∀ o ∈ os, isTerminal o = false

theorem endsOnce_one {t : Out} (ht : isTerminal t = true) : EndsOnce [t] := ⟨[], t, rfl, ht, nofun⟩

theorem endsOnce_cons {o : Out} {l : List Out} (ho : isTerminal o = false) (h : EndsOnce l) :
    EndsOnce (o :: l) := by
  obtain ⟨os, t, rfl, ht, hos⟩ := h
  refine ⟨o :: os, t, rfl, ht, ?_⟩
  intro x hx
  rcases List.mem_cons.1 hx with rfl | hx
  · exact ho
  · exact hos x hx

theorem endsOnce_cons_inv {o : Out} {l : List Out} (h : EndsOnce (o :: l)) :
    (isTerminal o = true ∧ l = []) ∨ (isTerminal o = false ∧ EndsOnce l) := by
  obtain ⟨os, t, hl, ht, hos⟩ := h
  cases os with
  | nil =>
    obtain ⟨rfl, rfl⟩ := List.cons.inj hl
    exact .inl ⟨ht, rfl⟩
  | cons x os' =>
    obtain ⟨rfl, rfl⟩ := List.cons.inj hl
    exact .inr ⟨hos _ (List.mem_cons_self ..), os', t, rfl, ht,
      fun y hy => hos y (List.mem_cons_of_mem _ hy)⟩

theorem run_endsOnce (evs : List BodyEv) (st : St) : EndsOnce (run st evs) :=
  run_rec (Q := fun _ os => EndsOnce os) (herr := fun _ => endsOnce_one rfl)
    (hstop := fun _ h _ => by rcases afterPoll_stop h with rfl | ⟨rfl, _⟩ <;> exact endsOnce_one rfl)
    (hemit := fun _ _ h ih => endsOnce_cons (afterPoll_emit h).1 ih) (hagain := fun _ _ _ ih => ih)
    evs st

theorem not_wf_of_takes {st st' : St} {out fut : Bytes} (ht : Takes st st' out)
    (h : ¬ WellFramed (st.decoded ++ fut)) : ¬ WellFramed (st'.decoded ++ fut) := by
  obtain ⟨its, hv, hd, _⟩ := ht
  intro h'
  apply h
  rw [hd, List.append_assoc]
  exact wf_append ⟨its, hv, rfl⟩ h'

theorem run_not_wf (evs : List BodyEv) (st : St) (h : ¬ WellFramed (st.decoded ++ flat evs)) :
    (run st evs).getLast? = some .err := by
  refine run_rec (Q := fun X os => ¬ WellFramed X → os.getLast? = some .err) (fun _ _ => rfl)
    ?hstop ?hemit ?hagain evs st h
  case hstop =>
    intro eof st os fut hs hf hw
    rcases afterPoll_stop hs with rfl | ⟨_, he, hd⟩
    · rfl
    · rw [hd, hf he] at hw
      exact absurd wf_nil hw
  case hemit =>
    intro _ _ _ _ _ _ hs ih hw
    rw [List.getLast?_cons, ih (not_wf_of_takes (afterPoll_emit hs).2 hw)]
    rfl
  case hagain => exact fun _ _ hs ih hw => ih (not_wf_of_takes (afterPoll_again hs) hw)

/-- the conclusion about a run that starts with `D` buffered and `fut` still to come -/
def CleanSpec (D fut : Bytes) (outs : List Out) : Prop :=
  ∃ its, validItems its ∧ D ++ fut = encItems its ∧ dataOf outs = encItems (msgsOf its)

theorem dataOf_cons (o : Out) (os : List Out) : dataOf (o :: os) = dataOf [o] ++ dataOf os := by
  cases o <;> simp [dataOf]

theorem cleanSpec_step {st st' : St} {fut out : Bytes} {outs : List Out}
    (ht : Takes st st' out) (h : CleanSpec st'.decoded fut outs) :
    ∃ its, validItems its ∧ st.decoded ++ fut = encItems its ∧
      out ++ dataOf outs = encItems (msgsOf its) := by
  obtain ⟨its1, hv1, hd1, rfl⟩ := ht
  obtain ⟨its2, hv2, hd2, hdata⟩ := h
  exact ⟨its1 ++ its2, validItems_append hv1 hv2,
    by rw [hd1, List.append_assoc, hd2, encItems_append],
    by rw [hdata, msgsOf_append, encItems_append]⟩

theorem run_clean : ∀ (evs : List BodyEv) (st : St), (run st evs).getLast? = some .eos →
    CleanSpec st.decoded (flat evs) (run st evs) := by
  refine run_rec (Q := fun X os => os.getLast? = some .eos →
    ∃ its, validItems its ∧ X = encItems its ∧ dataOf os = encItems (msgsOf its)) nofun
    ?hstop ?hemit ?hagain
  case hstop =>
    intro eof st os fut hs hf hl
    rcases afterPoll_stop hs with rfl | ⟨rfl, he, hd⟩
    · cases hl
    · exact ⟨[], nofun, by rw [hd, hf he]; rfl, rfl⟩
  case hemit =>
    intro eof st st' o fut os hs ih hl
    obtain ⟨ho, ht⟩ := afterPoll_emit hs
    have hl' : os.getLast? = some .eos := by
      cases os with
      | nil => cases (Option.some.inj hl : o = .eos); cases ho
      | cons _ _ => rwa [List.getLast?_cons_of_ne_nil (List.cons_ne_nil _ _)] at hl
    rw [dataOf_cons]
    exact cleanSpec_step ht (ih hl')
  case hagain => exact fun _ _ hs ih hl => cleanSpec_step (afterPoll_again hs) (ih hl)

/-! ### `find_trailers` on a prefix of a valid stream -/

theorem scan_short (f : Nat) (D : Bytes) (h : D.length < 5) :
    scan true (f + 1) D = .done 0 := by
  simp only [scan, hdr5_short D h]

theorem scan_frame (f : Nat) (fl : UInt8) (hfl : fl = 0 ∨ fl = 1) (p tail : Bytes)
    (hp : p.length < 4294967296) :
    scan true (f + 1) (rawFrame fl p ++ tail) = (scan true f tail).shift (p.length + 5) := by
  have h128 : fl ≠ 128 := by rcases hfl with rfl | rfl <;> decide
  have hok : (fl = 0 || fl = 1) = true := by rcases hfl with rfl | rfl <;> decide
  have hlt : ¬ (p ++ tail).length < p.length := by simp
  simp only [scan, hdr5_raw fl p tail hp, h128, if_false, hok, Bool.not_true, Bool.false_eq_true,
    hlt, List.drop_left']

theorem scan_trailers (f : Nat) (blk more : Bytes) (hb : blk.length < 4294967296) :
    scan true (f + 1) (rawFrame 128 blk ++ more) = .trailer 0 := by
  have hlt : ¬ (blk ++ more).length < blk.length := by simp
  simp only [scan, hdr5_raw 128 blk more hb, if_true, Bool.true_and, decide_eq_true_eq, hlt, if_false]

theorem scan_partial (f : Nat) (fl : UInt8) (hfl : flagOk fl) (p D c' : Bytes)
    (hp : p.length < 4294967296) (hD : rawFrame fl p = D ++ c') (hc : c' ≠ []) (h5 : 5 ≤ D.length) :
    scan true (f + 1) D = .incomplete := by
  have hsplit : ∃ p1, D = fl :: u32be p.length ++ p1 ∧ p = p1 ++ c' := by
    have h' : (fl :: u32be p.length) ++ p = D ++ c' := by simpa [rawFrame] using hD
    rcases List.append_eq_append_iff.1 h' with ⟨a', h1, h2⟩ | ⟨c'', h1, h2⟩
    · exact ⟨a', by simpa using h1, h2⟩
    · -- the header alone already covers D: then |D| = 5 and c'' = []
      have hl : (fl :: u32be p.length).length = D.length + c''.length := by rw [h1]; simp
      simp only [List.length_cons, u32be_length] at hl
      have hc0 : c'' = [] := List.eq_nil_of_length_eq_zero (by omega)
      subst hc0
      exact ⟨[], by simpa using h1.symm, by simpa using h2.symm⟩
  obtain ⟨p1, hD1, hpp⟩ := hsplit
  have hlen : p1.length < p.length := by
    rw [hpp, List.length_append]
    cases c' with
    | nil => exact absurd rfl hc
    | cons _ _ => simp
  have hh : hdr5 D = some (fl, p.length, p1) := hD1 ▸ hdr5_u32be fl _ p1 hp
  simp only [scan, hh]
  rcases hfl with rfl | rfl | rfl
  · simp [hlen]
  · simp [hlen]
  · simp [hlen]

theorem frameBytes_raw (c : Bool) (p : Bytes) :
    frameBytes c p = rawFrame (if c then 1 else 0) p := rfl

theorem framesBytes_append (a b : List (Bool × Bytes)) :
    framesBytes (a ++ b) = framesBytes a ++ framesBytes b := by
  induction a with
  | nil => rfl
  | cons x xs ih => simp [framesBytes, ih]

theorem scan_inside (f : Nat) (fl : UInt8) (hfl : flagOk fl) (p D c' : Bytes)
    (hp : p.length < 4294967296) (hD : rawFrame fl p = D ++ c') (hc : c' ≠ []) :
    scan true (f + 1) D = .incomplete ∨ scan true (f + 1) D = .done 0 := by
  by_cases h5 : D.length < 5
  · exact .inr (scan_short f D h5)
  · exact .inl (scan_partial f fl hfl p D c' hp hD hc (by omega))

theorem flag_of_bool (c : Bool) : (if c then (1 : UInt8) else 0) = 0 ∨ (if c then (1 : UInt8) else 0) = 1 := by
  cases c
  · exact .inl rfl
  · exact .inr rfl

theorem scan_whole (blk : Bytes) (hb : blk.length < 4294967296) :
    ∀ (fs : List (Bool × Bytes)), (∀ f ∈ fs, f.2.length < 4294967296) →
    ∀ f, (framesBytes fs ++ rawFrame 128 blk).length < f →
      scan true f (framesBytes fs ++ rawFrame 128 blk) = .trailer (framesBytes fs).length := by
  intro fs
  induction fs with
  | nil =>
    intro _ f hf
    obtain ⟨f', rfl⟩ : ∃ f', f = f' + 1 := ⟨f - 1, by omega⟩
    simpa [framesBytes] using scan_trailers f' blk [] hb
  | cons fr fs ih =>
    intro hfs f hf
    obtain ⟨f', rfl⟩ : ∃ f', f = f' + 1 := ⟨f - 1, by omega⟩
    rw [framesBytes, List.append_assoc, frameBytes_raw] at hf ⊢
    rw [List.length_append, rawFrame_length] at hf
    rw [scan_frame f' _ (flag_of_bool fr.1) _ _ (hfs fr (List.mem_cons_self ..)),
      ih (fun g hg => hfs g (List.mem_cons_of_mem _ hg)) f' (by omega),
      FT.shift_trailer, List.length_append, rawFrame_length, Nat.add_comm]

theorem scan_prefix (blk : Bytes) (hb : blk.length < 4294967296) :
    ∀ (fs : List (Bool × Bytes)), (∀ f ∈ fs, f.2.length < 4294967296) →
    ∀ (D X : Bytes) (f : Nat), D.length < f → X ≠ [] →
      D ++ X = framesBytes fs ++ rawFrame 128 blk →
      scan true f D = .incomplete ∨
        ∃ fs1 fs2 P, fs = fs1 ++ fs2 ∧ D = framesBytes fs1 ++ P ∧
          scan true f D = .done (framesBytes fs1).length := by
  intro fs
  induction fs with
  | nil =>
    intro _ D X f hf hX hDX
    obtain ⟨f', rfl⟩ : ∃ f', f = f' + 1 := ⟨f - 1, by omega⟩
    exact (scan_inside f' 128 (.inr (.inr rfl)) blk D X hb hDX.symm hX).imp_right
      fun h => ⟨[], [], D, rfl, rfl, h⟩
  | cons fr fs ih =>
    intro hfs D X f hf hX hDX
    obtain ⟨f', rfl⟩ : ∃ f', f = f' + 1 := ⟨f - 1, by omega⟩
    have hp := hfs fr (List.mem_cons_self ..)
    have hfl := flag_of_bool fr.1
    rw [framesBytes, List.append_assoc, frameBytes_raw] at hDX
    -- the first frame is wholly in `D`, or `D` stops strictly inside it
    have hsplit : (∃ c', D = rawFrame (if fr.1 then 1 else 0) fr.2 ++ c' ∧
          c' ++ X = framesBytes fs ++ rawFrame 128 blk) ∨
        ∃ a', a' ≠ [] ∧ rawFrame (if fr.1 then 1 else 0) fr.2 = D ++ a' := by
      rcases List.append_eq_append_iff.1 hDX with ⟨a', h1, h2⟩ | ⟨c', h1, h2⟩
      · by_cases ha : a' = []
        · subst ha
          exact .inl ⟨[], by rw [h1, List.append_nil, List.append_nil], by rw [h2]; rfl⟩
        · exact .inr ⟨a', ha, h1⟩
      · exact .inl ⟨c', h1, h2.symm⟩
    rcases hsplit with ⟨c', rfl, h2⟩ | ⟨a', ha, h1⟩
    · rw [List.length_append, rawFrame_length] at hf
      rw [scan_frame f' _ hfl _ c' hp]
      rcases ih (fun g hg => hfs g (List.mem_cons_of_mem _ hg)) c' X f' (by omega) hX h2 with hinc | ⟨fs1, fs2, P, rfl, rfl, e3⟩
      · exact .inl (by rw [hinc]; rfl)
      · refine .inr ⟨fr :: fs1, fs2, P, rfl, ?_, ?_⟩
        · rw [framesBytes, frameBytes_raw, List.append_assoc]
        · rw [e3, framesBytes, List.length_append, frameBytes_raw, rawFrame_length,
            Nat.add_comm (fr.2.length + 5)]
          rfl
    · exact (scan_inside f' _ (hfl.elim .inl (.inr ∘ .inl)) _ D a' hp h1 ha).imp_right
        fun h => ⟨[], fr :: fs, D, rfl, rfl, h⟩

/-! ### the loop on a valid stream -/

theorem afterPoll_incomplete {eof : Bool} {st : St} (h : findTrailers true st.decoded = .incomplete) :
    afterPoll eof st = if eof then .stop [.err] else .again st := by
  simp only [afterPoll, h]

theorem afterPoll_done {eof : Bool} {st : St} {l : Nat} (h : findTrailers true st.decoded = .done l) :
    afterPoll eof st = if l = 0 then onExhausted eof st
      else .emit (.data (st.decoded.take l)) { st with decoded := st.decoded.drop l } := by
  simp only [afterPoll, h]

/-- what the pass that finds all of `frames ++ trailers frame` buffered does; `fsb`: the frames,
the argument: what the trailers block decodes to -/
def wholeStep (fsb : Bytes) : Option (List Pair) → Step
  | none => .stop [.err]
  | some out =>
    if fsb.length > 0 then .emit (.data fsb) { decoded := [], trailers := some out }
    else .again { decoded := [], trailers := some out }

/-- `r.map some`: `Ok(None)` only comes from a frame shorter than its header, which `rawFrame` never
is; `r = none` is `Err`. -/
theorem afterPoll_whole (eof : Bool) (blk : Bytes) (r : Option (List Pair))
    (hdec : decodeTrailersFrame true (rawFrame 128 blk) = r.map some)
    (hb : blk.length < 4294967296)
    (fs : List (Bool × Bytes)) (hfs : ∀ f ∈ fs, f.2.length < 4294967296) :
    afterPoll eof { decoded := framesBytes fs ++ rawFrame 128 blk, trailers := none } =
      wholeStep (framesBytes fs) r := by
  have hD : (St.mk (framesBytes fs ++ rawFrame 128 blk) none).decoded =
      framesBytes fs ++ (rawFrame 128 blk ++ []) := by rw [List.append_nil]
  rw [afterPoll, findTrailers, scan_whole blk hb fs hfs _ (Nat.lt_succ_self _)]
  simp only
  rw [onTrailer_frame hb hD, hdec]
  cases r <;> rfl

/-- how the loop goes on after a pass, `k` being the rest of the loop -/
def stepThen (k : St → List Out) : Step → List Out
  | .stop os => os
  | .emit o st' => o :: k st'
  | .again st' => k st'

theorem drain_succ (f : Nat) (st : St) : drain (f + 1) st = stepThen (drain f) (afterPoll true st) := by
  rw [drain]; cases afterPoll true st <;> rfl

theorem run_data (st : St) (b : Bytes) (r : List BodyEv) :
    run st (.data b :: r) =
      stepThen (fun s => run s r) (afterPoll false { st with decoded := st.decoded ++ b }) := by
  rw [run]; cases afterPoll false { st with decoded := st.decoded ++ b } <;> rfl

theorem run_filter (evs : List BodyEv) : ∀ st, run st evs = run st (evs.filter notPending) := by
  induction evs with
  | nil => intro _; rfl
  | cons e r ih =>
    intro st
    cases e with
    | pending => exact ih st
    | err => rfl
    | trailers t => exact ih _
    | data b =>
      show run st (.data b :: r) = run st (.data b :: r.filter notPending)
      rw [run_data, run_data, funext ih]

/-- the frames that end the stream, given what the trailers frame decodes to -/
def closing : Option (List Pair) → List Out
  | some out => [.trailers out, .eos]
  | none => [.err]

theorem run_after_trailers (ps : List Pair) : ∀ (chunks : List Bytes), chunks.flatten = [] →
    run { decoded := [], trailers := some ps } (chunks.map BodyEv.data) =
      [.trailers ps, .eos] := by
  intro chunks
  induction chunks with
  | nil => exact fun _ => rfl
  | cons c cs ih =>
    intro hflat
    obtain ⟨rfl, hcs⟩ := List.append_eq_nil_iff.1 hflat
    exact ih hcs

/-- `k` is the rest of the loop after the pass: `drain` after the end of the inner body, `run`
over empty chunks; `hk`: from the emptied buffer with the trailers stored it hands them out and
ends. -/
theorem next_wholeStep (fsb : Bytes) (r : Option (List Pair)) (k : St → List Out)
    (hk : ∀ out, r = some out → k ⟨[], some out⟩ = closing r) :
    ∃ datas : List Bytes,
      stepThen k (wholeStep fsb r) = datas.map Out.data ++ closing r ∧
      (r.isSome → datas.flatten = fsb) := by
  cases r with
  | none => exact ⟨[], rfl, nofun⟩
  | some out =>
    by_cases hl : fsb.length > 0
    · simp only [wholeStep, if_pos hl, stepThen, hk out rfl]
      exact ⟨[fsb], rfl, fun _ => by simp⟩
    · simp only [wholeStep, if_neg hl, stepThen, hk out rfl]
      exact ⟨[], rfl, fun _ => (List.eq_nil_of_length_eq_zero (Nat.eq_zero_of_not_pos hl)).symm⟩

/-- The induction is over the chunks, with `D`, whatever part of `frames ++ trailers frame` is
already buffered, left general; `r` is what the trailers block decodes to. -/
theorem run_stream (blk : Bytes) (r : Option (List Pair))
    (hdec : decodeTrailersFrame true (rawFrame 128 blk) = r.map some)
    (hb : blk.length < 4294967296) :
    ∀ (chunks : List Bytes) (fs : List (Bool × Bytes)) (D : Bytes),
      (∀ f ∈ fs, f.2.length < 4294967296) →
      D ++ chunks.flatten = framesBytes fs ++ rawFrame 128 blk →
      ∃ datas : List Bytes,
        run { decoded := D, trailers := none } (chunks.map BodyEv.data) =
          datas.map Out.data ++ closing r ∧
        (r.isSome → datas.flatten = framesBytes fs) := by
  intro chunks
  induction chunks with
  | nil =>
    intro fs D hfs hD
    simp only [List.flatten_nil, List.append_nil] at hD
    subst hD
    -- of the fuel, one pass takes the whole buffer; the `rfl` below runs the two that hand out the
    -- trailers and end
    obtain ⟨k, hk⟩ : ∃ k, (framesBytes fs ++ rawFrame 128 blk).length + 3 = (k + 2) + 1 :=
      ⟨(framesBytes fs ++ rawFrame 128 blk).length, by omega⟩
    simp only [List.map_nil, run, hk]
    rw [drain_succ, afterPoll_whole true blk r hdec hb fs hfs]
    refine next_wholeStep _ r _ ?_
    rintro out rfl
    rfl
  | cons c cs ih =>
    intro fs D hfs hD
    simp only [List.flatten_cons] at hD
    have hD1 : (D ++ c) ++ cs.flatten = framesBytes fs ++ rawFrame 128 blk := by
      rw [List.append_assoc]; exact hD
    rw [List.map_cons, run_data]
    by_cases hX : cs.flatten = []
    · have hDc : D ++ c = framesBytes fs ++ rawFrame 128 blk := by simpa [hX] using hD1
      rw [hDc, afterPoll_whole false blk r hdec hb fs hfs]
      refine next_wholeStep _ r _ ?_
      rintro out rfl
      exact run_after_trailers out cs hX
    · rcases scan_prefix _ hb fs hfs (D ++ c) cs.flatten _ (Nat.lt_succ_self _) hX hD1 with
        hinc | ⟨fs1, fs2, P, e1, e2, e3⟩
      · rw [afterPoll_incomplete (st := { decoded := D ++ c, trailers := none }) hinc]
        simp only [Bool.false_eq_true, if_false, stepThen]
        exact ih fs (D ++ c) hfs hD1
      · rw [afterPoll_done (st := { decoded := D ++ c, trailers := none }) e3]
        by_cases hl : (framesBytes fs1).length = 0
        · simp only [hl, if_true, onExhausted, Bool.not_false, stepThen]
          exact ih fs (D ++ c) hfs hD1
        · simp only [hl, if_false, stepThen]
          have htake : (D ++ c).take (framesBytes fs1).length = framesBytes fs1 := by
            rw [e2]; exact List.take_left' rfl
          have hdrop : (D ++ c).drop (framesBytes fs1).length = P := by
            rw [e2]; exact List.drop_left' rfl
          have hP : P ++ cs.flatten = framesBytes fs2 ++ rawFrame 128 blk := by
            have := hD1
            rw [e2, e1, framesBytes_append, List.append_assoc, List.append_assoc] at this
            exact List.append_cancel_left this
          have hfs2 : ∀ f ∈ fs2, f.2.length < 4294967296 :=
            fun f hf => hfs f (by rw [e1]; exact List.mem_append_right _ hf)
          obtain ⟨datas, hr, hf⟩ := ih fs2 P hfs2 hP
          rw [htake, hdrop, hr]
          exact ⟨framesBytes fs1 :: datas, rfl,
            fun h => by rw [List.flatten_cons, hf h, e1, framesBytes_append]⟩

/-! ### `frameStructure` decides `WellFramed` -/

theorem frameStructureAux_sound (n : Nat) (b : Bytes) (items : List (UInt8 × Bytes))
    (h : frameStructureAux n b = some items) : WellFramed b := by
  fun_induction frameStructureAux n b generalizing items with
  | case4 n fl a b c d rest len hlt hfl is hr ih =>
    rw [split_frame fl a b c d rest len (u32be_readU32 a b c d) hlt]
    exact wf_append (wf_frame fl _ hfl (by rw [take_len rest len hlt]; exact readU32_lt a b c d))
      (ih is hr)
  | case2 => exact wf_nil
  | _ => cases h

theorem frameStructureAux_frame (n : Nat) (fl : UInt8) (p tail : Bytes) (hf : flagOk fl)
    (hp : p.length < 4294967296) :
    frameStructureAux (n + 1) (rawFrame fl p ++ tail) =
      (frameStructureAux n tail).map ((fl, p) :: ·) := by
  have hlt : ¬ (p ++ tail).length < p.length := by simp
  simp only [rawFrame, u32be, List.cons_append, List.nil_append, frameStructureAux]
  rw [readU32_u32be _ hp]
  simp only [hlt, if_false, show fl = 0 ∨ fl = 1 ∨ fl = 128 from hf, if_true, List.drop_left',
    List.take_left']
  cases frameStructureAux n tail <;> rfl

theorem frameStructureAux_complete (items : List (UInt8 × Bytes)) (hi : validItems items) (k : Nat) :
    (frameStructureAux (items.length + k + 1) (encItems items)).isSome = true := by
  induction items with
  | nil => rfl
  | cons i is ih =>
    obtain ⟨fl, p⟩ := i
    have hp := hi (fl, p) (by simp)
    have e : ((fl, p) :: is).length + k + 1 = (is.length + k + 1) + 1 := by simp; omega
    rw [e, encItems_cons, frameStructureAux_frame _ _ _ _ hp.1 hp.2, Option.isSome_map]
    exact ih (fun j hj => hi j (by simp [hj]))

theorem wellFramed_iff (b : Bytes) : WellFramed b ↔ (frameStructure b).isSome = true := by
  constructor
  · rintro ⟨items, hi, rfl⟩
    have hlen : items.length ≤ (encItems items).length := by
      clear hi
      induction items with
      | nil => exact Nat.le_refl _
      | cons i is ih => rw [encItems_cons, List.length_append, rawFrame_length, List.length_cons]; omega
    obtain ⟨k, hk⟩ : ∃ k, (encItems items).length + 1 = items.length + k + 1 :=
      ⟨(encItems items).length - items.length, by omega⟩
    show (frameStructureAux ((encItems items).length + 1) (encItems items)).isSome = true
    rw [hk]
    exact frameStructureAux_complete items hi k
  · intro h
    cases hs : frameStructure b with
    | none => rw [hs] at h; cases h
    | some items => exact frameStructureAux_sound _ b items hs

instance (b : Bytes) : Decidable (WellFramed b) :=
  decidable_of_iff _ (wellFramed_iff b).symm

/-! ### unique readability: a well-framed prefix of a well-framed body ends at a frame boundary -/

theorem u32be_inj (n m : Nat) (hn : n < 4294967296) (hm : m < 4294967296) (h : u32be n = u32be m) :
    n = m := by
  have h1 := readU32_u32be n hn
  have h2 := readU32_u32be m hm
  simp only [u32be, List.cons.injEq, and_true] at h
  obtain ⟨e1, e2, e3, e4⟩ := h
  rw [e1, e2, e3, e4] at h1
  rw [← h1, h2]

theorem rawFrame_append_inj (fl fl' : UInt8) (p p' z z' : Bytes) (hp : p.length < 4294967296)
    (hp' : p'.length < 4294967296) (h : rawFrame fl' p' ++ z' = rawFrame fl p ++ z) :
    fl' = fl ∧ p' = p ∧ z' = z := by
  simp only [rawFrame, List.cons_append, List.cons.injEq, List.append_assoc] at h
  obtain ⟨hfl, h⟩ := h
  have hlen4 : (u32be p'.length).length = (u32be p.length).length := rfl
  obtain ⟨hu, h⟩ := List.append_inj h hlen4
  have hl := u32be_inj _ _ hp' hp hu
  obtain ⟨hpp, hz⟩ := List.append_inj h hl
  exact ⟨hfl, hpp, hz⟩

theorem wf_prefix_boundary : ∀ (items : List (UInt8 × Bytes)), validItems items →
    ∀ (X Y : Bytes), X ++ Y = encItems items → WellFramed X →
    ∃ j, X = encItems (items.take j) := by
  intro items
  induction items with
  | nil =>
    intro _ X Y h _
    simp only [encItems, List.flatMap_nil, List.append_eq_nil_iff] at h
    exact ⟨0, by simp [encItems, h.1]⟩
  | cons it items ih =>
    intro hi X Y h hw
    obtain ⟨its', hi', hX⟩ := hw
    cases its' with
    | nil => exact ⟨0, by simpa [encItems] using hX⟩
    | cons it' r' =>
      obtain ⟨fl, p⟩ := it
      obtain ⟨fl', p'⟩ := it'
      have hp := (hi (fl, p) (by simp)).2
      have hp' := (hi' (fl', p') (by simp)).2
      have hX' : X = rawFrame fl' p' ++ encItems r' := by simpa [encItems] using hX
      have h' : rawFrame fl' p' ++ (encItems r' ++ Y) = rawFrame fl p ++ encItems items := by
        rw [← List.append_assoc, ← hX', h]; simp [encItems]
      obtain ⟨hfl, hpp, hz⟩ := rawFrame_append_inj fl fl' p p' _ _ hp hp' h'
      have hwr : WellFramed (encItems r') := ⟨r', fun i hi'' => hi' i (by simp [hi'']), rfl⟩
      obtain ⟨j, hj⟩ := ih (fun i hi'' => hi i (by simp [hi''])) (encItems r') Y hz hwr
      refine ⟨j + 1, ?_⟩
      rw [hX', hj, hfl, hpp]
      simp [encItems]

end WebClientLemmas
