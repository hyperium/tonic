import TonicModel.Model.MetadataEntry
import TonicModel.Spec.MetadataEntry
import TonicModel.Lemmas.Metadata
/-
Lemmas for the entry-API theorem of C08.  A resolved key carries the category of its stored name;
with that, every operation is `Sound`: its events are all in the category of the name they speak
of, and it adds to the map only what one of its `wrote` events announces.
-/
namespace Metadata
open Status (Variant)
open MetaOps
open Spec.Metadata.EntryApi (evOk)

theorem resolveKey_category (b : Bool) (kf : KeyForm) (key n : Bytes)
    (h : resolveKey .fixed (encOf b) kf key = some n) : b = Spec.Metadata.isBinName n := by
  have hc : C08.ownCategory (encOf b) n = true := by
    unfold resolveKey at h
    split at h
    · obtain ⟨hn, hv⟩ := keyFromBytes_eq_some.1 h
      rwa [validKey_of_lower .fixed _ (lower_of_normName hn)] at hv
    · split at h
      · rename_i hv
        rwa [validKey_fixed_norm _ h] at hv
      · cases h
  rw [C08.ownCategory] at hc
  revert hc
  cases b <;> cases Spec.Metadata.isBinName n <;> decide

theorem keyFromBytes_category (b : Bool) (key n : Bytes)
    (h : keyFromBytes .fixed (encOf b) key = some n) : b = Spec.Metadata.isBinName n :=
  resolveKey_category b .typed key n h

theorem decodeAs_valueFromBytes {b : Bool} {raw w : Bytes} (h : valueFromBytes (encOf b) raw = some w) :
    decodeAs b w = some raw := by
  cases b <;> exact valueToBytes_valueFromBytes h

def announced (evs : List Ev) (e : Bytes × Bytes) : Prop := ∃ b raw, Ev.wrote b e.1 raw e.2 ∈ evs

/-- what the property demands of the outcome `r` of one operation on the map `m` -/
def Sound (m : HMap) (r : List Ev × HMap) : Prop :=
  (∀ ev ∈ r.1, evOk ev = true) ∧ ∀ e ∈ r.2, e ∈ m ∨ announced r.1 e

theorem ok_nil : ∀ ev ∈ ([] : List Ev), evOk ev = true := fun _ h => nomatch h

theorem ok_cons {a : Ev} {l : List Ev} (ha : evOk a = true) (hl : ∀ ev ∈ l, evOk ev = true) :
    ∀ ev ∈ a :: l, evOk ev = true :=
  List.forall_mem_cons.2 ⟨ha, hl⟩

theorem ok_one {a : Ev} (ha : evOk a = true) : ∀ ev ∈ [a], evOk ev = true := ok_cons ha ok_nil

namespace Sound
variable {m m' : HMap} {evs : List Ev}

theorem keep (h : ∀ ev ∈ evs, evOk ev = true) : Sound m (evs, m) :=
  ⟨h, fun _ he => .inl he⟩

theorem remove (k : Bytes) (h : ∀ ev ∈ evs, evOk ev = true) : Sound m (evs, HMap.remove k m) :=
  ⟨h, fun _ he => .inl (List.mem_filter.mp he).1⟩

theorem append {b : Bool} {n raw w : Bytes} (hw : evOk (.wrote b n raw w) = true)
    (h : ∀ ev ∈ evs, evOk ev = true) : Sound m (.wrote b n raw w :: evs, HMap.append n w m) := by
  refine ⟨ok_cons hw h, fun e he => ?_⟩
  rcases List.mem_append.mp he with h1 | h1
  · exact .inl h1
  · cases List.mem_singleton.mp h1
    exact .inr ⟨b, raw, List.mem_cons_self⟩

theorem insert {b : Bool} {n raw w : Bytes} (hw : evOk (.wrote b n raw w) = true)
    (h : ∀ ev ∈ evs, evOk ev = true) : Sound m (.wrote b n raw w :: evs, HMap.insert n w m) := by
  refine ⟨ok_cons hw h, fun e he => ?_⟩
  rcases (append (m := HMap.remove n m) hw h).2 e he with h1 | h1
  · exact .inl (List.mem_filter.mp h1).1
  · exact .inr h1

theorem seq {e1 e2 : List Ev} {m1 m2 : HMap} (hd : List Ev) (hh : ∀ ev ∈ hd, evOk ev = true)
    (h1 : Sound m (e1, m1)) (h2 : Sound m1 (e2, m2)) : Sound m (hd ++ e1 ++ e2, m2) := by
  refine ⟨List.forall_mem_append.2 ⟨List.forall_mem_append.2 ⟨hh, h1.1⟩, h2.1⟩, fun e he => ?_⟩
  rcases h2.2 e he with h | ⟨b, raw, h⟩
  · rcases h1.2 e h with h | ⟨b, raw, h⟩
    · exact .inl h
    · exact .inr ⟨b, raw, List.mem_append_left _ (List.mem_append_right _ h)⟩
  · exact .inr ⟨b, raw, List.mem_append_right _ h⟩

theorem after (hd : List Ev) (hh : ∀ ev ∈ hd, evOk ev = true) (h : Sound m (evs, m')) :
    Sound m (hd ++ evs, m') := by
  have := seq hd hh h (keep ok_nil)
  rwa [List.append_nil] at this

theorem cons {a : Ev} (ha : evOk a = true) (h : Sound m (evs, m')) : Sound m (a :: evs, m') :=
  after [a] (ok_one ha) h

end Sound

section
variable {b : Bool} {n : Bytes} (hb : b = Spec.Metadata.isBinName n)
include hb

theorem evOk_key (api : String) : evOk (.key api b n) = true := by
  simp [evOk, hb]

theorem evOk_val (api : String) (w : Bytes) : evOk (.val api b n w) = true := by
  simp [evOk, hb]

theorem evOk_vals (api : String) (l : List Bytes) : ∀ ev ∈ l.map (Ev.val api b n), evOk ev = true := by
  intro ev hev
  obtain ⟨w, _, rfl⟩ := List.mem_map.mp hev
  exact evOk_val hb api w

theorem evOk_wrote {raw w : Bytes} (h : valueFromBytes (encOf b) raw = some w) :
    evOk (.wrote b n raw w) = true := by
  simp [evOk, ← hb, decodeAs_valueFromBytes h]

theorem occStep_sound (u : OccUse) (m : HMap) : Sound m (occStep n b u m) := by
  have hk := evOk_key hb
  have hv := evOk_val hb
  have hvs := evOk_vals hb
  unfold occStep
  cases HMap.get n m with
  | none => exact .keep (ok_one rfl)
  | some first =>
    cases u with
    | key => exact .keep (ok_one (hk _))
    | get => exact .keep (ok_one (hv _ _))
    | getMut => exact .keep (ok_one (hv _ _))
    | insert raw =>
      -- `simp only []` here and below only reduces the `match` on the constructor just exposed
      simp only []
      cases hw : valueFromBytes (encOf b) raw with
      | none => exact .keep (ok_one rfl)
      | some w => exact .insert (evOk_wrote hb hw) (ok_one (hv _ _))
    | insertMult raw =>
      simp only []
      cases hw : valueFromBytes (encOf b) raw with
      | none => exact .keep (ok_one rfl)
      | some w =>
        simp only []
        split
        · exact .keep (ok_one rfl)
        · exact .insert (evOk_wrote hb hw) (hvs _ _)
    | append raw =>
      simp only []
      cases hw : valueFromBytes (encOf b) raw with
      | none => exact .keep (ok_one rfl)
      | some w => exact .append (evOk_wrote hb hw) ok_nil
    | iter => exact .keep (hvs _ _)
    | iterMut => exact .keep (hvs _ _)
    | intoIter => exact .keep (hvs _ _)
    | intoMut => exact .keep (ok_one (hv _ _))
    | remove => exact .remove n (ok_one (hv _ _))
    | removeEntry => exact .remove n (ok_cons (hk _) (ok_one (hv _ _)))
    | removeEntryMult => exact .remove n (ok_cons (hk _) (hvs _ _))

theorem occRun_sound (us : List OccUse) (m : HMap) : Sound m (occRun n b us m) := by
  induction us generalizing m with
  | nil => exact .keep ok_nil
  | cons u us ih =>
    unfold occRun
    split
    · exact occStep_sound hb u m
    · exact .seq [] ok_nil (occStep_sound hb u m) (ih _)

end

theorem entryOp_sound (b : Bool) (kf : KeyForm) (key : Bytes) (use : EntryUse) (m : HMap) :
    Sound m (entryOp .fixed .fixed b kf key use m) := by
  unfold entryOp
  cases hr : resolveKey .fixed (encOf b) kf key with
  | none => exact .keep (ok_one rfl)
  | some n =>
    have hb := resolveKey_category b kf key n hr
    have hk := evOk_key hb
    have hv := evOk_val hb
    have hh : ∀ t, ∀ ev ∈ [Ev.note t, .key "ekey" b n], evOk ev = true :=
      fun _ => ok_cons rfl (ok_one (hk _))
    cases use with
    | orInsert raw =>
      simp only []
      cases hw : valueFromBytes (encOf b) raw with
      | none => exact .after _ (hh _) (.keep (ok_one rfl))
      | some w =>
        cases HMap.get n m with
        | some cur => exact .after _ (hh _) (.keep (ok_one (hv _ _)))
        | none => exact .after _ (hh _) (.append (evOk_wrote hb hw) (ok_one (hv _ _)))
    | orInsertWith raw =>
      simp only []
      cases hw : valueFromBytes (encOf b) raw with
      | none => exact .after _ (hh _) (.keep (ok_one rfl))
      | some w =>
        cases HMap.get n m with
        | some cur => exact .after _ (hh _) (.keep (ok_cons rfl (ok_one (hv _ _))))
        | none => exact .after _ (hh _) (.cons rfl (.append (evOk_wrote hb hw) (ok_one (hv _ _))))
    | branch vac occ =>
      simp only []
      split
      · exact .after _ (hh _) (occRun_sound hb occ m)
      · cases vac with
        | nothing => exact .keep (hh _)
        | key => exact .after _ (hh _) (.keep (ok_one (hk _)))
        | intoKey => exact .after _ (hh _) (.keep (ok_one (hk _)))
        | insert raw =>
          simp only []
          cases hw : valueFromBytes (encOf b) raw with
          | none => exact .after _ (hh _) (.keep (ok_one rfl))
          | some w => exact .after _ (hh _) (.append (evOk_wrote hb hw) (ok_one (hv _ _)))
        | insertEntry raw =>
          simp only []
          cases hw : valueFromBytes (encOf b) raw with
          | none => exact .after _ (hh _) (.keep (ok_one rfl))
          | some w =>
            exact .seq _ (hh _) (.append (evOk_wrote hb hw) (ok_one (hk _))) (occRun_sound hb occ _)

theorem step_sound (op : Op) (m : HMap) : Sound m (step .fixed .fixed op m) := by
  cases op with
  | insert b key raw =>
    simp only [step]
    cases hk : keyFromBytes .fixed (encOf b) key with
    | none => exact .keep (ok_one rfl)
    | some n =>
      have hb := keyFromBytes_category b key n hk
      simp only []
      cases hw : valueFromBytes (encOf b) raw with
      | none => exact .keep (ok_one rfl)
      | some w =>
        refine .insert (evOk_wrote hb hw) ?_
        cases HMap.get n m with
        | none => exact ok_one rfl
        | some p => exact ok_one (evOk_val hb _ _)
  | append b key raw =>
    simp only [step]
    cases hk : keyFromBytes .fixed (encOf b) key with
    | none => exact .keep (ok_one rfl)
    | some n =>
      have hb := keyFromBytes_category b key n hk
      simp only []
      cases hw : valueFromBytes (encOf b) raw with
      | none => exact .keep (ok_one rfl)
      | some w => exact .append (evOk_wrote hb hw) (ok_one rfl)
  | remove b key =>
    simp only [step]
    cases hr : resolveKey .fixed (encOf b) .str key with
    | none => exact .keep (ok_one rfl)
    | some n =>
      have hb := resolveKey_category b .str key n hr
      simp only []
      cases HMap.get n m with
      | none => exact .keep (ok_one rfl)
      | some w => exact .remove n (ok_one (evOk_val hb _ _))
  | getAll b kf key =>
    simp only [step]
    cases hr : resolveKey .fixed (encOf b) kf key with
    | none => exact .keep (ok_one rfl)
    | some n =>
      have hvs := evOk_vals (resolveKey_category b kf key n hr)
      exact .cons rfl (.keep (List.forall_mem_append.2 ⟨List.forall_mem_append.2 ⟨hvs _ _, hvs _ _⟩, hvs _ _⟩))
  | entry b kf key use => exact entryOp_sound b kf key use m

theorem finalMap_cons (s : List Ev × HMap) (ss : List (List Ev × HMap)) (m0 : HMap) :
    finalMap (s :: ss) m0 = finalMap ss s.2 := by
  cases ss with
  | nil => rfl
  | cons s' ss =>
    simp only [finalMap, List.getLast?_cons_cons]
    cases hl : (s' :: ss).getLast? with
    | none => simp at hl
    | some x => rfl

theorem run_sound (ops : List Op) (m0 : HMap) :
    (∀ s ∈ run .fixed .fixed ops m0, ∀ ev ∈ s.1, evOk ev = true) ∧
    ∀ e ∈ finalMap (run .fixed .fixed ops m0) m0, e ∈ m0 ∨ ∃ s ∈ run .fixed .fixed ops m0, announced s.1 e := by
  induction ops generalizing m0 with
  | nil => exact ⟨fun _ h => absurd h List.not_mem_nil, fun e he => .inl he⟩
  | cons op ops ih =>
    obtain ⟨ih1, ih2⟩ := ih (step .fixed .fixed op m0).2
    obtain ⟨h1, h2⟩ := step_sound op m0
    rw [run, finalMap_cons]
    refine ⟨List.forall_mem_cons.2 ⟨h1, ih1⟩, fun e he => ?_⟩
    rcases ih2 e he with h | ⟨s, hs, h⟩
    · rcases h2 e h with h | h
      · exact .inl h
      · exact .inr ⟨_, List.mem_cons_self, h⟩
    · exact .inr ⟨s, List.mem_cons_of_mem _ hs, h⟩

end Metadata
