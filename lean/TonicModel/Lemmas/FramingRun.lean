import TonicModel.Lemmas.FramingDec
/-
Run-level consequences for the decoder model: prefix-correctness for arbitrary event lists,
finality of the first error, and complete drains of clean bodies.
-/
namespace Framing
open Spec.Framing
variable {α : Type}

def Item.isPending : Item α → Bool
  | .pending => true
  | _ => false

/-- outputs with the `Pending`s dropped -/
def nonPending (l : List (Item α)) : List (Item α) := l.filter (fun o => !o.isPending)

/-- the messages among the outputs, in order -/
def msgsOf : List (Item α) → List α
  | [] => []
  | .msg m :: r => m :: msgsOf r
  | _ :: r => msgsOf r

theorem pollNext_failed (cd : Codec α) (cfg : DecCfg) (s : DecSt) (st : Option St) (evs : List BodyEv)
    (h : s.ph = .failed st) :
    Dec.pollNext cd cfg s evs =
      ({ s with ph := .failed none }, evs, match st with | some e => .err e | none => .none) := by
  cases evs <;> cases st <;> simp [Dec.pollNext, Dec.pre, h]

theorem run_failed (cd : Codec α) (cfg : DecCfg) (n : Nat) : ∀ (s : DecSt) (evs : List BodyEv),
    s.ph = .failed none → Dec.run cd cfg n s evs = List.replicate n .none := by
  induction n with
  | zero => intros; rfl
  | succ n ih =>
    intro s evs h
    simp only [Dec.run, pollNext_failed cd cfg s none evs h, List.replicate_succ]
    rw [ih _ evs rfl]

/-- Reachable-state invariant: a `body` phase remembers identity or the negotiated encoding. -/
def StateOk (cfg : DecCfg) (s : DecSt) : Prop :=
  ∀ len comp, s.ph = .body len comp → comp = none ∨ comp = cfg.enc

theorem stateOk_of_phaseOk {cfg : DecCfg} {s : DecSt} (h : PhaseOk cfg s) : StateOk cfg s := by
  intro len comp hph; simpa [PhaseOk, hph] using h

theorem stateOk_init (cfg : DecCfg) : StateOk cfg Dec.init := stateOk_of_phaseOk (phaseOk_init cfg)

theorem stateOk_cases {cfg : DecCfg} {s : DecSt} (h : StateOk cfg s) : PhaseOk cfg s ∨ ∃ st, s.ph = .failed st := by
  cases hph : s.ph with
  | hdr => left; simp [PhaseOk, hph]
  | failed st => exact Or.inr ⟨st, rfl⟩
  | body len comp => left; simpa [PhaseOk, hph] using h len comp hph

theorem pollNext_stateOk (cd : Codec α) (cfg : DecCfg) (s : DecSt) (evs : List BodyEv) (h : StateOk cfg s) :
    StateOk cfg (Dec.pollNext cd cfg s evs).1 ∧
    ∀ e, (Dec.pollNext cd cfg s evs).2.2 = .err e → (Dec.pollNext cd cfg s evs).1.ph = .failed none := by
  rcases stateOk_cases h with hp | ⟨st, hf⟩
  · have hg := pollNext_good cd cfg evs s hp
    generalize Dec.pollNext cd cfg s evs = r at hg
    obtain ⟨s', evs', o⟩ := r
    cases o with
    | msg m => exact ⟨stateOk_of_phaseOk hg.2.1, fun _ e => nomatch e⟩
    | pending => exact ⟨stateOk_of_phaseOk hg.2.1, fun _ e => nomatch e⟩
    | none => exact ⟨stateOk_of_phaseOk hg.2.1, fun _ e => nomatch e⟩
    | err st => exact ⟨fun len comp hb => (by rw [hg.2] at hb; cases hb), fun _ _ => hg.2⟩
  · rw [pollNext_failed cd cfg s st evs hf]
    exact ⟨fun _ _ hb => (nomatch hb), fun _ _ => rfl⟩

theorem run_first_error_final (cd : Codec α) (cfg : DecCfg) (n : Nat) :
    ∀ (s : DecSt) (evs : List BodyEv) (pre post : List (Item α)) (e : St), StateOk cfg s →
      Dec.run cd cfg n s evs = pre ++ .err e :: post → ∀ o ∈ post, o = .none := by
  intro s evs
  fun_induction Dec.run cd cfg n s evs with
  | case1 => intro pre post e _ h; simp at h
  | case2 n s evs s' evs' o hp ih =>
    intro pre post e hs h
    obtain ⟨hstep, hl⟩ := pollNext_stateOk cd cfg s evs hs
    rw [hp] at hstep hl
    cases pre with
    | nil =>
      simp only [List.nil_append, List.cons.injEq] at h
      obtain ⟨ho, hrest⟩ := h
      have := hl e (by simpa using ho)
      rw [run_failed cd cfg n s' evs' this] at hrest
      intro o' ho'
      rw [← hrest] at ho'
      exact (List.mem_replicate.mp ho').2
    | cons p pre' =>
      simp only [List.cons_append, List.cons.injEq] at h
      exact ih pre' post e hstep h.2

theorem msgsOf_replicate_none (n : Nat) : msgsOf (List.replicate n (Item.none : Item α)) = [] := by
  induction n with
  | zero => rfl
  | succ n ih => simp [List.replicate_succ, msgsOf, ih]

theorem run_msgs_prefix (cd : Codec α) (cfg : DecCfg) (n : Nat) : ∀ (s : DecSt) (evs : List BodyEv),
    PhaseOk cfg s →
    msgsOf (Dec.run cd cfg n s evs) <+: (specFrom cd cfg s (accepted cfg evs)).1 := by
  intro s evs
  fun_induction Dec.run cd cfg n s evs with
  | case1 => intro _; exact List.nil_prefix
  | case2 n s evs s' evs' o hp ih =>
    intro h
    have hg := pollNext_good cd cfg evs s h
    rw [hp] at hg
    obtain ⟨_, hcase⟩ := hg
    cases o with
    | msg m =>
      simp only [msgsOf]
      rw [hcase.2]
      simp only [consRes]
      exact List.prefix_cons_inj m |>.mpr (ih hcase.1)
    | pending =>
      simp only [msgsOf]; rw [hcase.2.2]; exact ih hcase.1
    | none =>
      simp only [msgsOf]; rw [hcase.2]; exact ih hcase.1
    | err st =>
      simp only [msgsOf]
      rw [run_failed cd cfg n s' evs' hcase, msgsOf_replicate_none]
      exact List.nil_prefix

/-- the results after the messages: the error then `None`s, or `None`s only -/
def plainEnd (t : Option St) (k : Nat) : List (Item α) :=
  match t with
  | some e => .err e :: List.replicate k .none
  | none => List.replicate (k + 1) .none

theorem run_at_end (cd : Codec α) (cfg : DecCfg) (stop : Stop) (hb : Bytes) (n : Nat) : ∀ (s : DecSt),
    PhaseOk cfg s → specFrom cd cfg s [] = ([], stop) → heldFrom cd cfg s [] = hb →
    plainTail cd cfg s.trailers stop hb = none → Dec.run cd cfg n s [] = List.replicate n .none := by
  induction n with
  | zero => intros; rfl
  | succ n ih =>
    intro s hp hx hh ht
    have hg := pollNext_good cd cfg [] s hp
    have he := pollNext_exact cd cfg [] stop hb [] s hp rfl (fun _ _ => rfl) hx hh
    simp only [Dec.run]
    generalize Dec.pollNext cd cfg s [] = r at hg he
    obtain ⟨s', evs', o⟩ := r
    obtain ⟨_, _, he⟩ := he
    cases o with
    | msg m => obtain ⟨_, _, ms', h, _⟩ := he; cases h
    | pending => exact absurd hg.2.2.1 (Nat.not_lt_zero _)
    | err st => rw [show plainTail cd cfg s.trailers stop hb = some st from he.2] at ht; cases ht
    | none =>
      obtain ⟨_, _, rfl, htr, hx', hh'⟩ := he
      rw [List.replicate_succ, ih s' hg.2.1 hx' hh' (htr ▸ ht)]

/-- The third hypothesis is `hw` of `pollNext_exact`. -/
theorem run_exact (cd : Codec α) (cfg : DecCfg) (n : Nat) :
    ∀ (s : DecSt) (evs : List BodyEv) (ms : List α) (stop : Stop) (hb : Bytes),
    PhaseOk cfg s → CleanEvs evs = true → (stop = .incomplete → hb ≠ [] → PlainEvs evs = true) →
    specFrom cd cfg s (accepted cfg evs) = (ms, stop) → heldFrom cd cfg s (accepted cfg evs) = hb →
    evs.length + ms.length < n →
    ∃ k, nonPending (Dec.run cd cfg n s evs)
      = ms.map .msg ++ plainEnd (plainTail cd cfg (endTr s.trailers evs) stop hb) k := by
  intro s evs
  fun_induction Dec.run cd cfg n s evs with
  | case1 => intro ms stop hb _ _ _ _ _ h; omega
  | case2 n s evs s' evs' o hq ih =>
    intro ms stop hb hp hc hw hx hh hn
    have hg := pollNext_good cd cfg evs s hp
    have he := pollNext_exact cd cfg ms stop hb evs s hp hc hw hx hh
    rw [hq] at hg he
    obtain ⟨hl, hg⟩ := hg
    obtain ⟨hc', hpl, he⟩ := he
    dsimp only at hl
    cases o with
    | msg m =>
      obtain ⟨htr, hh', ms', rfl, hx'⟩ := he
      obtain ⟨k, hk⟩ := ih ms' stop hb hg.1 hc' (fun a b => hpl (hw a b)) hx' hh'
        (by simp only [List.length_cons] at hn; omega)
      exact ⟨k, by rw [← htr]; simpa [nonPending, Item.isPending] using hk⟩
    | pending =>
      obtain ⟨htr, hh', hx'⟩ := he
      obtain ⟨k, hk⟩ := ih ms stop hb hg.1 hc' (fun a b => hpl (hw a b)) hx' hh'
        (by have hlt := hg.2.1; dsimp only at hlt; omega)
      exact ⟨k, by rw [← htr]; simpa [nonPending, Item.isPending] using hk⟩
    | err st =>
      obtain ⟨rfl, ht⟩ := he
      refine ⟨n, ?_⟩
      rw [ht, run_failed cd cfg n s' evs' hg]
      simp [plainEnd, nonPending, Item.isPending]
    | none =>
      obtain ⟨rfl, ht, rfl, htr, hx', hh'⟩ := he
      refine ⟨n, ?_⟩
      rw [ht, run_at_end cd cfg stop hb n s' hg.1 hx' hh' (htr ▸ ht)]
      simp [plainEnd, nonPending, Item.isPending, List.replicate_succ]

theorem run_clean (cd : Codec α) (cfg : DecCfg) (n : Nat) : ∀ (s : DecSt) (evs : List BodyEv) (ms : List α),
    PhaseOk cfg s → CleanEvs evs = true → EndOk cfg s evs →
    specFrom cd cfg s (accepted cfg evs) = (ms, .clean) → evs.length + ms.length < n →
    ∃ k, 1 ≤ k ∧ nonPending (Dec.run cd cfg n s evs) = ms.map .msg ++ List.replicate k .none := by
  intro s evs ms hp hc he hx hn
  obtain ⟨k, hk⟩ := run_exact cd cfg n s evs ms .clean _ hp hc (fun h => nomatch h) hx rfl hn
  rw [show plainTail cd cfg (endTr s.trailers evs) .clean _ = none from he] at hk
  exact ⟨k + 1, Nat.le_add_left 1 k, hk⟩

theorem run_plain (cd : Codec α) (cfg : DecCfg) (hk : cfg.skipsBody = false) (n : Nat) :
    ∀ (s : DecSt) (evs : List BodyEv) (ms : List α) (stop : Stop) (hb : Bytes),
    PhaseOk cfg s → PlainEvs evs = true →
    specFrom cd cfg s (dataOf evs) = (ms, stop) → heldFrom cd cfg s (dataOf evs) = hb →
    evs.length + ms.length < n →
    ∃ k, nonPending (Dec.run cd cfg n s evs) = ms.map .msg ++ plainEnd (plainTail cd cfg s.trailers stop hb) k := by
  intro s evs ms stop hb hp hc hx hh hn
  rw [← accepted_keep hk] at hx hh
  have := run_exact cd cfg n s evs ms stop hb hp (clean_of_plain evs hc) (fun _ _ => hc) hx hh hn
  rwa [endTr_plain _ evs hc] at this

def Item.isTerminal : Item α → Bool
  | .none => true
  | .err _ => true
  | _ => false

theorem run_reaches_end (cd : Codec α) (cfg : DecCfg) (n : Nat) : ∀ (s : DecSt) (evs : List BodyEv),
    PhaseOk cfg s → evs.length + (specFrom cd cfg s (accepted cfg evs)).1.length < n →
    ∃ o ∈ Dec.run cd cfg n s evs, o.isTerminal = true := by
  intro s evs
  fun_induction Dec.run cd cfg n s evs with
  | case1 => intro _ h; omega
  | case2 n s evs s' evs' o hq ih =>
    intro hp hn
    have hg := pollNext_good cd cfg evs s hp
    rw [hq] at hg
    obtain ⟨hl, hcase⟩ := hg
    dsimp only at hl hcase
    cases o with
    | msg m =>
      rw [hcase.2] at hn
      simp only [consRes, List.length_cons] at hn
      obtain ⟨o, ho, ht⟩ := ih hcase.1 (by omega)
      exact ⟨o, List.mem_cons_of_mem _ ho, ht⟩
    | pending =>
      rw [hcase.2.2] at hn
      obtain ⟨o, ho, ht⟩ := ih hcase.1 (by have := hcase.2.1; omega)
      exact ⟨o, List.mem_cons_of_mem _ ho, ht⟩
    | none => exact ⟨.none, by simp, rfl⟩
    | err st => exact ⟨.err st, by simp, rfl⟩

end Framing
