import TonicModel.Lemmas.CompressionConfig
/-
The vocabulary of the two negotiation headers: the three encoding names and `identity`; the
oracle's comma-separated list syntax (`elements`, `strip`, `tokens`) with the declarative `Offers`;
the model's tokenisation (`split(',')` + `trim` after `to_str`) agrees with it; and the accept list
`into_accept_encoding_header_value` renders.
-/
namespace Compression
open CompObs Spec.Compression

theorem asStr_eq_name (e : Enc) : asStr e = name e := by cases e <;> rfl

theorem nameOf_name (e : Enc) : nameOf? (name e) = some e := by cases e <;> decide

theorem nameOf_identity : nameOf? identity = none := by decide

theorem nameOf_eq_some {t : Bytes} {e : Enc} (h : nameOf? t = some e) : t = name e :=
  eq_of_beq (List.find?_some (p := fun e => t == name e) h)

theorem nameOf_eq_none {t : Bytes} (h : nameOf? t = none) (e : Enc) : t ≠ name e := by
  intro he
  rw [he, nameOf_name] at h
  cases h

theorem name_inj {e e' : Enc} (h : name e = name e') : e = e' :=
  Option.some.inj (by rw [← nameOf_name e, h, nameOf_name])

theorem name_ne_identity (e : Enc) : name e ≠ identity := by
  intro h
  have := nameOf_name e
  rw [h, nameOf_identity] at this
  cases this

theorem value_cases (v : Bytes) :
    v = identity ∨ (∃ e, v = name e) ∨ (v ≠ identity ∧ nameOf? v = none) := by
  by_cases hi : v = identity
  · exact Or.inl hi
  · cases hn : nameOf? v with
    | some e => exact Or.inr (Or.inl ⟨e, nameOf_eq_some hn⟩)
    | none => exact Or.inr (Or.inr ⟨hi, rfl⟩)

theorem elements_cons (b : UInt8) (v : Bytes) :
    elements (b :: v) =
      if b == comma then [] :: elements v
      else match elements v with
        | t :: ts => (b :: t) :: ts
        | [] => [[b]] := rfl

theorem elements_eq_cons (v : Bytes) : ∃ t ts, elements v = t :: ts := by
  cases v with
  | nil => exact ⟨[], [], rfl⟩
  | cons b v =>
    rw [elements_cons]
    split
    · exact ⟨_, _, rfl⟩
    · split <;> exact ⟨_, _, rfl⟩

theorem elements_append_comma (a rest : Bytes) :
    elements (a ++ comma :: rest) = elements a ++ elements rest := by
  induction a with
  | nil => rfl
  | cons b a ih =>
    obtain ⟨t, ts, h⟩ := elements_eq_cons a
    rw [List.cons_append, elements_cons, elements_cons, ih, h]
    split <;> rfl

theorem elements_no_comma (a : Bytes) (h : comma ∉ a) : elements a = [a] := by
  induction a with
  | nil => rfl
  | cons b a ih =>
    have hb : (b == comma) = false := beq_false_of_ne fun hc => h (hc ▸ List.mem_cons_self)
    rw [elements_cons, hb, ih fun hm => h (List.mem_cons_of_mem _ hm)]
    rfl

/-- Dividing the value at any of its commas divides its elements, so each element is delimited
by commas or the ends of the value. -/
theorem elements_decomp (v t : Bytes) (h : t ∈ elements v) :
    ∃ pre post, v = pre ++ t ++ post ∧ (pre = [] ∨ pre.getLast? = some comma) ∧
      (post = [] ∨ post.head? = some comma) := by
  induction hn : v.length using Nat.strongRecOn generalizing v t with
  | ind n ih =>
    subst hn
    by_cases hc : comma ∈ v
    · obtain ⟨a, rest, rfl⟩ := List.append_of_mem hc
      rw [elements_append_comma] at h
      rcases List.mem_append.mp h with h | h
      · obtain ⟨pre, post, rfl, hpre, hpost⟩ := ih _ (by simp) a t h rfl
        refine ⟨pre, post ++ comma :: rest, by simp only [List.append_assoc], hpre, Or.inr ?_⟩
        rcases hpost with rfl | hp
        · rfl
        · rw [List.head?_append, hp]; rfl
      · obtain ⟨pre, post, rfl, hpre, hpost⟩ := ih _ (by simp; omega) rest t h rfl
        refine ⟨a ++ comma :: pre, post, by simp, Or.inr ?_, hpost⟩
        rcases hpre with rfl | hp
        · exact List.getLast?_concat ..
        · rw [List.getLast?_append, List.getLast?_cons, hp]; rfl
    · rw [elements_no_comma v hc] at h
      obtain rfl := List.mem_singleton.mp h
      exact ⟨[], [], (List.append_nil _).symm, Or.inl rfl, Or.inl rfl⟩

theorem elements_mem (pre t post : Bytes) (ht : comma ∉ t)
    (hpre : pre = [] ∨ pre.getLast? = some comma) (hpost : post = [] ∨ post.head? = some comma) :
    t ∈ elements (pre ++ t ++ post) := by
  have h1 : t ∈ elements (t ++ post) := by
    cases post with
    | nil => rw [List.append_nil, elements_no_comma t ht]; exact List.mem_singleton_self t
    | cons c q =>
      obtain rfl : c = comma := by simpa using hpost
      rw [elements_append_comma, elements_no_comma t ht]
      exact List.mem_cons_self
  rcases hpre with rfl | hp
  · exact h1
  · obtain ⟨p, rfl⟩ := List.getLast?_eq_some_iff.mp hp
    rw [List.append_assoc, List.append_assoc, List.singleton_append, elements_append_comma]
    exact List.mem_append_right _ h1

theorem strip_decomp (t : Bytes) :
    ∃ l r, t = l ++ strip t ++ r ∧ l.all isOWS = true ∧ r.all isOWS = true := by
  refine ⟨t.takeWhile isOWS, (((t.dropWhile isOWS).reverse).takeWhile isOWS).reverse, ?_, ?_, ?_⟩
  · unfold strip
    rw [List.append_assoc, ← List.reverse_append, List.takeWhile_append_dropWhile,
      List.reverse_reverse, List.takeWhile_append_dropWhile]
  · exact List.all_takeWhile
  · rw [List.all_reverse]
    exact List.all_takeWhile

/-- Padding with optional whitespace is stripped again from a token that neither begins nor ends
with it. -/
theorem strip_pad (l n r : Bytes) (hl : l.all isOWS = true) (hr : r.all isOWS = true)
    (h1 : ∀ x : Bytes, (n ++ x).dropWhile isOWS = n ++ x)
    (h2 : ∀ x : Bytes, (n.reverse ++ x).dropWhile isOWS = n.reverse ++ x) :
    strip (l ++ n ++ r) = n := by
  unfold strip
  rw [List.append_assoc, List.dropWhile_append_of_pos (List.all_eq_true.mp hl), h1, List.reverse_append,
    List.dropWhile_append_of_pos (fun b hb => List.all_eq_true.mp hr b (List.mem_reverse.mp hb)),
    ← List.append_nil n.reverse, h2, List.append_nil, List.reverse_reverse]

theorem name_no_comma (e : Enc) : comma ∉ name e := by cases e <;> decide

theorem name_head (e : Enc) (x : Bytes) : (name e ++ x).dropWhile isOWS = name e ++ x := by
  cases e <;> rfl

theorem name_last (e : Enc) (x : Bytes) :
    ((name e).reverse ++ x).dropWhile isOWS = (name e).reverse ++ x := by
  cases e <;> rfl

theorem strip_name (e : Enc) : strip (name e) = name e := by
  simpa using strip_pad [] (name e) [] rfl rfl (name_head e) (name_last e)

theorem ows_ne_comma (l : Bytes) (h : l.all isOWS = true) : comma ∉ l :=
  fun hm => absurd (List.all_eq_true.mp h _ hm) (by decide)

theorem offersB_iff (v : Bytes) (e : Enc) : offersB v e = true ↔ Offers v e := by
  rw [offersB, List.contains_iff_mem, tokens, List.mem_map]
  constructor
  · rintro ⟨t, ht, hst⟩
    obtain ⟨pre, post, hv, hpre, hpost⟩ := elements_decomp v t ht
    obtain ⟨l, r, htl, hl, hr⟩ := strip_decomp t
    rw [hst] at htl
    exact ⟨pre, l, r, post, by rw [hv, htl], hl, hr, hpre, hpost⟩
  · rintro ⟨pre, l, r, post, rfl, hl, hr, hpre, hpost⟩
    refine ⟨l ++ name e ++ r, elements_mem _ _ _ ?_ hpre hpost,
      strip_pad _ _ _ hl hr (name_head e) (name_last e)⟩
    simp only [List.mem_append, not_or]
    exact ⟨⟨ows_ne_comma l hl, name_no_comma e⟩, ows_ne_comma r hr⟩

theorem splitComma_eq_elements (v : Bytes) : splitComma v = elements v := by
  induction v with
  | nil => rfl
  | cons b v ih =>
    rw [splitComma, elements_cons, ih]
    by_cases hb : b = comma
    · rw [if_pos (c := b = 44) hb, if_pos (beq_iff_eq.mpr hb)]
    · obtain ⟨t, ts, h⟩ := elements_eq_cons v
      rw [if_neg (c := b = 44) hb, if_neg (mt beq_iff_eq.mp hb), h]

/-- On the bytes `to_str` lets through, `char::is_whitespace` and the list syntax's optional
whitespace are the same two bytes. -/
theorem ws_eq_ows (b : UInt8) (h : Ascii.isVisible b = true) : isWs b = isOWS b := by
  have h32 : b = 32 ↔ b.toNat = 32 := UInt8.toNat_inj.symm
  have h9 : b = 9 ↔ b.toNat = 9 := UInt8.toNat_inj.symm
  simp only [Ascii.isVisible, Bool.or_eq_true, Bool.and_eq_true, decide_eq_true_eq, beq_iff_eq] at h
  rw [isWs, isOWS, show ch ' ' = 32 from rfl, Bool.eq_iff_iff]
  simp only [Bool.or_eq_true, Bool.and_eq_true, decide_eq_true_eq, beq_iff_eq, h32, h9]
  omega

theorem dropWhile_congr {p q : UInt8 → Bool} : ∀ (t : Bytes), (∀ b ∈ t, p b = q b) →
    t.dropWhile p = t.dropWhile q
  | [], _ => rfl
  | b :: t, h => by
    rw [List.dropWhile_cons, List.dropWhile_cons, h b List.mem_cons_self,
      dropWhile_congr t fun x hx => h x (List.mem_cons_of_mem _ hx)]

theorem trim_eq_strip (t : Bytes) (h : ∀ b ∈ t, Ascii.isVisible b = true) : trim t = strip t := by
  unfold trim strip
  rw [dropWhile_congr t fun b hb => ws_eq_ows b (h b hb)]
  congr 1
  exact dropWhile_congr _ fun b hb =>
    ws_eq_ows b (h b ((List.dropWhile_sublist _).subset (List.mem_reverse.mp hb)))

theorem tokens_eq (v : Bytes) (h : toStrOk v = true) : (splitComma v).map trim = tokens v := by
  rw [splitComma_eq_elements, tokens]
  refine List.map_congr_left fun t ht => trim_eq_strip t fun b hb => ?_
  obtain ⟨pre, post, rfl, _⟩ := elements_decomp v t ht
  exact List.all_eq_true.mp h b (by simp [hb])

theorem acceptValueBody_nil (s : Slots) : acceptValueBody s = [] ↔ enabledList s = [] := by
  induction s with
  | nil => exact ⟨fun _ => rfl, fun _ => rfl⟩
  | cons a s ih =>
    cases a with
    | none => exact ih
    | some e => exact ⟨fun h => (by cases e <;> cases h), fun h => (by cases h)⟩

theorem acceptHeaderValue_eq (s : Slots) :
    acceptHeaderValue s =
      if enabledList s = [] then none else some (acceptValueBody s ++ identityName) := by
  rw [acceptHeaderValue]
  by_cases hb : acceptValueBody s = []
  · rw [if_pos ((acceptValueBody_nil s).mp hb), hb]
    rfl
  · rw [if_neg (mt (acceptValueBody_nil s).mpr hb)]
    exact if_neg (mt List.isEmpty_iff.mp hb)

theorem acceptValue_tokens (s : Slots) :
    tokens (acceptValueBody s ++ identityName) = (enabledList s).map name ++ [identity] := by
  unfold tokens
  induction s with
  | nil => rfl
  | cons a s ih =>
    cases a with
    | none => exact ih
    | some e =>
      rw [acceptValueBody, List.append_assoc, List.append_assoc, List.singleton_append, asStr_eq_name,
        ← show comma = 44 from rfl, elements_append_comma, elements_no_comma _ (name_no_comma e),
        List.map_append, ih]
      rw [enabledList, enabledList, List.filterMap_cons_some (f := id) (a := some e) rfl, List.map_cons,
        List.map_cons, List.map_nil, strip_name]
      rfl

end Compression
