import TonicModel.Basic.Utf8
import TonicModel.Basic.Utf8Rust
/-
The two models of Rust's `str::from_utf8` in this tree accept the same byte strings:
`Utf8.valid` (a byte-at-a-time state machine after `run_utf8_validation`, with the error
positions; used by C04's header model) and `Utf8Rust.valid` (Unicode table 3-7 written out as
nested matches; used by the prost wire model, the C20 domain predicates and `Spec/RichError`).
-/
namespace Utf8Agree
open Utf8

theorem isNone_inChar (bs : Bytes) (i s seen k lo hi : Nat) :
    (scan bs i (.inChar s seen k lo hi)).isNone =
      match bs with
      | [] => false
      | b :: rest => decide (lo ≤ b.toNat ∧ b.toNat ≤ hi) &&
          (if k ≤ 1 then (scan rest (i + 1) .idle).isNone
           else (scan rest (i + 1) (.inChar s (seen + 1) (k - 1) 128 191)).isNone) := by
  cases bs with
  | nil => rfl
  | cons b rest =>
    simp only [scan]
    by_cases h : lo ≤ b.toNat ∧ b.toNat ≤ hi
    · rw [if_pos h, decide_eq_true h, Bool.true_and]
      split <;> rfl
    · rw [if_neg h, decide_eq_false h, Bool.false_and]; rfl

theorem isNone_inChar_one (rest : Bytes) (i s seen lo hi : Nat) :
    (scan rest i (.inChar s seen 1 lo hi)).isNone =
      match rest with
      | [] => false
      | b :: r => decide (lo ≤ b.toNat ∧ b.toNat ≤ hi) && (scan r (i + 1) .idle).isNone := by
  rw [isNone_inChar]; cases rest <;> simp

theorem isNone_inChar_two (rest : Bytes) (i s seen lo hi : Nat) :
    (scan rest i (.inChar s seen 2 lo hi)).isNone =
      match rest with
      | b :: c :: r => decide (lo ≤ b.toNat ∧ b.toNat ≤ hi) && (decide (128 ≤ c.toNat ∧ c.toNat ≤ 191) &&
          (scan r (i + 1 + 1) .idle).isNone)
      | _ => false := by
  rw [isNone_inChar]
  match rest with
  | [] => rfl
  | [b] => simp [isNone_inChar_one]
  | b :: c :: r => simp [isNone_inChar_one]

theorem isNone_inChar_three (rest : Bytes) (i s seen lo hi : Nat) :
    (scan rest i (.inChar s seen 3 lo hi)).isNone =
      match rest with
      | b :: c :: d :: r => decide (lo ≤ b.toNat ∧ b.toNat ≤ hi) && (decide (128 ≤ c.toNat ∧ c.toNat ≤ 191) &&
          (decide (128 ≤ d.toNat ∧ d.toNat ≤ 191) && (scan r (i + 1 + 1 + 1) .idle).isNone))
      | _ => false := by
  rw [isNone_inChar]
  match rest with
  | [] => rfl
  | [b] => simp [isNone_inChar_two]
  | [b, c] => simp [isNone_inChar_two]
  | b :: c :: d :: r => simp [isNone_inChar_two]

theorem inRange_iff (lo hi : Nat) (b : UInt8) :
    Utf8Rust.inRange lo hi b = decide (lo ≤ b.toNat ∧ b.toNat ≤ hi) := by
  simp [Utf8Rust.inRange, Bool.decide_and]

/-- By induction on a bound `n` for the length, not on the list: one step of `Utf8Rust.valid` consumes
one to four bytes.  The position `i` only feeds the error value, so it is arbitrary in the statement.
The case split follows the lead byte as `scan` classes it (ASCII, C2..DF, E0..EF, F0..F4, other) and,
inside a class, as table 3-7 does (E0, ED, F0, F4 narrow the second byte). -/
theorem agree : ∀ (n : Nat) (bs : Bytes), bs.length ≤ n → ∀ i, (scan bs i .idle).isNone = Utf8Rust.valid bs := by
  intro n
  induction n with
  | zero =>
    intro bs h i
    have : bs = [] := List.eq_nil_of_length_eq_zero (by omega)
    subst this; rfl
  | succ n ih =>
    intro bs h i
    match bs, h with
    | [], _ => rfl
    | a :: rest, h =>
      have hl : rest.length ≤ n := by simp at h; omega
      by_cases h1 : a.toNat < 128
      · rw [Utf8Rust.valid.eq_def]
        simp only [scan, h1, if_true]
        exact ih rest hl _
      · by_cases h2 : 194 ≤ a.toNat ∧ a.toNat ≤ 223
        · simp only [scan, h1, if_false, h2, and_self, if_true]
          rw [isNone_inChar_one]
          match rest, hl with
          | [], _ => (rw [Utf8Rust.valid.eq_def]; simp [h1])
          | b :: r, hl =>
            have hr : r.length ≤ n := by simp at hl; omega
            rw [Utf8Rust.valid.eq_def]
            simp only [h1, if_false, inRange_iff, Utf8Rust.cont, h2, and_self, decide_true, if_true]
            rw [ih r hr]
        · by_cases h3 : 224 ≤ a.toNat ∧ a.toNat ≤ 239
          · simp only [scan, h1, if_false, h2, h3, and_self, if_true]
            rw [isNone_inChar_two]
            match rest, hl with
            | [], _ => rw [Utf8Rust.valid.eq_def]; simp [h1]
            | [b], _ => rw [Utf8Rust.valid.eq_def]; simp [h1, inRange_iff, h2]
            | b :: c :: r, hl =>
              have hr : r.length ≤ n := by simp at hl; omega
              rw [Utf8Rust.valid.eq_def]
              simp only [h1, if_false, inRange_iff, Utf8Rust.cont, h2, decide_false, Bool.false_eq_true]
              rw [ih r hr]
              by_cases e0 : a.toNat = 224
              · simp [e0, Bool.and_assoc]
              · by_cases ed : a.toNat = 237
                · simp [ed, Bool.and_assoc]
                · have hm : (225 ≤ a.toNat ∧ a.toNat ≤ 236) ∨ (238 ≤ a.toNat ∧ a.toNat ≤ 239) := by omega
                  simp [e0, ed, hm, Bool.and_assoc]
          · by_cases h4 : 240 ≤ a.toNat ∧ a.toNat ≤ 244
            · simp only [scan, h1, if_false, h2, h3, h4, and_self, if_true]
              rw [isNone_inChar_three]
              have hE : ¬ ((225 ≤ a.toNat ∧ a.toNat ≤ 236) ∨ (238 ≤ a.toNat ∧ a.toNat ≤ 239)) := by omega
              have hE0 : ¬ a.toNat = 224 := by omega
              have hED : ¬ a.toNat = 237 := by omega
              match rest, hl with
              | [], _ => rw [Utf8Rust.valid.eq_def]; simp [h1]
              | [b], _ => rw [Utf8Rust.valid.eq_def]; simp [h1, inRange_iff, h2]
              | [b, c], _ => rw [Utf8Rust.valid.eq_def]; simp [h1, inRange_iff, h2, hE, hE0, hED]
              | b :: c :: d :: r, hl =>
                have hr : r.length ≤ n := by simp at hl; omega
                rw [Utf8Rust.valid.eq_def]
                simp only [h1, if_false, inRange_iff, Utf8Rust.cont, h2, decide_false, Bool.false_eq_true,
                  hE0, hED]
                rw [ih r hr]
                by_cases f0 : a.toNat = 240
                · simp [f0, Bool.and_assoc]
                · by_cases f4 : a.toNat = 244
                  · simp [f4, Bool.and_assoc]
                  · have hm : 241 ≤ a.toNat ∧ a.toNat ≤ 243 := by omega
                    simp [f0, f4, hm, hE, Bool.and_assoc]
            · simp only [scan, h1, if_false, h2, h3, h4]
              have hE : ¬ ((225 ≤ a.toNat ∧ a.toNat ≤ 236) ∨ (238 ≤ a.toNat ∧ a.toNat ≤ 239)) := by omega
              have hE0 : ¬ a.toNat = 224 := by omega
              have hED : ¬ a.toNat = 237 := by omega
              have hF0 : ¬ a.toNat = 240 := by omega
              have hF4 : ¬ a.toNat = 244 := by omega
              have hF : ¬ (241 ≤ a.toNat ∧ a.toNat ≤ 243) := by omega
              rw [Utf8Rust.valid.eq_def]
              match rest with
              | [] => simp [h1]
              | [b] => simp [h1, inRange_iff, h2]
              | [b, c] => simp [h1, inRange_iff, h2, hE, hE0, hED]
              | b :: c :: d :: r => simp [h1, inRange_iff, h2, hE, hE0, hED, hF0, hF4, hF]

theorem valid_eq (bs : Bytes) : Utf8.valid bs = Utf8Rust.valid bs :=
  agree bs.length bs (Nat.le_refl _) 0

end Utf8Agree
