import TonicModel.Lemmas.ReconnectE2E
import TonicModel.Model.ReconnectAbandon
import TonicModel.Spec.ReconnectAbandon
/-
C14, abandoned calls: the model's run of any script satisfies every clause of the oracle except
the one of finding C14-F1 (`strictName`). A call issued while the attempt of an abandoned call is
in progress is judged as if that attempt were its own (`resumed_call_step`); when the attempt
fails the excepted clause is the one that fails.
-/
namespace Reconnect
open ConnScript

theorem serve_connecting_connects (r : R) (rest : List Ans)
    (he : r.error = none) (hs : r.st = .connecting) :
    serve r (.ok :: .ok :: rest) =
      ({ r with st := .connected r.made, hasBeen := true }, rest, .resp r.made) := by
  simp [serve, drive, driveLoop, step, call, he, hs]

theorem serve_connecting_fails (r : R) (e : Nat) (rest : List Ans)
    (he : r.error = none) (hs : r.st = .connecting) (hl : (r.hasBeen || r.isLazy) = true) :
    serve r (.err e :: rest) = ({ r with st := .idle }, rest, .err e) := by
  simp [serve, drive, driveLoop, step, call, he, hs, hl]

theorem drive_idle_starts (r : R) (he : r.error = none) (hs : r.st = .idle) :
    drive r [.ok] = ({ r with st := .connecting, made := r.made + 1 }, [], .pending) := by
  simp [drive, driveLoop, step, loop, he, hs]

theorem drive_dead_starts (r : R) (c x : Nat) (he : r.error = none) (hs : r.st = .connected c) :
    drive r [.err x, .ok] =
      ({ r with st := .connecting, made := r.made + 1, hasBeen := true }, [], .pending) := by
  simp [drive, driveLoop, step, loop, he, hs]

end Reconnect

namespace Reconnect.Abandon
open ConnScript Reconnect Reconnect.E2E

theorem needsAttempt_eq {r : R} {w : World} (h : Settled r w.alive) :
    needsAttempt r w = w.alive.isNone := by
  rcases h.shape with ⟨hst, hal⟩ | ⟨c, hst, hal | hal⟩ <;> simp [needsAttempt, hst, hal]

theorem drive_starts {r r' : R} {env' : List Ans} {p : Poll} (h : Settled r none)
    (hd : drive r (startAnswers r) = (r', env', p)) :
    r'.st = .connecting ∧ r'.error = none ∧ r'.made = r.made + 1 ∧
      (r'.hasBeen || r'.isLazy) = true := by
  rcases h.shape with ⟨hst, _⟩ | ⟨c, hst, _⟩
  · have ha : startAnswers r = [.ok] := by simp [startAnswers, hst]
    rw [ha, drive_idle_starts r h.err hst] at hd
    cases hd
    exact ⟨rfl, h.err, rfl, h.stored⟩
  · have ha : startAnswers r = [.err 0, .ok] := by simp [startAnswers, hst]
    rw [ha, drive_dead_starts r c 0 h.err hst] at hd
    cases hd
    exact ⟨rfl, h.err, rfl, rfl⟩

open Spec.Reconnect (outcomeAt anyConnects callClauses nextSt liveAfter clauses holds served)
open Spec.ReconnectAbandon

/-- Every clause but the one of finding C14-F1 holds (`holdsButStrict` is this of `clausesA`). -/
def okBut (l : List (String × Bool)) : Bool := l.all fun c => c.1 == strictName || c.2

theorem okBut_append (a b : List (String × Bool)) : okBut (a ++ b) = (okBut a && okBut b) := by
  simp [okBut, List.all_append]

theorem okBut_both {a b : List (String × Bool)} (ha : okBut a = true) (hb : okBut b = true) :
    okBut (a ++ b) = true := by
  rw [okBut_append, ha, hb]
  rfl

theorem okBut_of_all {l : List (String × Bool)} (h : l.all (·.2) = true) : okBut l = true := by
  simp only [okBut, List.all_eq_true, Bool.or_eq_true] at *
  intro c hc
  exact Or.inr (h c hc)

/-- An attempt is in progress whose caller has gone; it is the `s.a`-th and will end as `o`. -/
structure Suspended (outs : List Outcome) (r : R) (w : World) (o : Outcome) (s : ASt) : Prop where
  st : r.st = .connecting
  err : r.error = none
  made : r.made = s.a
  pos : 1 ≤ s.a
  left : w.outcomes = outs.drop s.a
  alive : w.alive = none
  live : s.live = none
  stored : (r.hasBeen || r.isLazy) = true
  outcome : o = outcomeAt outs s.a
  inProgress : s.inProgress = some s.a

def Rel (outs : List Outcome) : AS → ASt → Prop
  | .normal r w, s => Inv outs r w ⟨s.live, s.a⟩ ∧ s.inProgress = none
  | .suspended r w o, s => Suspended outs r w o s

theorem nextSt_eta (s : Spec.Reconnect.St) (res : CallRes) (a' : Nat) :
    nextSt s res a' = ⟨(nextSt s res a').live, a'⟩ := by
  simp [nextSt]

theorem normal_call_step (outs : List Outcome) (r : R) (w : World) (s : ASt)
    (h : Inv outs r w ⟨s.live, s.a⟩) (hp : s.inProgress = none) {r' : R} {env' : List Ans} {res : Res}
    (hs : serve r (answersFor w r) = (r', env', res)) :
    okBut (stepCall outs s (callRes true w res) r'.made) = true ∧
    Rel outs (.normal r' (w.after r r')) (afterCall s (callRes true w res) r'.made) := by
  have hstep := call_step outs r w ⟨s.live, s.a⟩ h hs
  refine ⟨?_, ?_, rfl⟩
  · simp only [stepCall, hp]
    exact okBut_of_all hstep.1
  · have := hstep.2
    rw [nextSt_eta] at this
    exact this

theorem resumed_call_step (outs : List Outcome) (r : R) (w : World) (o : Outcome) (s : ASt)
    (h : Rel outs (.suspended r w o) s) {r' : R} {env' : List Ans} {res : Res}
    (hs : serve r (resumeAnswers r o) = (r', env', res)) :
    okBut (stepCall outs s (callRes true (worldOf o) res) r'.made) = true ∧
    Rel outs (.normal r' { w with alive := if o.connects then some r.made else none })
      (afterCall s (callRes true (worldOf o) res) r'.made) := by
  obtain ⟨hst, herr, hmade, hpos, houts, hal, hlive, hstored, ho, hip⟩ := h
  by_cases hc : o.connects = true
  · have hs' := serve_connecting_connects r [] herr hst
    have hc' : (outcomeAt outs s.a).connects = true := by rw [← ho]; exact hc
    have hk : s.a - 1 + 1 = s.a := by omega
    simp only [resumeAnswers, hc, if_true, hs'] at hs
    cases hs
    rw [if_pos hc]
    refine ⟨?_, ?_⟩
    · -- the call is judged as if the attempt in progress were its own
      have := callClauses_fresh (outs := outs) (s := ⟨none, s.a - 1⟩) .plain rfl (by rw [hk]; exact hc')
      rw [hk] at this
      simp only [stepCall, hip, resumedClauses, callRes, hmade, if_true, errorParts]
      exact okBut_of_all this
    · exact ⟨.of_settled ⟨herr, rfl, .inr ⟨r.made, rfl, .inl rfl⟩⟩ rfl (hmade ▸ houts) rfl, rfl⟩
  · have hcf : o.connects = false := by simpa using hc
    have hs' := serve_connecting_fails r r.made [.ok] herr hst hstored
    have hc' : (outcomeAt outs s.a).connects = false := by rw [← ho]; exact hcf
    have hfix := statusCode_fixed o
    have hnext : (worldOf o).next = o := by simp [worldOf, World.next]
    simp only [resumeAnswers, hcf, Bool.false_eq_true, if_false, hs'] at hs
    cases hs
    rw [if_neg hc]
    refine ⟨?_, ?_⟩
    · simp only [stepCall, hip, resumedClauses, callRes, hmade, if_true, errorParts, errorOf, hnext, hfix]
      -- the excepted clause fails; its companion holds, whatever its name
      have hatt : ((if o = .refuse then some s.a else none) == some s.a ||
          (if o = .refuse then some s.a else none) == none) = true := by split <;> simp
      simp only [okBut, List.all_cons, List.all_nil, beq_self_eq_true, hc', hatt, Bool.not_false,
        Bool.and_self, Bool.or_true, Bool.true_or]
    · exact ⟨.of_settled ⟨herr, hstored, .inl ⟨rfl, rfl⟩⟩ rfl (hmade ▸ houts) rfl, rfl⟩

theorem runA_ok (outs : List Outcome) (st : AS) (ops : List AOp) (s : ASt) (h : Rel outs st s) :
    okBut (evClausesA outs s ops (runA st ops)) = true := by
  fun_induction runA st ops generalizing s with
  | case1 st => cases st <;> rfl
  | case2 r w ops ih => exact ih _ ⟨h.1.die, h.2⟩
  | case3 r w ops r' env' res hs ih | case5 r w ops _ r' env' res hs ih =>
    have hstep := normal_call_step outs r w s h.1 h.2 hs
    exact okBut_both hstep.1 (ih _ hstep.2)
  | case4 r w ops hn r' env' p hd ih =>
    -- no connection is alive: an attempt is started, the request is dropped
    obtain ⟨hinv, hp⟩ := h
    have hal : w.alive = none := by simpa [needsAttempt_eq hinv.settled] using hn
    have hlive : s.live = none := hinv.alive.symm.trans hal
    obtain ⟨d1, d2, d3, d4⟩ := drive_starts (hal ▸ hinv.settled) hd
    rw [hinv.made] at d3
    have hc : okBut (abandonClauses s r'.made) = true := by simp [okBut, abandonClauses, hlive, d3]
    exact okBut_both hc (ih _ ⟨d1, d2, rfl, (show 1 ≤ r'.made by omega),
      by rw [hinv.outs, List.tail_drop, d3], rfl, rfl, d4, by rw [next_eq hinv.outs, d3], rfl⟩)
  | case6 r w o ops ih =>
    exact ih _ ⟨h.st, h.err, h.made, h.pos, h.left, rfl, rfl, h.stored, h.outcome, h.inProgress⟩
  | case7 r w o ops r' env' res hs ih | case8 r w o ops r' env' res hs ih =>
    have hstep := resumed_call_step outs r w o s h hs
    exact okBut_both hstep.1 (ih _ hstep.2)

/-- Building the channel is the plain model's run of the empty script (`run_holds`); the steps
are `runA_ok` from the state the build leaves. -/
theorem run_holdsButStrict (isLazy : Bool) (outs : List Outcome) (ops : List AOp) :
    holdsButStrict isLazy outs ops (run isLazy outs ops) = true := by
  have hplain := okBut_of_all (run_holds isLazy outs [])
  show okBut (clausesA isLazy outs ops (run isLazy outs ops)) = true
  unfold clausesA Abandon.run built
  rw [okBut_append]
  cases isLazy with
  | true =>
    simp only [E2E.run, if_true, E2E.runOps] at hplain ⊢
    rw [hplain]
    exact runA_ok outs _ ops _ ⟨.init outs, rfl⟩
  | false =>
    by_cases hw : ({ outcomes := outs, alive := none } : World).next.connects = true
    · simp only [E2E.run, connectEager_answers, hw, Bool.false_eq_true, if_false, if_true,
        E2E.runOps] at hplain ⊢
      rw [hplain]
      exact runA_ok outs _ ops _ ⟨.eager outs (head_eq_outcomeAt outs ▸ hw), rfl⟩
    · simp only [E2E.run, connectEager_answers, hw, Bool.false_eq_true, if_false] at hplain ⊢
      rw [hplain]
      rfl

end Reconnect.Abandon
