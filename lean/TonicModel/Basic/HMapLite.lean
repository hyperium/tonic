import TonicModel.Basic.Bytes
/-
`HMapLite` — a small ordered-multimap model of `http::HeaderMap` (generic in the value type) and
the plain *data* records of an HTTP request / response / gRPC status that the interceptor model
(C12) and its oracle share.  Only data and the per-key view live here; what tonic *does* with
them is in `Model/`, what the property demands is in `Spec/`.  Core Lean only.

Representation: a list of `(name, value)` entries in insertion order, names already lower-case
(`HeaderName` normalises).  Only the per-key view `getAll k` is observable in any property
(cross-key iteration order of `HeaderMap` is unspecified), so every operation is characterised by
its effect on `getAll` (lemmas below) and the canonical form used on the wire protocol is the
stable sort by name.
-/
namespace HMapLite

abbrev HMap (ν : Type) := List (Bytes × ν)

variable {ν : Type}

/-- ASCII string literal as bytes (kernel-reducible, unlike `String.toUTF8`). -/
def str (s : String) : Bytes := s.toList.map (fun c => UInt8.ofNat c.toNat)

/-- Rewrite with this before evaluating a term that holds literals: the kernel's `String.toList` on
a literal takes time quadratic in its length, afterwards it reads the bytes off the characters. -/
theorem str_lit (cs : List Char) : str (String.ofList cs) = cs.map (fun c => UInt8.ofNat c.toNat) := by
  rw [str, String.toList_ofList]

/-- `HeaderName::from_bytes` lower-cases ASCII letters. -/
def normName (n : Bytes) : Bytes := n.map Ascii.toLower

/-- `HeaderMap::get_all(k)`: the values stored under `k`, in insertion order. -/
def getAll (k : Bytes) (m : HMap ν) : List ν := (m.filter (fun e => e.1 == k)).map (·.2)

/-- `HeaderMap::remove(k)`: drops every value of `k`. -/
def remove (k : Bytes) (m : HMap ν) : HMap ν := m.filter (fun e => !(e.1 == k))

/-- `HeaderMap::insert(k, v)`: replaces all values of `k` by the single value `v`. -/
def insert (k : Bytes) (v : ν) (m : HMap ν) : HMap ν := remove k m ++ [(k, v)]

/-- `HeaderMap::append(k, v)`: adds `v` after the existing values of `k`. -/
def append (k : Bytes) (v : ν) (m : HMap ν) : HMap ν := m ++ [(k, v)]

def keys (m : HMap ν) : List Bytes := m.map (·.1)

def contains (k : Bytes) (m : HMap ν) : Bool := m.any (fun e => e.1 == k)

/-- `HeaderMap::extend(other)` where `other` is another header map's `into_iter()` (which yields
each key's values grouped): a key present in `other` has its values *replaced* by `other`'s, all
other keys are kept. -/
def extend (m o : HMap ν) : HMap ν := m.filter (fun e => !(contains e.1 o)) ++ o

/-- remove a list of names (`into_sanitized_headers` removes a fixed list) -/
def removeAll (ks : List Bytes) (m : HMap ν) : HMap ν := ks.foldl (fun acc k => remove k acc) m

/-! ### canonical form (stable sort by name) -/

def bytesLe : Bytes → Bytes → Bool
  | [], _ => true
  | _ :: _, [] => false
  | a :: as, b :: bs => if a.toNat < b.toNat then true else if b.toNat < a.toNat then false else bytesLe as bs

/-- insert `e` after every element whose name is `≤` its name (keeps insertion order per name) -/
def sortedInsert (e : Bytes × ν) : HMap ν → HMap ν
  | [] => [e]
  | x :: xs => if bytesLe x.1 e.1 then x :: sortedInsert e xs else e :: x :: xs

def canon (m : HMap ν) : HMap ν := m.foldl (fun acc e => sortedInsert e acc) []

theorem getAll_nil (k : Bytes) : getAll k ([] : HMap ν) = [] := rfl

theorem getAll_append_list (k : Bytes) (a b : HMap ν) :
    getAll k (a ++ b) = getAll k a ++ getAll k b := by
  simp [getAll]

theorem getAll_filter_key (k : Bytes) (q : Bytes → Bool) (m : HMap ν) :
    getAll k (m.filter (fun e => q e.1)) = if q k then getAll k m else [] := by
  have : ∀ a : Bytes × ν, ((a.1 == k) && q a.1) = ((a.1 == k) && q k) := by
    intro a
    by_cases h : a.1 = k
    · rw [h]
    · rw [beq_eq_false_iff_ne.mpr h]; rfl
  simp only [getAll, List.filter_filter, this]
  cases q k <;> simp

theorem getAll_remove (k k' : Bytes) (m : HMap ν) :
    getAll k' (remove k m) = if k' = k then [] else getAll k' m := by
  rw [remove, getAll_filter_key k' (fun n => !(n == k))]
  by_cases h : k' = k <;> simp [h]

theorem getAll_single (k k' : Bytes) (v : ν) : getAll k' [(k, v)] = if k' = k then [v] else [] := by
  by_cases h : k' = k
  · simp [getAll, h]
  · simp [getAll, h, Ne.symm h]

theorem getAll_insert (k k' : Bytes) (v : ν) (m : HMap ν) :
    getAll k' (insert k v m) = if k' = k then [v] else getAll k' m := by
  rw [insert, getAll_append_list, getAll_remove, getAll_single]
  split <;> simp

theorem getAll_append (k k' : Bytes) (v : ν) (m : HMap ν) :
    getAll k' (append k v m) = getAll k' m ++ if k' = k then [v] else [] := by
  rw [append, getAll_append_list, getAll_single]

theorem getAll_removeAll (ks : List Bytes) (k : Bytes) (m : HMap ν) :
    getAll k (removeAll ks m) = if k ∈ ks then [] else getAll k m := by
  induction ks generalizing m with
  | nil => rfl
  | cons x xs ih =>
    rw [removeAll, List.foldl_cons, ← removeAll, ih, getAll_remove]
    by_cases hx : k = x <;> simp [hx]

theorem contains_eq_false_iff (k : Bytes) (m : HMap ν) :
    contains k m = false ↔ getAll k m = [] := by
  simp [contains, getAll, List.filter_eq_nil_iff]

theorem getAll_extend (k : Bytes) (m o : HMap ν) :
    getAll k (extend m o) = if contains k o then getAll k o else getAll k m := by
  rw [extend, getAll_append_list, getAll_filter_key k (fun n => !(contains n o))]
  cases hc : contains k o
  · simp [(contains_eq_false_iff k o).mp hc]
  · simp

theorem getAll_extend_of_nil (k : Bytes) (m o : HMap ν) (h : getAll k o = []) :
    getAll k (extend m o) = getAll k m := by
  rw [getAll_extend, (contains_eq_false_iff k o).mpr h]; rfl

theorem getAll_extend_of_nil_left (k : Bytes) (m o : HMap ν) (h : getAll k m = []) :
    getAll k (extend m o) = getAll k o := by
  rw [getAll_extend]
  cases hc : contains k o
  · rw [h, (contains_eq_false_iff k o).mp hc]; rfl
  · rfl

theorem getAll_of_not_mem_keys (k : Bytes) (m : HMap ν) (h : k ∉ keys m) : getAll k m = [] := by
  rw [getAll, List.map_eq_nil_iff, List.filter_eq_nil_iff]
  intro e he hk
  exact h (List.mem_map.mpr ⟨e, he, beq_iff_eq.mp hk⟩)

end HMapLite

/-! ## Plain HTTP / gRPC data records (no behaviour) -/
namespace HttpLite
open HMapLite

/-- a header value: its bytes and `HeaderValue::is_sensitive` -/
abbrev HVal := Bytes × Bool
abbrev Hdrs := HMap HVal
/-- `http::Extensions` restricted to a family of marker types numbered by `Nat`: at most one value
per type id; insertion replaces. -/
abbrev Ext := List (Nat × Bytes)

/-- `http::Request<β>`: method / version / URI are opaque tokens (as rendered by the `http` crate). -/
structure Request (β : Type) where
  method : Bytes
  version : Nat
  uri : Bytes
  headers : Hdrs
  ext : Ext
  body : β
deriving Repr, DecidableEq

/-- `http::Response<ρ>` -/
structure Response (ρ : Type) where
  status : Nat
  version : Nat
  headers : Hdrs
  ext : Ext
  body : ρ
deriving Repr, DecidableEq

/-- `tonic::Status` as data: numeric code 0..16, message bytes (a Rust `String`), opaque details,
custom metadata.  (The `source` error is not observable on the wire and is not modelled.) -/
structure GStatus where
  code : Nat
  message : Bytes
  details : Bytes
  metadata : Hdrs
deriving Repr, DecidableEq

/-- A scripted body: data chunks then optional trailers. -/
structure Body where
  chunks : List Bytes
  trailers : Option Hdrs
deriving Repr, DecidableEq

def Ext.set (id : Nat) (v : Bytes) (x : Ext) : Ext := x.filter (fun e => !(e.1 == id)) ++ [(id, v)]
def Ext.unset (id : Nat) (x : Ext) : Ext := x.filter (fun e => !(e.1 == id))

def Ext.sortedInsert (e : Nat × Bytes) : Ext → Ext
  | [] => [e]
  | x :: xs => if x.1 ≤ e.1 then x :: Ext.sortedInsert e xs else e :: x :: xs
def Ext.canon (x : Ext) : Ext := x.foldl (fun acc e => Ext.sortedInsert e acc) []

end HttpLite
