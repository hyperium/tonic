import TonicModel.Basic.Bytes
/-
Trailer maps as they travel through tonic-web: an `http::HeaderMap` built by `append`ing
(name, value) pairs in order.  `HeaderMap::iter` walks the entries in first-insertion order and,
for each entry, all of its values in insertion order — `group`.  Map equality is per key
(`getAll`).  `Basic/HMap` models the same type but never compares the order between different
names; here that order is what `encode_trailers` puts on the wire.  Also: literal ASCII strings
as byte lists in a form the kernel can evaluate.
Core Lean only.
-/
namespace TMap

abbrev Pair := Bytes × Bytes

/-- ASCII string literal as bytes (reduces under `decide`, unlike `String.toUTF8`). -/
def str (s : String) : Bytes := s.toList.map (fun c => UInt8.ofNat c.toNat)

/-- all values stored under `k`, in order (`HeaderMap::get_all`). -/
def getAll (k : Bytes) (l : List Pair) : List Bytes :=
  (l.filter (fun p => p.1 == k)).map (·.2)

/-- Iteration order of a `HeaderMap` built by appending the pairs of `l` in order
(fuel = length; the recursion is on the fuel so that it stays structural). -/
def groupAux : Nat → List Pair → List Pair
  | 0, _ => []
  | _ + 1, [] => []
  | n + 1, (k, v) :: r =>
    (k, v) :: (r.filter (fun p => p.1 == k)) ++ groupAux n (r.filter (fun p => !(p.1 == k)))

def group (l : List Pair) : List Pair := groupAux l.length l

/-- Rewrite with this before evaluating a term that holds literals: the kernel's `String.toList` on
a literal takes time quadratic in its length, afterwards it reads the bytes off the characters. -/
theorem str_lit (cs : List Char) : str (String.ofList cs) = cs.map (fun c => UInt8.ofNat c.toNat) := by
  rw [str, String.toList_ofList]

theorem getAll_append (k : Bytes) (a b : List Pair) :
    getAll k (a ++ b) = getAll k a ++ getAll k b := by
  simp [getAll]

theorem getAll_cons (k : Bytes) (p : Pair) (t : List Pair) :
    getAll k (p :: t) = (if p.1 == k then [p.2] else []) ++ getAll k t := by
  simp only [getAll, List.filter_cons]; split <;> simp

theorem getAll_filter (q : Bytes → Bool) (k : Bytes) (l : List Pair) :
    getAll k (l.filter (fun p => q p.1)) = if q k then getAll k l else [] := by
  induction l with
  | nil => simp [getAll]
  | cons p t ih =>
    by_cases hp : p.1 = k
    · subst hp; cases hq : q p.1 <;> simp [getAll_cons, hq, ih]
    · have hb : (p.1 == k) = false := by simpa using hp
      cases hq : q p.1 <;> simp [getAll_cons, hq, hb, ih]

theorem getAll_groupAux (k : Bytes) : ∀ (n : Nat) (l : List Pair), l.length ≤ n →
    getAll k (groupAux n l) = getAll k l
  | 0, [], _ => rfl
  | _ + 1, [], _ => rfl
  | n + 1, (k0, v) :: r, h => by
    have hlen : (r.filter (fun p => !(p.1 == k0))).length ≤ n :=
      Nat.le_trans (List.length_filter_le _ r) (Nat.le_of_succ_le_succ h)
    rw [groupAux, getAll_append, getAll_groupAux k n _ hlen, getAll_cons, getAll_cons,
      getAll_filter (· == k0), getAll_filter (fun x => !(x == k0))]
    by_cases hk : k0 = k
    · subst hk; simp
    · simp [hk, Ne.symm hk]

theorem getAll_group (k : Bytes) (l : List Pair) : getAll k (group l) = getAll k l :=
  getAll_groupAux k l.length l (Nat.le_refl _)

theorem mem_iff_getAll (p : Pair) (l : List Pair) : p ∈ l ↔ p.2 ∈ getAll p.1 l := by
  simp only [getAll, List.mem_map, List.mem_filter, beq_iff_eq]
  constructor
  · intro h
    exact ⟨p, ⟨h, rfl⟩, rfl⟩
  · rintro ⟨q, ⟨hq, h1⟩, h2⟩
    exact Prod.ext h1 h2 ▸ hq

theorem group_mem (p : Pair) (l : List Pair) : p ∈ group l ↔ p ∈ l := by
  rw [mem_iff_getAll, getAll_group, ← mem_iff_getAll]

end TMap
