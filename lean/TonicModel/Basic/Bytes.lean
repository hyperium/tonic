/-
Basic byte-string vocabulary shared by every model: `Bytes`, hex text form used by the
line protocol, 32-bit big-endian lengths (with the lemmas on two-digit numbers that the byte codecs
share), ASCII helpers, decimal numerals.  Core Lean only.
-/

abbrev Bytes := List UInt8

namespace Hex

def digit (n : Nat) : Char :=
  if n < 10 then Char.ofNat (48 + n) else Char.ofNat (87 + n)

def val (c : Char) : Option Nat :=
  let n := c.toNat
  if 48 ≤ n ∧ n ≤ 57 then some (n - 48)
  else if 97 ≤ n ∧ n ≤ 102 then some (n - 87)
  else if 65 ≤ n ∧ n ≤ 70 then some (n - 55)
  else none

def encodeChars : Bytes → List Char
  | [] => []
  | b :: bs => digit (b.toNat / 16) :: digit (b.toNat % 16) :: encodeChars bs

/-- Text form of a byte string in the line protocol: `x` followed by hex digits (so the empty
string is the visible token `x`). -/
def encode (b : Bytes) : String := String.ofList ('x' :: encodeChars b)

def decodeChars : List Char → Option Bytes
  | [] => some []
  | [_] => none
  | a :: b :: rest =>
    match val a, val b, decodeChars rest with
    | some x, some y, some r => some (UInt8.ofNat (x * 16 + y) :: r)
    | _, _, _ => none

def decode (s : String) : Option Bytes :=
  match s.toList with
  | 'x' :: cs => decodeChars cs
  | _ => none

end Hex

/-- 4-byte big-endian rendering of a length (only meaningful below 2^32). -/
def u32be (n : Nat) : Bytes :=
  [UInt8.ofNat (n / 16777216 % 256), UInt8.ofNat (n / 65536 % 256),
   UInt8.ofNat (n / 256 % 256), UInt8.ofNat (n % 256)]

def readU32 (a b c d : UInt8) : Nat :=
  a.toNat * 16777216 + b.toNat * 65536 + c.toNat * 256 + d.toNat

/-! Two-digit numbers `q * k + r` with `r < k`; the remainder is `Nat.mul_add_mod_of_lt`. -/

theorem mul_add_div_of_lt {q k r : Nat} (h : r < k) : (q * k + r) / k = q := by
  rw [Nat.mul_comm, Nat.mul_add_div (Nat.zero_lt_of_lt h), Nat.div_eq_of_lt h, Nat.add_zero]

theorem mul_add_lt_mul {q m k r : Nat} (hq : q < m) (hr : r < k) : q * k + r < m * k :=
  calc q * k + r < q * k + k := Nat.add_lt_add_left hr _
    _ = (q + 1) * k := (Nat.succ_mul q k).symm
    _ ≤ m * k := Nat.mul_le_mul_right k hq

/-! In Horner form the four bytes are the base-256 digits of `readU32`, and `u32be` takes them off
one at a time. -/

theorem readU32_eq (a b c d : UInt8) :
    readU32 a b c d = ((a.toNat * 256 + b.toNat) * 256 + c.toNat) * 256 + d.toNat := by
  simp only [readU32, Nat.add_mul, Nat.mul_assoc]

theorem u32be_eq (n : Nat) :
    u32be n = [UInt8.ofNat (n / 256 / 256 / 256 % 256), UInt8.ofNat (n / 256 / 256 % 256),
      UInt8.ofNat (n / 256 % 256), UInt8.ofNat (n % 256)] := by
  simp only [u32be, Nat.div_div_eq_div_mul]

theorem readU32_u32be (n : Nat) (h : n < 4294967296) :
    readU32 (UInt8.ofNat (n / 16777216 % 256)) (UInt8.ofNat (n / 65536 % 256))
      (UInt8.ofNat (n / 256 % 256)) (UInt8.ofNat (n % 256)) = n := by
  have e := u32be_eq n
  rw [u32be, List.cons.injEq, List.cons.injEq] at e
  rw [e.1, e.2.1, readU32_eq]
  simp only [UInt8.toNat_ofNat', Nat.mod_mod, Nat.reducePow]
  have h3 : n / 256 / 256 / 256 < 256 := by omega
  rw [Nat.mod_eq_of_lt h3, Nat.div_add_mod', Nat.div_add_mod', Nat.div_add_mod']

theorem readU32_lt (a b c d : UInt8) : readU32 a b c d < 4294967296 := by
  have := a.toNat_lt; have := b.toNat_lt; have := c.toNat_lt; have := d.toNat_lt
  simp only [readU32]; omega

theorem u32be_readU32 (a b c d : UInt8) : u32be (readU32 a b c d) = [a, b, c, d] := by
  have ha : a.toNat < 256 := a.toNat_lt
  have hb : b.toNat < 256 := b.toNat_lt
  have hc : c.toNat < 256 := c.toNat_lt
  have hd : d.toNat < 256 := d.toNat_lt
  rw [u32be_eq, readU32_eq, mul_add_div_of_lt hd, Nat.mul_add_mod_of_lt hd, mul_add_div_of_lt hc,
    Nat.mul_add_mod_of_lt hc, mul_add_div_of_lt hb, Nat.mul_add_mod_of_lt hb, Nat.mod_eq_of_lt ha]
  simp only [UInt8.ofNat_toNat]

theorem u32be_length (n : Nat) : (u32be n).length = 4 := rfl

namespace Ascii

def isDigit (b : UInt8) : Bool := 48 ≤ b.toNat && b.toNat ≤ 57

/-- `http::HeaderValue::to_str` accepts exactly these bytes. -/
def isVisible (b : UInt8) : Bool := (32 ≤ b.toNat && b.toNat < 127) || b.toNat == 9

def toLower (b : UInt8) : UInt8 :=
  if 65 ≤ b.toNat ∧ b.toNat ≤ 90 then UInt8.ofNat (b.toNat + 32) else b

def ofString (s : String) : Bytes := s.toUTF8.toList

end Ascii

def digitByte (k : Nat) : UInt8 := UInt8.ofNat (48 + k)

def decimalAux : Nat → Nat → Bytes → Bytes
  | 0, _, acc => acc
  | fuel + 1, n, acc =>
    let acc' := digitByte (n % 10) :: acc
    if n / 10 = 0 then acc' else decimalAux fuel (n / 10) acc'

/-- Decimal digits of a natural number, most significant first, as ASCII bytes (`"0"` for 0). -/
def decimal (n : Nat) : Bytes := decimalAux (n + 1) n []

/-- Value of a string of ASCII digits (no validation; callers check `isDigit`). -/
def digitsVal (bs : Bytes) : Nat := bs.foldl (fun acc b => acc * 10 + (b.toNat - 48)) 0
