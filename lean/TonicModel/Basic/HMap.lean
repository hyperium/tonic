import TonicModel.Basic.Bytes
/-
Ordered multimap model of `http::HeaderMap<HeaderValue>`.

A map is the list of its `(name, value)` entries; names are stored normalised (lower-case, as
`HeaderName` does).  For one name the relative order of its entries is the order of its values
(`get_all`); the order *between* different names is not observable through any property and
is never compared (the harness sorts by name).  Operations follow the crate:
  insert  – replace all values of the name by one
  append  – add a value after the existing ones of that name
  remove  – drop all values of the name
  extend  – (from another HeaderMap) every name of `other` replaces that name's values
            here with `other`'s values in order; other names are kept
  get     – first value of the name
Core Lean only.
-/
abbrev HMap := List (Bytes × Bytes)

namespace HMap

/-- an ASCII header name given as a string literal (reduces in the kernel, unlike `toUTF8`) -/
def name (s : String) : Bytes := s.toList.map (fun c => UInt8.ofNat c.toNat)

def getAll (k : Bytes) (m : HMap) : List Bytes :=
  m.filterMap (fun e => if e.1 = k then some e.2 else none)

def get (k : Bytes) (m : HMap) : Option Bytes := (getAll k m).head?

def hasKey (k : Bytes) (m : HMap) : Bool := m.any (fun e => e.1 == k)

def remove (k : Bytes) (m : HMap) : HMap := m.filter (fun e => e.1 != k)

def insert (k v : Bytes) (m : HMap) : HMap := remove k m ++ [(k, v)]

def append (k v : Bytes) (m : HMap) : HMap := m ++ [(k, v)]

def extend (m other : HMap) : HMap := m.filter (fun e => !hasKey e.1 other) ++ other

def removeAll (ks : List Bytes) (m : HMap) : HMap := ks.foldl (fun acc k => remove k acc) m

/-- `HEADER_CHARS` of the `http` crate: token characters, upper case mapped to lower case;
`none` = not allowed in a header name. -/
def headerChar (b : UInt8) : Option UInt8 :=
  let v := b.toNat
  if 65 ≤ v ∧ v ≤ 90 then some (UInt8.ofNat (v + 32))
  else if (97 ≤ v ∧ v ≤ 122) ∨ (48 ≤ v ∧ v ≤ 57) then some b
  else if v = 33 ∨ v = 35 ∨ v = 36 ∨ v = 37 ∨ v = 38 ∨ v = 39 ∨ v = 42 ∨ v = 43 ∨ v = 45
       ∨ v = 46 ∨ v = 94 ∨ v = 95 ∨ v = 96 ∨ v = 124 ∨ v = 126 then some b
  else none

/-- `HeaderName::from_bytes` / the normalisation applied to `&str` lookup keys: `none` when the
string is not a header name (empty, or has a character outside the token set). -/
def normName (s : Bytes) : Option Bytes :=
  if s.isEmpty then none else s.mapM headerChar

/-- `HeaderValue::from_bytes` accepts exactly these bytes. -/
def legalValueByte (b : UInt8) : Bool := (32 ≤ b.toNat && b.toNat != 127) || b.toNat == 9

def legalValue (v : Bytes) : Bool := v.all legalValueByte

/-! ### canonical text form (line protocol): names sorted, values of a name in order -/

def bytesLe : Bytes → Bytes → Bool
  | [], _ => true
  | _ :: _, [] => false
  | a :: as, b :: bs => if a.toNat < b.toNat then true else if b.toNat < a.toNat then false else bytesLe as bs

def keys (m : HMap) : List Bytes := (m.map (·.1)).eraseDups

def sortedKeys (m : HMap) : List Bytes := (keys m).mergeSort bytesLe

/-- tokens: `<#names> (<name> <#values> <value>*)*` with names ascending -/
def render (m : HMap) : List String :=
  let ks := sortedKeys m
  toString ks.length :: ks.flatMap (fun k =>
    let vs := getAll k m
    Hex.encode k :: toString vs.length :: vs.map Hex.encode)

/-- parse `<#entries> (<name> <value>)*` (entries in insertion order, built with `append`);
returns the map and the remaining tokens -/
def parseEntries : Nat → List String → Option (HMap × List String)
  | 0, rest => some ([], rest)
  | n + 1, k :: v :: rest =>
    match Hex.decode k, Hex.decode v, parseEntries n rest with
    | some kb, some vb, some (m, r) => some ((kb, vb) :: m, r)
    | _, _, _ => none
  | _ + 1, _ => none

def parse (toks : List String) : Option (HMap × List String) :=
  match toks with
  | n :: rest => match n.toNat? with
    | some n => parseEntries n rest
    | none => none
  | [] => none

def parseValues : Nat → Bytes → List String → Option (HMap × List String)
  | 0, _, rest => some ([], rest)
  | n + 1, k, v :: rest =>
    match Hex.decode v, parseValues n k rest with
    | some vb, some (m, r) => some ((k, vb) :: m, r)
    | _, _ => none
  | _ + 1, _, [] => none

def parseGroups : Nat → List String → Option (HMap × List String)
  | 0, rest => some ([], rest)
  | g + 1, k :: n :: rest =>
    match Hex.decode k, n.toNat? with
    | some kb, some n =>
      match parseValues n kb rest with
      | some (m1, r1) =>
        match parseGroups g r1 with
        | some (m2, r2) => some (m1 ++ m2, r2)
        | none => none
      | none => none
    | _, _ => none
  | _ + 1, _ => none

/-- parse the canonical (rendered) form back into a map (used for the spec verdict on observed
output) -/
def parseRendered (toks : List String) : Option (HMap × List String) :=
  match toks with
  | g :: rest => match g.toNat? with
    | some g => parseGroups g rest
    | none => none
  | [] => none

/-! ### laws: `getAll` after each operation -/

/-- Rewrite with this before evaluating a term that holds literals: the kernel's `String.toList` on
a literal takes time quadratic in its length, afterwards it reads the bytes off the characters. -/
theorem name_lit (cs : List Char) : name (String.ofList cs) = cs.map (fun c => UInt8.ofNat c.toNat) := by
  rw [name, String.toList_ofList]

theorem getAll_nil (k : Bytes) : getAll k [] = [] := rfl

theorem getAll_cons (k : Bytes) (e : Bytes × Bytes) (m : HMap) :
    getAll k (e :: m) = if e.1 = k then e.2 :: getAll k m else getAll k m := by
  by_cases h : e.1 = k <;> simp [getAll, h]

theorem remove_nil (k : Bytes) : remove k [] = [] := rfl

theorem remove_cons (k : Bytes) (e : Bytes × Bytes) (m : HMap) :
    remove k (e :: m) = if e.1 = k then remove k m else e :: remove k m := by
  by_cases h : e.1 = k <;> simp [remove, h]

theorem getAll_singleton_ne {k k' : Bytes} (h : k ≠ k') (v : Bytes) : getAll k [(k', v)] = [] := by
  rw [getAll_cons, if_neg (fun e : (k', v).1 = k => h e.symm), getAll_nil]

theorem getAll_append_list (k : Bytes) (a b : HMap) : getAll k (a ++ b) = getAll k a ++ getAll k b := by
  simp [getAll, List.filterMap_append]

theorem getAll_filter_key (p : Bytes → Bool) (k : Bytes) (m : HMap) :
    getAll k (m.filter (fun e => p e.1)) = if p k then getAll k m else [] := by
  induction m with
  | nil => simp [getAll_nil]
  | cons e m ih =>
    by_cases h : e.1 = k
    · subst h
      cases hp : p e.1 <;> simp [getAll_cons, hp, ih]
    · cases hp : p e.1 <;> simp [getAll_cons, h, hp, ih]

theorem getAll_remove_self (k : Bytes) (m : HMap) : getAll k (remove k m) = [] :=
  (getAll_filter_key (· != k) k m).trans (by simp)

theorem getAll_remove_ne (k k' : Bytes) (m : HMap) (h : k ≠ k') : getAll k (remove k' m) = getAll k m :=
  (getAll_filter_key (· != k') k m).trans (by simp [h])

theorem getAll_insert (k k' v : Bytes) (m : HMap) :
    getAll k (insert k' v m) = if k = k' then [v] else getAll k m := by
  rw [insert, getAll_append_list, getAll_cons, getAll_nil]
  by_cases h : k = k'
  · rw [h, getAll_remove_self, if_pos rfl, if_pos rfl]; rfl
  · rw [getAll_remove_ne k k' m h, if_neg (fun e : (k', v).1 = k => h e.symm), if_neg h, List.append_nil]

theorem getAll_insert_self (k v : Bytes) (m : HMap) : getAll k (insert k v m) = [v] := by
  rw [getAll_insert, if_pos rfl]

theorem getAll_insert_ne (k k' v : Bytes) (m : HMap) (h : k ≠ k') : getAll k (insert k' v m) = getAll k m := by
  rw [getAll_insert, if_neg h]

theorem getAll_append_self (k v : Bytes) (m : HMap) : getAll k (append k v m) = getAll k m ++ [v] := by
  rw [append, getAll_append_list, getAll_cons, if_pos rfl, getAll_nil]

theorem getAll_append_ne (k k' v : Bytes) (m : HMap) (h : k ≠ k') : getAll k (append k' v m) = getAll k m := by
  have h' : ¬ (k', v).1 = k := fun e => h e.symm
  rw [append, getAll_append_list, getAll_cons, if_neg h', getAll_nil, List.append_nil]

theorem hasKey_nil (k : Bytes) : hasKey k [] = false := rfl

theorem hasKey_cons (k : Bytes) (e : Bytes × Bytes) (m : HMap) :
    hasKey k (e :: m) = (decide (e.1 = k) || hasKey k m) := by
  by_cases h : e.1 = k <;> simp [hasKey, List.any_cons, h]

theorem hasKey_iff (k : Bytes) (m : HMap) : hasKey k m = true ↔ getAll k m ≠ [] := by
  induction m with
  | nil => simp [hasKey_nil, getAll_nil]
  | cons e m ih =>
    rw [hasKey_cons, getAll_cons]
    by_cases h : e.1 = k
    · simp [h]
    · simp [h, ih]

theorem getAll_eq_nil_of_not_hasKey {k : Bytes} {m : HMap} (h : hasKey k m = false) : getAll k m = [] :=
  Decidable.byContradiction fun h3 => by
    rw [(hasKey_iff k m).mpr h3] at h
    cases h

theorem getAll_extend (k : Bytes) (m o : HMap) :
    getAll k (extend m o) = if hasKey k o then getAll k o else getAll k m := by
  rw [extend, getAll_append_list, getAll_filter_key (fun x => !hasKey x o)]
  cases h : hasKey k o
  · simp [getAll_eq_nil_of_not_hasKey h]
  · simp

theorem getAll_extend_of_getAll (k : Bytes) (m o : HMap) :
    getAll k (extend m o) = if getAll k o = [] then getAll k m else getAll k o := by
  rw [getAll_extend]
  cases h : hasKey k o
  · simp [getAll_eq_nil_of_not_hasKey h]
  · simp [(hasKey_iff k o).mp h]

theorem getAll_removeAll (k : Bytes) (ks : List Bytes) (m : HMap) :
    getAll k (removeAll ks m) = if k ∈ ks then [] else getAll k m := by
  induction ks generalizing m with
  | nil => simp [removeAll]
  | cons a ks ih =>
    simp only [removeAll, List.foldl_cons] at ih ⊢
    rw [ih]
    by_cases h1 : k ∈ ks
    · simp [h1]
    · by_cases h2 : k = a
      · subst h2; simp [getAll_remove_self]
      · simp [h1, h2, getAll_remove_ne k a m h2]

theorem mem_getAll {k v : Bytes} {m : HMap} : v ∈ getAll k m ↔ (k, v) ∈ m := by
  induction m with
  | nil => simp [getAll_nil]
  | cons e m ih =>
    rw [getAll_cons]
    by_cases h : e.1 = k
    · subst h; simp [ih, Prod.ext_iff]
    · simp [ih, h, Prod.ext_iff, Ne.symm h]

end HMap
