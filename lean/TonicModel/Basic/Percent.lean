import TonicModel.Basic.Bytes
/-
Percent-encoding as tonic uses it for `grpc-message` (`status.rs`: `percent_encode(msg,
ENCODING_SET)` / `percent_decode(value)`; crate `percent-encoding` 2.3):
  * encode: a byte is written as `%HH` (upper-case hex) iff it is non-ASCII or in the set
    CONTROLS ∪ {space " # % < > ` ? { }}; every other byte is copied.
  * decode: `%` followed by two hex digits (either case) is one byte; a `%` not followed by
    two hex digits is copied literally (never an error).
Core Lean only.
-/
namespace Pct

/-- `ENCODING_SET` of `status.rs` plus the crate's "every non-ASCII byte" rule. -/
def inSet (b : UInt8) : Bool :=
  let v := b.toNat
  v < 32 || v == 127 || 128 ≤ v
  || v == 32 || v == 34 || v == 35 || v == 37 || v == 60 || v == 62 || v == 96
  || v == 63 || v == 123 || v == 125

/-- upper-case hex digit of a nibble -/
def hexUp (n : Nat) : UInt8 := if n < 10 then UInt8.ofNat (48 + n) else UInt8.ofNat (55 + n)

/-- `char::to_digit(16)` on a byte -/
def hexVal (c : UInt8) : Option Nat :=
  let v := c.toNat
  if 48 ≤ v ∧ v ≤ 57 then some (v - 48)
  else if 65 ≤ v ∧ v ≤ 70 then some (v - 55)
  else if 97 ≤ v ∧ v ≤ 102 then some (v - 87)
  else none

def PCT : UInt8 := 37

def encode : Bytes → Bytes
  | [] => []
  | b :: rest =>
    if inSet b then PCT :: hexUp (b.toNat / 16) :: hexUp (b.toNat % 16) :: encode rest
    else b :: encode rest

/-- value of the two bytes after a `%`, if both are hex digits -/
def afterPct : Bytes → Option (UInt8 × Bytes)
  | h :: l :: rest =>
    match hexVal h, hexVal l with
    | some x, some y => some (UInt8.ofNat (x * 16 + y), rest)
    | _, _ => none
  | _ => none

theorem afterPct_length {bs : Bytes} {b : UInt8} {rest : Bytes} (h : afterPct bs = some (b, rest)) :
    rest.length < bs.length := by
  match bs with
  | [] => simp [afterPct] at h
  | [_] => simp [afterPct] at h
  | x :: y :: r =>
    simp only [afterPct] at h
    split at h
    · cases h; simp; omega
    · cases h

def decode (bs : Bytes) : Bytes :=
  match bs with
  | [] => []
  | b :: rest =>
    if b = PCT then
      match h : afterPct rest with
      | some (v, rest') =>
        have : rest'.length < rest.length := afterPct_length h
        v :: decode rest'
      | none => b :: decode rest
    else b :: decode rest
termination_by bs.length
decreasing_by all_goals (first | (simp; done) | (simp; omega))

/-- bytes that may appear on the wire in a `grpc-message` value per gRPC's PROTOCOL-HTTP2
(`Percent-Byte-Unencoded → %x20-%x24 / %x26-%x7E`, plus `%` itself as the escape) -/
def wireByte (b : UInt8) : Bool := 32 ≤ b.toNat && b.toNat ≤ 126

theorem hexUp_visible : ∀ n : Fin 16, 33 ≤ (hexUp n.val).toNat ∧ (hexUp n.val).toNat ≤ 126 := by decide

theorem notInSet_visible : ∀ b : UInt8, inSet b = false → (33 ≤ b.toNat ∧ b.toNat ≤ 126) := by
  intro b h
  simp only [inSet, Bool.or_eq_false_iff, decide_eq_false_iff_not, beq_eq_false_iff_ne] at h
  omega

theorem encode_visible (bs : Bytes) : ∀ b ∈ encode bs, 33 ≤ b.toNat ∧ b.toNat ≤ 126 := by
  induction bs with
  | nil => simp [encode]
  | cons x rest ih =>
    intro b hb
    rw [encode] at hb
    split at hb
    · simp only [List.mem_cons] at hb
      rcases hb with rfl | rfl | rfl | hb
      · decide
      · exact hexUp_visible ⟨_, Nat.div_lt_of_lt_mul x.toNat_lt⟩
      · exact hexUp_visible ⟨_, Nat.mod_lt _ (by decide)⟩
      · exact ih b hb
    · rcases List.mem_cons.mp hb with rfl | hb
      · exact notInSet_visible _ (by simpa using ‹¬ inSet b = true›)
      · exact ih b hb

theorem encode_eq_nil (bs : Bytes) : encode bs = [] ↔ bs = [] := by
  cases bs with
  | nil => simp [encode]
  | cons b r => by_cases h : inSet b = true <;> simp [encode, h]

/-! ### what any conformant peer may write

Other gRPC implementations escape a different set of bytes and may use lower-case hex digits.
`encodeWith esc lower` is the family of all such encoders: it escapes exactly the bytes `esc`
selects.  Decoding recovers the message as long as `%` itself is escaped. -/

def hexLow (n : Nat) : UInt8 := if n < 10 then UInt8.ofNat (48 + n) else UInt8.ofNat (87 + n)

def hexDigit (lower : Bool) (n : Nat) : UInt8 := if lower then hexLow n else hexUp n

def encodeWith (esc : UInt8 → Bool) (lower : Bool) : Bytes → Bytes
  | [] => []
  | b :: rest =>
    if esc b then PCT :: hexDigit lower (b.toNat / 16) :: hexDigit lower (b.toNat % 16) :: encodeWith esc lower rest
    else b :: encodeWith esc lower rest

theorem hexVal_hexDigit (lower : Bool) (n : Nat) (h : n < 16) : hexVal (hexDigit lower n) = some n :=
  (by decide : ∀ (lower : Bool) (n : Fin 16), hexVal (hexDigit lower n.val) = some n.val) lower ⟨n, h⟩

theorem afterPct_encWith (lower : Bool) (b : UInt8) (rest : Bytes) :
    afterPct (hexDigit lower (b.toNat / 16) :: hexDigit lower (b.toNat % 16) :: rest) = some (b, rest) := by
  have hq : b.toNat / 16 < 16 := Nat.div_lt_of_lt_mul b.toNat_lt
  simp only [afterPct, hexVal_hexDigit lower _ hq,
    hexVal_hexDigit lower _ (Nat.mod_lt b.toNat (by decide : 0 < 16)), Nat.div_add_mod', UInt8.ofNat_toNat]

theorem decode_escape {rest rest' : Bytes} {v : UInt8} (h : afterPct rest = some (v, rest')) :
    decode (PCT :: rest) = v :: decode rest' := by
  rw [decode, if_pos rfl]
  split
  next heq => cases h.symm.trans heq; rfl
  next heq => cases h.symm.trans heq

theorem decode_literal {b : UInt8} (hb : b ≠ PCT) (rest : Bytes) : decode (b :: rest) = b :: decode rest := by
  rw [decode, if_neg hb]

theorem decode_encodeWith (esc : UInt8 → Bool) (lower : Bool) (hpct : esc PCT = true) (bs : Bytes) :
    decode (encodeWith esc lower bs) = bs := by
  induction bs with
  | nil => simp [encodeWith, decode]
  | cons b rest ih =>
    rw [encodeWith]
    split
    · rw [decode_escape (afterPct_encWith lower b _), ih]
    · have hne : b ≠ PCT := fun e => ‹¬ esc b = true› (by rw [e]; exact hpct)
      rw [decode_literal hne, ih]

theorem encode_eq_encodeWith (bs : Bytes) : encode bs = encodeWith inSet false bs := by
  induction bs with
  | nil => rfl
  | cons b rest ih => by_cases h : inSet b = true <;> simp [encode, encodeWith, hexDigit, h, ih]

theorem decode_encode (bs : Bytes) : decode (encode bs) = bs := by
  rw [encode_eq_encodeWith]
  exact decode_encodeWith inSet false (by decide) bs

end Pct
