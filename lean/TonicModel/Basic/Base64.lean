import TonicModel.Basic.Bytes
/-
Standard-alphabet base64 as tonic's two engines behave (`util.rs`: STANDARD = padded encode,
STANDARD_NO_PAD = unpadded encode; both decode padding-indifferently and reject non-zero
trailing bits, the `base64` crate's defaults).  Used by status details, binary metadata and
grpc-web text mode.  Core Lean only.
-/
namespace B64

def b64char (n : Nat) : UInt8 :=
  if n < 26 then UInt8.ofNat (65 + n)
  else if n < 52 then UInt8.ofNat (97 + (n - 26))
  else if n < 62 then UInt8.ofNat (48 + (n - 52))
  else if n = 62 then 43 else 47

def b64val (c : UInt8) : Option Nat :=
  let v := c.toNat
  if 65 ≤ v ∧ v ≤ 90 then some (v - 65)
  else if 97 ≤ v ∧ v ≤ 122 then some (v - 97 + 26)
  else if 48 ≤ v ∧ v ≤ 57 then some (v - 48 + 52)
  else if v = 43 then some 62
  else if v = 47 then some 63
  else none

theorem b64val_char' (n : Nat) (h : n < 64) : b64val (b64char n) = some n :=
  (by decide +kernel : ∀ n : Fin 64, b64val (b64char n.val) = some n.val) ⟨n, h⟩

def PAD : UInt8 := 61

theorem b64char_ne_pad (n : Nat) (h : n < 64) : b64char n ≠ PAD :=
  (by decide +kernel : ∀ n : Fin 64, b64char n.val ≠ PAD) ⟨n, h⟩

def encode (pad : Bool) : Bytes → Bytes
  | a :: b :: c :: rest =>
    b64char (a.toNat / 4) :: b64char (a.toNat % 4 * 16 + b.toNat / 16) ::
    b64char (b.toNat % 16 * 4 + c.toNat / 64) :: b64char (c.toNat % 64) :: encode pad rest
  | [a, b] =>
    [b64char (a.toNat / 4), b64char (a.toNat % 4 * 16 + b.toNat / 16), b64char (b.toNat % 16 * 4)]
      ++ (if pad then [PAD] else [])
  | [a] =>
    [b64char (a.toNat / 4), b64char (a.toNat % 4 * 16)] ++ (if pad then [PAD, PAD] else [])
  | [] => []

-- decode: full quanta while more than 4 symbols remain or the last quantum has no padding;
-- tail: 2 or 3 symbols followed by 0..canonical pads; trailing bits must be zero.
def dec2 (c1 c2 : UInt8) : Option Bytes := do
  let v1 ← b64val c1
  let v2 ← b64val c2
  if v2 % 16 = 0 then some [UInt8.ofNat (v1 * 4 + v2 / 16)] else none

def dec3 (c1 c2 c3 : UInt8) : Option Bytes := do
  let v1 ← b64val c1
  let v2 ← b64val c2
  let v3 ← b64val c3
  if v3 % 4 = 0 then some [UInt8.ofNat (v1 * 4 + v2 / 16), UInt8.ofNat (v2 % 16 * 16 + v3 / 4)] else none

def dec4 (c1 c2 c3 c4 : UInt8) : Option Bytes := do
  let v1 ← b64val c1
  let v2 ← b64val c2
  let v3 ← b64val c3
  let v4 ← b64val c4
  some [UInt8.ofNat (v1 * 4 + v2 / 16), UInt8.ofNat (v2 % 16 * 16 + v3 / 4), UInt8.ofNat (v3 % 4 * 64 + v4)]

def decTail : Bytes → Option Bytes
  | [] => some []
  | [c1, c2] => dec2 c1 c2
  | [c1, c2, c3] => if c3 = PAD then dec2 c1 c2 else dec3 c1 c2 c3
  | [c1, c2, c3, c4] =>
    if c4 = PAD then (if c3 = PAD then dec2 c1 c2 else dec3 c1 c2 c3)
    else dec4 c1 c2 c3 c4
  | _ => none

def decode : Bytes → Option Bytes
  | c1 :: c2 :: c3 :: c4 :: c5 :: rest => do
    let h ← dec4 c1 c2 c3 c4
    let t ← decode (c5 :: rest)
    some (h ++ t)
  | l => decTail l

/-! The sextets `encode` writes are below 64 and recombine into the bytes they came from; both are
facts about two-digit numbers (`mul_add_lt_mul`, `mul_add_div_of_lt`, `Nat.mul_add_mod_of_lt`). -/

theorem sextets_lt (a b c : UInt8) :
    a.toNat / 4 < 64 ∧ a.toNat % 4 * 16 + b.toNat / 16 < 64 ∧
    b.toNat % 16 * 4 + c.toNat / 64 < 64 ∧ c.toNat % 64 < 64 :=
  ⟨Nat.div_lt_of_lt_mul a.toNat_lt,
   mul_add_lt_mul (m := 4) (Nat.mod_lt _ (by decide)) (Nat.div_lt_of_lt_mul b.toNat_lt),
   mul_add_lt_mul (m := 16) (Nat.mod_lt _ (by decide)) (Nat.div_lt_of_lt_mul c.toNat_lt),
   Nat.mod_lt _ (by decide)⟩

theorem tail_sextet_lt (a : UInt8) : a.toNat % 16 * 4 < 64 ∧ a.toNat % 4 * 16 < 64 :=
  ⟨mul_add_lt_mul (m := 16) (r := 0) (Nat.mod_lt _ (by decide)) (by decide),
   mul_add_lt_mul (m := 4) (r := 0) (Nat.mod_lt _ (by decide)) (by decide)⟩

theorem dec4_enc (a b c : UInt8) :
    dec4 (b64char (a.toNat / 4)) (b64char (a.toNat % 4 * 16 + b.toNat / 16))
      (b64char (b.toNat % 16 * 4 + c.toNat / 64)) (b64char (c.toNat % 64)) = some [a, b, c] := by
  obtain ⟨h1, h2, h3, h4⟩ := sextets_lt a b c
  have hb : b.toNat / 16 < 16 := Nat.div_lt_of_lt_mul b.toNat_lt
  have hc : c.toNat / 64 < 4 := Nat.div_lt_of_lt_mul c.toNat_lt
  simp only [dec4, b64val_char' _ h1, b64val_char' _ h2, b64val_char' _ h3, b64val_char' _ h4,
    Option.bind_eq_bind, Option.bind_some, mul_add_div_of_lt hb, Nat.mul_add_mod_of_lt hb,
    mul_add_div_of_lt hc, Nat.mul_add_mod_of_lt hc, Nat.div_add_mod', UInt8.ofNat_toNat]

theorem dec3_enc (a b : UInt8) :
    dec3 (b64char (a.toNat / 4)) (b64char (a.toNat % 4 * 16 + b.toNat / 16))
      (b64char (b.toNat % 16 * 4)) = some [a, b] := by
  obtain ⟨h1, h2, _, _⟩ := sextets_lt a b 0
  have hb : b.toNat / 16 < 16 := Nat.div_lt_of_lt_mul b.toNat_lt
  simp only [dec3, b64val_char' _ h1, b64val_char' _ h2, b64val_char' _ (tail_sextet_lt b).1,
    Option.bind_eq_bind, Option.bind_some, Nat.mul_mod_left, if_true, mul_add_div_of_lt hb,
    Nat.mul_add_mod_of_lt hb, Nat.mul_div_cancel _ (by decide : 0 < 4), Nat.div_add_mod',
    UInt8.ofNat_toNat]

theorem dec2_enc (a : UInt8) :
    dec2 (b64char (a.toNat / 4)) (b64char (a.toNat % 4 * 16)) = some [a] := by
  simp only [dec2, b64val_char' _ (sextets_lt a 0 0).1, b64val_char' _ (tail_sextet_lt a).2,
    Option.bind_eq_bind, Option.bind_some, Nat.mul_mod_left, if_true,
    Nat.mul_div_cancel _ (by decide : 0 < 16), Nat.div_add_mod', UInt8.ofNat_toNat]

private theorem quantum_arith (n : Nat) :
    4 * ((n + 3 + 2) / 3) = 4 * ((n + 2) / 3) + 4 ∧ (4 * (n + 3) + 2) / 3 = (4 * n + 2) / 3 + 4 := by
  constructor
  · rw [Nat.add_right_comm, Nat.add_div_right _ (by decide), Nat.mul_add]
  · rw [Nat.mul_add, Nat.add_right_comm, Nat.add_mul_div_right _ _ (by decide)]

theorem length_encode (pad : Bool) (b : Bytes) :
    (encode pad b).length = if pad then 4 * ((b.length + 2) / 3) else (4 * b.length + 2) / 3 := by
  fun_induction encode pad b with
  | case1 a b c rest ih =>
    -- three more bytes are four more symbols, padded or not
    simp only [List.length_cons, ih]
    cases pad
    · exact (quantum_arith rest.length).2.symm
    · exact (quantum_arith rest.length).1.symm
  | case2 a b => cases pad <;> simp
  | case3 a => cases pad <;> simp
  | case4 => cases pad <;> simp

theorem all_encode (P : UInt8 → Bool) (hP : ∀ n, n < 64 → P (b64char n) = true) (hpad : P PAD = true)
    (pad : Bool) (bs : Bytes) : (encode pad bs).all P = true := by
  fun_induction encode pad bs with
  | case1 a b c rest ih =>
    obtain ⟨h1, h2, h3, h4⟩ := sextets_lt a b c
    simp only [List.all_cons, hP _ h1, hP _ h2, hP _ h3, hP _ h4, ih, Bool.and_self]
  | case2 a b =>
    obtain ⟨h1, h2, _, _⟩ := sextets_lt a b 0
    cases pad <;>
      simp [hP _ h1, hP _ h2, hP _ (tail_sextet_lt b).1, hpad]
  | case3 a =>
    cases pad <;>
      simp [hP _ (sextets_lt a 0 0).1, hP _ (tail_sextet_lt a).2, hpad]
  | case4 => rfl

theorem decode_quantum {c1 c2 c3 c4 : UInt8} (h4 : c4 ≠ PAD) (tl : Bytes) :
    decode (c1 :: c2 :: c3 :: c4 :: tl) =
      (dec4 c1 c2 c3 c4).bind fun h => (decode tl).bind fun t => some (h ++ t) := by
  cases tl with
  | nil => simp [decode, decTail, h4]
  | cons => rfl

theorem decode_encode (pad : Bool) (bs : Bytes) : decode (encode pad bs) = some bs := by
  fun_induction encode pad bs with
  | case1 a b c rest ih =>
    rw [decode_quantum (b64char_ne_pad _ (sextets_lt a b c).2.2.2), dec4_enc, ih]
    rfl
  | case2 a b =>
    have h3 : b64char (b.toNat % 16 * 4) ≠ PAD := b64char_ne_pad _ (tail_sextet_lt b).1
    simp only [PAD] at h3
    cases pad <;> simp [decode, decTail, h3, dec3_enc, PAD]
  | case3 a =>
    cases pad <;> simp [decode, decTail, dec2_enc, PAD]
  | case4 => simp [decode, decTail]

end B64
