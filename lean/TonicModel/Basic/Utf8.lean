import TonicModel.Basic.Bytes
/-
UTF-8 validation as Rust's `core::str::from_utf8` performs it (`run_utf8_validation`): the
well-formed byte sequences of Unicode Table 3-7 (no overlong forms, no surrogates, nothing
above U+10FFFF), and on failure the position (`valid_up_to`) and `error_len` that
`Utf8Error`'s `Display` prints; then the textbook encoder and the theorem that the validator accepts
whatever it writes, so that "valid UTF-8" covers every Rust `String`.  Core Lean only.
-/
namespace Utf8

def isCont (b : UInt8) : Bool := 128 ≤ b.toNat && b.toNat ≤ 191

inductive Err
  | invalid (upTo len : Nat)
  | incomplete (upTo : Nat)
deriving DecidableEq, Repr

/-- decoder state between bytes: between characters, or inside one that started at `start`,
of which `seen` bytes have been read, `remaining` are still due, the next one within `lo..hi` -/
inductive State
  | idle
  | inChar (start seen remaining lo hi : Nat)

/-- `none` = valid; otherwise what `Utf8Error` reports (`valid_up_to`, `error_len`).
`i` = index of the head of the list. -/
def scan : Bytes → Nat → State → Option Err
  | [], _, .idle => none
  | [], _, .inChar start _ _ _ _ => some (.incomplete start)
  | b :: rest, i, .idle =>
    let v := b.toNat
    if v < 128 then scan rest (i + 1) .idle
    else if 194 ≤ v ∧ v ≤ 223 then scan rest (i + 1) (.inChar i 1 1 128 191)
    else if 224 ≤ v ∧ v ≤ 239 then
      scan rest (i + 1) (.inChar i 1 2 (if v = 224 then 160 else 128) (if v = 237 then 159 else 191))
    else if 240 ≤ v ∧ v ≤ 244 then
      scan rest (i + 1) (.inChar i 1 3 (if v = 240 then 144 else 128) (if v = 244 then 143 else 191))
    else some (.invalid i 1)
  | b :: rest, i, .inChar start seen remaining lo hi =>
    if lo ≤ b.toNat ∧ b.toNat ≤ hi then
      if remaining ≤ 1 then scan rest (i + 1) .idle
      else scan rest (i + 1) (.inChar start (seen + 1) (remaining - 1) 128 191)
    else some (.invalid start seen)

def validate (bs : Bytes) : Option Err := scan bs 0 .idle

def valid (bs : Bytes) : Bool := (validate bs).isNone

/-- `impl Display for Utf8Error` -/
def Err.text : Err → Bytes
  | .invalid upTo len =>
    Ascii.ofString "invalid utf-8 sequence of " ++ decimal len ++ Ascii.ofString " bytes from index " ++ decimal upTo
  | .incomplete upTo =>
    Ascii.ofString "incomplete utf-8 byte sequence from index " ++ decimal upTo

end Utf8

/-! ### every Unicode string is accepted

The encoder below is the textbook UTF-8 encoding of a scalar value (RFC 3629 §3). -/
namespace Utf8

/-- Unicode scalar values: code points other than surrogates -/
def isScalar (c : Nat) : Bool := c < 55296 || (57344 ≤ c && c < 1114112)

def byteOf (n : Nat) : UInt8 := UInt8.ofNat n

theorem byteOf_toNat (n : Nat) (h : n < 256) : (byteOf n).toNat = n :=
  UInt8.toNat_ofNat_of_lt' h

def encodeScalar (c : Nat) : Bytes :=
  if c < 128 then [byteOf c]
  else if c < 2048 then [byteOf (192 + c / 64), byteOf (128 + c % 64)]
  else if c < 65536 then [byteOf (224 + c / 4096), byteOf (128 + c / 64 % 64), byteOf (128 + c % 64)]
  else [byteOf (240 + c / 262144), byteOf (128 + c / 4096 % 64), byteOf (128 + c / 64 % 64), byteOf (128 + c % 64)]

def encodeString (cs : List Nat) : Bytes := cs.flatMap encodeScalar

/-! The accepting rows of Table 3-7, read off `scan`, for bytes given by their values. -/

theorem scan_ascii {v : Nat} (h : v < 128) (rest : Bytes) (i : Nat) :
    scan (byteOf v :: rest) i .idle = scan rest (i + 1) .idle := by
  rw [scan, byteOf_toNat v (by omega)]
  exact if_pos h

theorem scan_cont {v lo hi : Nat} (hv : lo ≤ v ∧ v ≤ hi) (h : v < 256) (rest : Bytes)
    (i start seen remaining : Nat) :
    scan (byteOf v :: rest) i (.inChar start seen remaining lo hi) =
      if remaining ≤ 1 then scan rest (i + 1) .idle
      else scan rest (i + 1) (.inChar start (seen + 1) (remaining - 1) 128 191) := by
  rw [scan, byteOf_toNat v h, if_pos hv]

theorem scan_two {v0 v1 : Nat} (h0 : 194 ≤ v0 ∧ v0 ≤ 223) (h1 : 128 ≤ v1 ∧ v1 ≤ 191)
    (rest : Bytes) (i : Nat) :
    scan (byteOf v0 :: byteOf v1 :: rest) i .idle = scan rest (i + 1 + 1) .idle := by
  rw [scan, byteOf_toNat v0 (by omega), if_neg (by omega), if_pos h0, scan_cont h1 (by omega)]
  rfl

/-- the bounds on the byte after a lead byte that narrows its range on one side -/
theorem second_byte {a b lo hi v0 v1 : Nat}
    (h : 128 ≤ v1 ∧ v1 ≤ 191 ∧ (v0 = a → lo ≤ v1) ∧ (v0 = b → v1 ≤ hi)) :
    (if v0 = a then lo else 128) ≤ v1 ∧ v1 ≤ (if v0 = b then hi else 191) := by
  constructor
  · split
    · exact h.2.2.1 ‹v0 = a›
    · exact h.1
  · split
    · exact h.2.2.2 ‹v0 = b›
    · exact h.2.1

/-- E0 excludes the overlong second bytes 80..9F, ED the surrogates' A0..BF -/
theorem scan_three {v0 v1 v2 : Nat} (h0 : 224 ≤ v0 ∧ v0 ≤ 239)
    (h1 : 128 ≤ v1 ∧ v1 ≤ 191 ∧ (v0 = 224 → 160 ≤ v1) ∧ (v0 = 237 → v1 ≤ 159))
    (h2 : 128 ≤ v2 ∧ v2 ≤ 191) (rest : Bytes) (i : Nat) :
    scan (byteOf v0 :: byteOf v1 :: byteOf v2 :: rest) i .idle = scan rest (i + 1 + 1 + 1) .idle := by
  rw [scan, byteOf_toNat v0 (by omega), if_neg (by omega), if_neg (by omega), if_pos h0,
    scan_cont (second_byte h1) (by omega), scan_cont h2 (by omega)]
  rfl

/-- F0 excludes the overlong second bytes 80..8F, F4 everything above U+10FFFF -/
theorem scan_four {v0 v1 v2 v3 : Nat} (h0 : 240 ≤ v0 ∧ v0 ≤ 244)
    (h1 : 128 ≤ v1 ∧ v1 ≤ 191 ∧ (v0 = 240 → 144 ≤ v1) ∧ (v0 = 244 → v1 ≤ 143))
    (h2 : 128 ≤ v2 ∧ v2 ≤ 191) (h3 : 128 ≤ v3 ∧ v3 ≤ 191) (rest : Bytes) (i : Nat) :
    scan (byteOf v0 :: byteOf v1 :: byteOf v2 :: byteOf v3 :: rest) i .idle =
      scan rest (i + 1 + 1 + 1 + 1) .idle := by
  rw [scan, byteOf_toNat v0 (by omega), if_neg (by omega), if_neg (by omega), if_neg (by omega),
    if_pos h0, scan_cont (second_byte h1) (by omega), scan_cont h2 (by omega), scan_cont h3 (by omega)]
  rfl

theorem low6_cont (x : Nat) : 128 ≤ 128 + x % 64 ∧ 128 + x % 64 ≤ 191 := by omega

theorem scan_encodeScalar (c : Nat) (hc : isScalar c = true) (rest : Bytes) (i : Nat) :
    ∃ j, scan (encodeScalar c ++ rest) i .idle = scan rest j .idle := by
  simp only [isScalar, Bool.or_eq_true, Bool.and_eq_true, decide_eq_true_eq] at hc
  unfold encodeScalar
  -- each branch writes one of the rows above; the bounds on the first two bytes are where the
  -- scalar's range and the exclusion of surrogates are used
  split
  · exact ⟨_, scan_ascii ‹c < 128› rest i⟩
  split
  · exact ⟨_, scan_two (by omega) (low6_cont c) rest i⟩
  split
  · exact ⟨_, scan_three (by omega) (by omega) (low6_cont c) rest i⟩
  · exact ⟨_, scan_four (by omega) (by omega) (low6_cont _) (low6_cont c) rest i⟩

theorem scan_encodeString (cs : List Nat) (h : ∀ c ∈ cs, isScalar c = true) (i : Nat) :
    scan (encodeString cs) i .idle = none := by
  induction cs generalizing i with
  | nil => simp [encodeString, scan]
  | cons c cs ih =>
    have hc := h c (by simp)
    obtain ⟨j, hj⟩ := scan_encodeScalar c hc (encodeString cs) i
    have : encodeString (c :: cs) = encodeScalar c ++ encodeString cs := by simp [encodeString]
    rw [this, hj]
    exact ih (fun c' hc' => h c' (by simp [hc'])) j

theorem valid_encodeString (cs : List Nat) (h : ∀ c ∈ cs, isScalar c = true) :
    valid (encodeString cs) = true := by
  simp [valid, validate, scan_encodeString cs h 0]

theorem valid_encodeChars (cs : List Char) : valid (encodeString (cs.map Char.toNat)) = true := by
  apply valid_encodeString
  intro c hc
  obtain ⟨ch, _, rfl⟩ := List.mem_map.mp hc
  have := ch.valid
  simp only [Char.toNat, UInt32.isValidChar, Nat.isValidChar] at this ⊢
  simp only [isScalar, Bool.or_eq_true, Bool.and_eq_true, decide_eq_true_eq]
  rcases this with h | ⟨h1, h2⟩
  · left; exact h
  · right; exact ⟨by omega, h2⟩

end Utf8
